import Ivy.L3.WaitSpec
/-!
Proofs for C11 (statements in `Ivy/Props/C11.lean`).  The invariant has four groups, kernel `KInv`, interest set `SInv`,
queues `QInv`, threads `TInv`, each with the lemma that transfers it when the fields it reads agree (`X.congr`) or one
interest is written (`QInv.upd`, `ksq_upd`); the fork and the reap are factored out (`inv_fork`, `kreap`, `step_reapOne`); then
one lemma per action, `step_inv`, reachability, and the facts about the order of delivery.
-/
namespace Ivy.Wait.Proofs
open Ivy.Wait

@[simp] theorem upd_same {α} (f : Nat → α) (k : Nat) (v : α) : upd f k v k = v := by simp [upd]
@[simp] theorem upd_other {α} (f : Nat → α) (k x : Nat) (v : α) (h : x ≠ k) : upd f k v x = f x := by simp [upd, h]
theorem upd_apply {α} (f : Nat → α) (k x : Nat) (v : α) : upd f k v x = if x = k then v else f x := rfl
theorem upd_upd {α} (f : Nat → α) (k : Nat) (a b : α) : upd (upd f k a) k b = upd f k b := by
  funext x; simp only [upd]; split <;> rfl

@[simp] theorem alookup_nil (k : Nat) : alookup [] k = none := rfl
@[simp] theorem alookup_cons (a b k : Nat) (l : List (Nat × Nat)) :
    alookup ((a, b) :: l) k = if a = k then some b else alookup l k := rfl

@[simp] theorem alookup_aremove (l : List (Nat × Nat)) (k k' : Nat) :
    alookup (aremove l k) k' = if k' = k then none else alookup l k' := by
  induction l with
  | nil => simp [aremove]
  | cons e r ih =>
    obtain ⟨a, b⟩ := e
    unfold aremove at ih ⊢
    simp only [List.filter_cons]
    by_cases hak : a = k <;> by_cases hk : k' = k <;> by_cases h2 : a = k' <;> simp_all

theorem alookup_ite (b : Bool) (l₁ l₂ : List (Nat × Nat)) (k : Nat) :
    alookup (if b then l₁ else l₂) k = if b then alookup l₁ k else alookup l₂ k := by
  cases b <;> rfl

theorem noDead_nil : noDead [] := by intro st h; simp at h
theorem noDead_append {a b : List Status} : noDead (a ++ b) ↔ noDead a ∧ noDead b := by
  simp [noDead, List.mem_append]; constructor
  · intro h; exact ⟨fun st hs => h st (Or.inl hs), fun st hs => h st (Or.inr hs)⟩
  · rintro ⟨h1, h2⟩ st (hs | hs); exact h1 st hs; exact h2 st hs

theorem noDead_single {st : Status} : noDead [st] ↔ st.dead = false := by simp [noDead]

theorem noDead_of_any {l : List Status} (h : l.any Status.dead = false) : noDead l := by
  intro st hs
  cases hd : st.dead with
  | false => rfl
  | true => have : l.any Status.dead = true := List.any_eq_true.mpr ⟨st, hs, hd⟩; simp [h] at this

theorem noDead_dropLast_of_prefix {a b : List Status} (hp : a <+: b) (hb : noDead b.dropLast) : noDead a.dropLast := by
  obtain ⟨r, rfl⟩ := hp
  cases r with
  | nil => simpa using hb
  | cons x xs =>
    rw [List.dropLast_append_of_ne_nil (by simp)] at hb
    intro st hs
    exact hb st (List.mem_append_left _ (List.dropLast_subset _ hs))

/-- the `match` of `infl`, as a function of the owner's thread alone -/
def inflOf (th : Thread) (w : Wid) : List Status :=
  match th.comp with
  | .draining w' l => if w' = w ∧ th.handled = some w then l else []
  | _ => []

theorem infl_def (s : State) (w : Wid) : infl s w = inflOf (s.thr (s.ints w).owner) w := rfl

theorem inflOf_draining {th : Thread} {w w' : Wid} {l : List Status} (hc : th.comp = .draining w' l) :
    inflOf th w = if w' = w ∧ th.handled = some w then l else [] := by
  simp only [inflOf, hc]

theorem inflOf_idle {th : Thread} (w : Wid) (hc : th.comp = .idle) : inflOf th w = [] := by
  simp only [inflOf, hc]

theorem inflOf_started {th : Thread} (w : Wid) {w' : Wid} (hc : th.comp = .started w') : inflOf th w = [] := by
  simp only [inflOf, hc]

-- `grind` reads `inflOf` through these equations: unfolding it makes it split on the `match` for every thread in sight
local grind_pattern inflOf_draining => inflOf th w, Comp.draining w' l
local grind_pattern inflOf_idle => inflOf th w, Comp.idle
local grind_pattern inflOf_started => inflOf th w, Comp.started w'

theorem init_inv : Inv State.init := by
  refine ⟨?_, ?_, ?_, ?_⟩ <;> constructor <;> simp [State.init, reapedOf, infl, noDead]

theorem KInv.congr {s s' : State} (h : KInv s) (e1 : s'.procs = s.procs) (e2 : s'.hist = s.hist)
    (e3 : s'.nreaped = s.nreaped) (e4 : s'.ncid = s.ncid) : KInv s' := by
  constructor <;> simp only [reapedOf, e1, e2, e3, e4]
  · exact h.cid_lt
  · exact h.cid_inj
  · exact h.reaped_le
  · exact h.fresh
  · exact h.live_undead
  · exact h.term_last

theorem SInv.congr {s s' : State} (h : SInv s) (e1 : s'.set = s.set) (e2 : s'.procs = s.procs) (e3 : s'.ncid = s.ncid)
    (ei : ∀ w, (s'.ints w).reg = (s.ints w).reg ∧ (s'.ints w).pid = (s.ints w).pid ∧ (s'.ints w).dead = (s.ints w).dead ∧
      (s'.ints w).cid = (s.ints w).cid) : SInv s' := by
  constructor
  · intro p w; simp only [e1, e2, ei w]; exact h.set_sound p w
  · intro w; simp only [e1, ei w]; exact h.set_complete w
  · intro w p; simp only [e2, ei w]; exact h.dead_gone w p
  · intro w; simp only [e3, ei w]; exact h.int_cid_lt w

theorem QInv.congr {s s' : State} (h : QInv s) (e1 : s'.hist = s.hist) (e2 : s'.nreaped = s.nreaped)
    (ei : ∀ w, (s'.ints w).reg = (s.ints w).reg ∧ (s'.ints w).base = (s.ints w).base ∧ (s'.ints w).cid = (s.ints w).cid ∧
      (s'.ints w).queued = (s.ints w).queued ∧ (s'.ints w).dead = (s.ints w).dead ∧ (s'.ints w).spawned = (s.ints w).spawned) :
    QInv s' := by
  constructor
  · intro w; simp only [e2, ei w]; exact h.base_le w
  · intro w; simp only [reapedOf, e1, e2, ei w]; exact h.routed w
  · intro w; simp only [ei w]; exact h.undead_q w
  · intro w; simp only [ei w]; exact h.dead_q w
  · intro w; simp only [ei w]; exact h.spawn_base w

theorem QInv.upd {s s' : State} (h : QInv s) {w : Wid} {i : Interest} (ei : s'.ints = upd s.ints w i)
    (eh : s'.hist = s.hist)
    (en : ∀ x, x ≠ w → (s.ints x).reg = true → s'.nreaped (s.ints x).cid = s.nreaped (s.ints x).cid)
    (hi : i.reg = true → i.base ≤ s'.nreaped i.cid ∧ i.queued = (reapedOf s' i.cid).drop i.base ∧
      (i.dead = false → noDead i.queued) ∧ (i.dead = true → ∃ q d, i.queued = q ++ [d] ∧ d.dead = true ∧ noDead q) ∧
      (i.spawned = true → i.base = 0)) : QInv s' := by
  have key : ∀ x, (s'.ints x).reg = true → (x = w ∧ s'.ints x = i) ∨
      (s'.ints x = s.ints x ∧ s'.nreaped (s.ints x).cid = s.nreaped (s.ints x).cid) := by
    intro x hr
    rw [ei, upd_apply] at hr ⊢
    split
    · exact .inl ⟨‹_›, rfl⟩
    · rw [if_neg ‹_›] at hr; exact .inr ⟨rfl, en x ‹_› hr⟩
  constructor <;> intro x hr <;> rcases key x hr with ⟨-, e⟩ | ⟨e, en⟩ <;> rw [e] at hr ⊢
  · exact (hi hr).1
  · rw [en]; exact h.base_le x hr
  · exact (hi hr).2.1
  · rw [reapedOf, eh, en]; exact h.routed x hr
  · exact (hi hr).2.2.1
  · exact h.undead_q x hr
  · exact (hi hr).2.2.2.1
  · exact h.dead_q x hr
  · exact (hi hr).2.2.2.2
  · exact h.spawn_base x hr

theorem TInv.congr {s s' : State} (h : TInv s) (e1 : s'.ints = s.ints) (e2 : s'.thr = s.thr) (e3 : s'.posting = s.posting)
    (e4 : ∀ w, s'.posting = some w → s'.lock.isSome = true) : TInv s' := by
  constructor
  · simp only [infl, e1, e2]; exact h.split
  · simp only [e1, e2, e3]; exact h.owed_ok
  · simp only [e1, e2]; exact h.started_ok
  · simp only [e1, e2]; exact h.handled_ok
  · exact e4

theorem kinv_fork {s : State} (h : KInv s) (pid : Pid) : KInv (kfork s pid) := by
  constructor <;> simp only [kfork, reapedOf, alookup_cons]
  · intro p c; have := h.cid_lt p c; grind
  · intro p p' c; have := h.cid_inj p p' c; have := h.cid_lt p c; have := h.cid_lt p' c; grind
  · exact h.reaped_le
  · intro c hc; exact h.fresh c (by omega)
  · intro p c; split
    · intro e; rw [← Option.some.inj e, (h.fresh s.ncid (Nat.le_refl _)).2]; exact noDead_nil
    · exact h.live_undead p c
  · exact h.term_last

theorem sinv_fork {s : State} (h : SInv s) (pid : Pid) (hp : alookup s.procs pid = none) : SInv (kfork s pid) := by
  constructor <;> simp only [kfork, alookup_cons]
  · intro p w hw; have := h.set_sound p w hw; grind
  · exact h.set_complete
  · intro w p hr hd; have := h.dead_gone w p hr hd; have := h.int_cid_lt w hr; grind
  · intro w hr; exact Nat.lt_succ_of_lt (h.int_cid_lt w hr)

theorem inv_fork {s : State} (h : Inv s) (pid : Pid) (hp : alookup s.procs pid = none) : Inv (kfork s pid) :=
  ⟨kinv_fork h.k pid, sinv_fork h.s pid hp, QInv.congr h.q rfl rfl (fun _ => ⟨rfl, rfl, rfl, rfl, rfl, rfl⟩),
   TInv.congr h.t rfl rfl rfl h.t.posting_ok⟩

theorem inv_childChange {s s' : State} {pid : Pid} {st : Status} (h : Inv s)
    (hs : step s (.childChange pid st) = some s') : Inv s' := by
  simp only [step] at hs
  split at hs <;> simp only [Option.ite_none_left_eq_some, Option.some.injEq, reduceCtorEq] at hs
  rename_i c hc
  obtain ⟨hd, rfl⟩ := hs
  have hd : (s.hist c).any Status.dead = false := by simpa using hd
  have hk := h.k
  have hle := hk.reaped_le c
  refine ⟨?_, ?_, ?_, ?_⟩
  · constructor <;> simp only [reapedOf]
    · exact hk.cid_lt
    · exact hk.cid_inj
    · intro c'; simp only [upd_apply]; split
      · subst c'; simp; omega
      · exact hk.reaped_le c'
    · intro c' hc'
      have := hk.cid_lt pid c hc
      have hne : c' ≠ c := by omega
      simp only [upd_other _ _ _ _ hne]; exact hk.fresh c' hc'
    · intro p c' hp; simp only [upd_apply]; split
      · subst c'; rw [List.take_append_of_le_length hle]; exact hk.live_undead p c hp
      · exact hk.live_undead p c' hp
    · intro c'; simp only [upd_apply]; split
      · subst c'; simp; exact noDead_of_any hd
      · exact hk.term_last c'
  · exact SInv.congr h.s rfl rfl rfl (fun _ => ⟨rfl, rfl, rfl, rfl⟩)
  · have hq := h.q
    constructor
    · exact hq.base_le
    · intro w hr; simp only [reapedOf, upd_apply]; split
      · rename_i e; rw [e, List.take_append_of_le_length hle]; have := hq.routed w hr; simp only [reapedOf, e] at this; exact this
      · exact hq.routed w hr
    · exact hq.undead_q
    · exact hq.dead_q
    · exact hq.spawn_base
  · exact TInv.congr h.t rfl rfl rfl h.t.posting_ok

/-- the three groups that do not look at `thr`, `lock`, `posting`, `pending`, `got`, `owed` -/
theorem ksq_congr {s s' : State} (h : Inv s) (e1 : s'.procs = s.procs) (e2 : s'.hist = s.hist) (e3 : s'.nreaped = s.nreaped)
    (e4 : s'.ncid = s.ncid) (e5 : s'.set = s.set)
    (ei : ∀ w, (s'.ints w).reg = (s.ints w).reg ∧ (s'.ints w).pid = (s.ints w).pid ∧ (s'.ints w).dead = (s.ints w).dead ∧
      (s'.ints w).cid = (s.ints w).cid ∧ (s'.ints w).base = (s.ints w).base ∧ (s'.ints w).queued = (s.ints w).queued ∧
      (s'.ints w).spawned = (s.ints w).spawned) (ht : TInv s') : Inv s' :=
  ⟨KInv.congr h.k e1 e2 e3 e4,
   SInv.congr h.s e5 e1 e4 (fun w => ⟨(ei w).1, (ei w).2.1, (ei w).2.2.1, (ei w).2.2.2.1⟩),
   QInv.congr h.q e2 e3 (fun w => ⟨(ei w).1, (ei w).2.2.2.2.1, (ei w).2.2.2.1, (ei w).2.2.2.2.2.1, (ei w).2.2.1, (ei w).2.2.2.2.2.2⟩),
   ht⟩

theorem ksq_upd {s s' : State} (h : Inv s) (e1 : s'.procs = s.procs) (e2 : s'.hist = s.hist) (e3 : s'.nreaped = s.nreaped)
    (e4 : s'.ncid = s.ncid) (e5 : s'.set = s.set) {w : Wid} {i : Interest} (ei : s'.ints = upd s.ints w i)
    (hi : i.reg = (s.ints w).reg ∧ i.pid = (s.ints w).pid ∧ i.dead = (s.ints w).dead ∧ i.cid = (s.ints w).cid ∧
      i.base = (s.ints w).base ∧ i.queued = (s.ints w).queued ∧ i.spawned = (s.ints w).spawned) (ht : TInv s') : Inv s' := by
  refine ksq_congr h e1 e2 e3 e4 e5 (fun x => ?_) ht
  rw [ei, upd_apply]
  split
  · rename_i hx; rw [hx]; exact hi
  · exact ⟨rfl, rfl, rfl, rfl, rfl, rfl, rfl⟩

theorem inv_lock {s : State} (h : Inv s) (l : Option Tid) (k : List (Pid × Nat))
    (hp : ∀ w, s.posting = some w → l.isSome = true) : Inv { s with lock := l, kills := k } :=
  ksq_congr h rfl rfl rfl rfl rfl (fun _ => ⟨rfl, rfl, rfl, rfl, rfl, rfl, rfl⟩) (TInv.congr h.t rfl rfl rfl hp)

theorem inv_reapPost {s s' : State} {t : Tid} (h : Inv s) (hs : step s (.reapPost t) = some s') : Inv s' := by
  simp only [step, Option.ite_none_left_eq_some] at hs
  split at hs <;> simp only [Option.some.injEq, reduceCtorEq, and_false] at hs
  rename_i w hp
  obtain ⟨-, rfl⟩ := hs
  refine ksq_upd h rfl rfl rfl rfl rfl rfl ⟨rfl, rfl, rfl, rfl, rfl, rfl, rfl⟩ ?_
  · constructor
    · intro x; have := h.t.split x; simp only [infl_def, upd_apply] at *; split <;> simp_all
    · intro x; have := h.t.owed_ok x; simp only [upd_apply]; grind
    · intro t x; have := h.t.started_ok t x; simp only [upd_apply] at *; split <;> simp_all
    · intro t x; have := h.t.handled_ok t x; simp only [upd_apply] at *; split <;> simp_all
    · simp

theorem inv_complStart {s s' : State} {t : Tid} {w : Wid} (h : Inv s) (hs : step s (.complStart t w) = some s') :
    Inv s' := by
  simp only [step] at hs
  split at hs <;> simp only [Option.ite_some_none_eq_some, reduceCtorEq] at hs
  rename_i hc
  obtain ⟨hg, rfl⟩ := hs
  simp only [Bool.and_eq_true, decide_eq_true_eq] at hg
  obtain ⟨⟨hr, -⟩, ho⟩ := hg
  refine ksq_upd h rfl rfl rfl rfl rfl rfl ⟨rfl, rfl, rfl, rfl, rfl, rfl, rfl⟩ ?_
  · constructor
    · intro x; have := h.t.split x; simp only [infl_def, upd_apply] at *; grind
    · intro x; have := h.t.owed_ok x; simp only [upd_apply] at *; grind
    · intro t' x; have := h.t.started_ok t' x; simp only [upd_apply] at *; grind
    · intro t' x; have := h.t.handled_ok t' x; simp only [upd_apply] at *; grind
    · exact h.t.posting_ok


theorem inv_steal {s s' : State} {t : Tid} (h : Inv s) (hs : step s (.steal t) = some s') : Inv s' := by
  simp only [step, Option.ite_none_left_eq_some] at hs
  split at hs <;> simp only [Option.some.injEq, reduceCtorEq, and_false] at hs
  rename_i w hc
  obtain ⟨-, rfl⟩ := hs
  have hw := h.t.started_ok t w hc
  refine ksq_upd h rfl rfl rfl rfl rfl rfl ⟨rfl, rfl, rfl, rfl, rfl, rfl, rfl⟩ ?_
  · constructor
    · intro x; have := h.t.split x; have := h.t.split w; simp only [infl_def, upd_apply] at *; grind
    · intro x; have := h.t.owed_ok x; have := h.t.posting_ok x; simp only [upd_apply] at *; grind
    · intro t' x; have := h.t.started_ok t' x; simp only [upd_apply] at *; grind
    · intro t' x; have := h.t.handled_ok t' x; simp only [upd_apply] at *; grind
    · exact h.t.posting_ok

/-- `deliver t` calls `w`'s handler with `st`: `t` drains a batch for `w` starting with `st` and still handles an interest -/
theorem deliverCall_eq_some {s : State} {t : Tid} {w : Wid} {st : Status} :
    deliverCall s t = some (w, st) ↔
      (∃ rest, (s.thr t).comp = .draining w (st :: rest)) ∧ (s.thr t).handled.isSome = true := by
  unfold deliverCall
  split
  · rename_i w' st' rest hc
    cases (s.thr t).handled <;> simp [hc, and_comm]
  · rename_i hn
    simp only [reduceCtorEq, false_iff, not_and]
    rintro ⟨rest, hc⟩; exact absurd hc (hn w st rest)

theorem inv_deliver {s s' : State} {t : Tid} (h : Inv s) (hs : step s (.deliver t) = some s') : Inv s' := by
  simp only [step] at hs
  split at hs <;> try cases hs
  rename_i w st rest hc
  split at hs <;> cases hs
  · rename_i hh
    obtain ⟨w', hw'⟩ := Option.isSome_iff_exists.mp hh
    have hw := h.t.handled_ok t w' hw'
    have e : w' = w := by grind
    subst e
    refine ksq_upd h rfl rfl rfl rfl rfl rfl ⟨rfl, rfl, rfl, rfl, rfl, rfl, rfl⟩ ?_
    constructor
    · intro x; have := h.t.split x; simp only [infl_def, upd_apply] at *; grind
    · intro x; have := h.t.owed_ok x; simp only [upd_apply] at *; grind
    · intro t' x; have := h.t.started_ok t' x; simp only [upd_apply] at *; grind
    · intro t' x; have := h.t.handled_ok t' x; simp only [upd_apply] at *; grind
    · exact h.t.posting_ok
  · rename_i hh
    have hn : (s.thr t).handled = none := by simpa using hh
    refine ksq_congr h rfl rfl rfl rfl rfl (fun _ => ⟨rfl, rfl, rfl, rfl, rfl, rfl, rfl⟩) ?_
    constructor
    · intro x; have := h.t.split x; simp only [infl_def, upd_apply] at *; grind
    · intro x; have := h.t.owed_ok x; simp only [upd_apply] at *; grind
    · intro t' x; have := h.t.started_ok t' x; simp only [upd_apply] at *; grind
    · intro t' x; have := h.t.handled_ok t' x; simp only [upd_apply] at *; grind
    · exact h.t.posting_ok

theorem inv_complEnd {s s' : State} {t : Tid} (h : Inv s) (hs : step s (.complEnd t) = some s') : Inv s' := by
  simp only [step] at hs
  split at hs <;> cases hs
  rename_i w hc
  refine ksq_congr h rfl rfl rfl rfl rfl (fun _ => ⟨rfl, rfl, rfl, rfl, rfl, rfl, rfl⟩) ?_
  constructor
  · intro x; have := h.t.split x; simp only [infl_def, upd_apply] at *; grind
  · intro x; have := h.t.owed_ok x; simp only [upd_apply] at *; grind
  · intro t' x; have := h.t.started_ok t' x; simp only [upd_apply] at *; grind
  · intro t' x; have := h.t.handled_ok t' x; simp only [upd_apply] at *; grind
  · exact h.t.posting_ok

theorem inv_register {s : State} (h : Inv s) (t : Tid) (w : Wid) (pid : Pid) (c : Cid) (sp : Bool)
    (hr : (s.ints w).reg = false) (hc : alookup s.procs pid = some c) (hs : alookup s.set pid = none)
    (hsp : sp = true → s.nreaped c = 0) :
    Inv { s with set := (pid, w) :: s.set,
                 ints := upd s.ints w { reg := true, owner := t, pid := pid, pending := [], dead := false, owed := false,
                                        cid := c, base := s.nreaped c, spawned := sp, queued := [], got := [] } } := by
  have hk := h.k
  refine ⟨KInv.congr hk rfl rfl rfl rfl, ?_, ?_, ?_⟩
  · have := hk.cid_lt pid c hc
    constructor
    · intro p x; have := h.s.set_sound p x; simp only [alookup_cons, upd_apply]; grind
    · intro x; have := h.s.set_complete x; simp only [alookup_cons, upd_apply]; grind
    · intro x p; have := h.s.dead_gone x p; simp only [upd_apply]; grind
    · intro x; have := h.s.int_cid_lt x; simp only [upd_apply]; grind
  · exact QInv.upd h.q rfl rfl (fun _ _ _ => rfl)
      (fun _ => ⟨Nat.le_refl _, by simp [reapedOf], fun _ => noDead_nil, nofun, hsp⟩)
  · constructor
    · intro x; have := h.t.split x; have := h.t.handled_ok t w; simp only [infl_def, upd_apply] at *; grind [inflOf]
    · intro x; have := h.t.owed_ok x; simp only [upd_apply] at *; grind
    · intro t' x; have := h.t.started_ok t' x; simp only [upd_apply] at *; grind
    · intro t' x; have := h.t.handled_ok t' x; simp only [upd_apply] at *; grind
    · exact h.t.posting_ok


/-- `iv_wait_interest_register_spawn` is the fork and the registration in one step -/
theorem inv_registerSpawn {s : State} (h : Inv s) (t : Tid) (w : Wid) (pid : Pid)
    (hr : (s.ints w).reg = false) (hc : alookup s.procs pid = none) :
    Inv { kfork s pid with
            set := (pid, w) :: (kfork s pid).set,
            ints := upd (kfork s pid).ints w { reg := true, owner := t, pid := pid, pending := [], dead := false, owed := false,
                                               cid := s.ncid, base := 0, spawned := true, queued := [], got := [] } } := by
  have hf := (h.k.fresh s.ncid (Nat.le_refl _)).2
  have hs : alookup s.set pid = none := by
    cases hw : alookup s.set pid with
    | none => rfl
    | some x => have := (h.s.set_sound pid x hw).2.2.2; rw [hc] at this; cases this
  have := inv_register (inv_fork h pid hc) t w pid s.ncid true hr (by simp [kfork]) hs (fun _ => hf)
  rwa [show (kfork s pid).nreaped s.ncid = 0 from hf] at this

theorem inv_unregister {s s' : State} {t : Tid} {w : Wid} (h : Inv s) (hs : step s (.unregister t w) = some s') :
    Inv s' := by
  simp only [step, Option.ite_none_left_eq_some, Option.some.injEq] at hs
  obtain ⟨hg, rfl⟩ := hs
  simp only [Bool.or_eq_true, not_or, decide_eq_true_eq, Bool.not_eq_true', Bool.not_eq_false] at hg
  obtain ⟨⟨⟨-, hb⟩, hr⟩, ho⟩ := hg
  have ho : (s.ints w).owner = t := by simpa using ho
  refine ⟨KInv.congr h.k rfl rfl rfl rfl, ?_, ?_, ?_⟩
  · constructor
    · intro p x; have := h.s.set_sound p x; have := h.s.set_sound p w; have := h.s.set_complete w
      simp only [alookup_ite, alookup_aremove, upd_apply]; grind
    · intro x; have := h.s.set_complete x; have := h.s.set_complete w
      simp only [alookup_ite, alookup_aremove, upd_apply]; grind
    · intro x p; have := h.s.dead_gone x p; simp only [upd_apply]; grind
    · intro x; have := h.s.int_cid_lt x; simp only [upd_apply]; grind
  · exact QInv.upd h.q rfl rfl (fun _ _ _ => rfl) nofun
  · simp only [busy] at hb
    constructor
    · intro x hx
      have hxw : x ≠ w := by rintro rfl; simp at hx
      simp only [upd_other _ _ _ _ hxw] at hx ⊢
      rw [h.t.split x hx]
      congr 2
      have := h.t.handled_ok t x
      simp only [infl_def, upd_apply]
      grind [inflOf]
    · intro x; have := h.t.owed_ok x; simp only [upd_apply] at *; grind
    · intro t' x; have := h.t.started_ok t' x; simp only [upd_apply] at *; grind
    · intro t' x; have := h.t.handled_ok t' x; simp only [upd_apply] at *; grind
    · exact h.t.posting_ok

theorem reapLib_none {s : State} {pid : Pid} {st : Status} (h : alookup s.set pid = none) : reapLib s pid st = s := by
  simp [reapLib, h]

theorem reapLib_some {s : State} {pid : Pid} {st : Status} {w : Wid} (h : alookup s.set pid = some w) :
    reapLib s pid st =
      { s with set := if st.dead then aremove s.set pid else s.set,
               ints := upd s.ints w { s.ints w with pending := (s.ints w).pending ++ [st], queued := (s.ints w).queued ++ [st],
                                                    dead := if st.dead then true else (s.ints w).dead },
               posting := some w } := by
  cases hd : st.dead <;> simp [reapLib, h, hd, upd_upd]

theorem set_of_cid {s : State} (h : Inv s) {pid : Pid} {c : Cid} {x : Wid} (hc : alookup s.procs pid = some c)
    (hr : (s.ints x).reg = true) (he : (s.ints x).cid = c) : alookup s.set pid = some x := by
  cases hd : (s.ints x).dead with
  | true => exact absurd (he ▸ hc) (h.s.dead_gone x pid hr hd)
  | false =>
    have h1 := h.s.set_complete x hr hd
    have h2 := (h.s.set_sound _ _ h1).2.2.2
    have : (s.ints x).pid = pid := h.k.cid_inj _ _ c (he ▸ h2) hc
    rw [← this]; exact h1

theorem take_succ_get {l : List Status} {n : Nat} {st : Status} (h : l[n]? = some st) : l.take (n + 1) = l.take n ++ [st] := by
  rw [List.take_add_one, h]; rfl

/-- the `k` of `step`'s `reapOne` branch, the kernel half of a reap: the status is consumed, a terminal one frees
the pid -/
def kreap (s : State) (pid : Pid) (c : Cid) (st : Status) : State :=
  { s with nreaped := upd s.nreaped c (s.nreaped c + 1), procs := if st.dead then aremove s.procs pid else s.procs }

theorem kinv_kreap {s : State} (h : KInv s) {pid : Pid} {c : Cid} {st : Status} (hc : alookup s.procs pid = some c)
    (hg : (s.hist c)[s.nreaped c]? = some st) : KInv (kreap s pid c st) := by
  have hlt : s.nreaped c < (s.hist c).length := (List.getElem?_eq_some_iff.mp hg).1
  have hcl := h.cid_lt pid c hc
  constructor
  · intro p c'; have := h.cid_lt p c'; simp only [kreap, alookup_ite, alookup_aremove]; grind
  · intro p p' c'; have := h.cid_inj p p' c'; simp only [kreap, alookup_ite, alookup_aremove]; grind
  · intro c'; have := h.reaped_le c'; simp only [kreap, upd_apply]; grind
  · intro c' hc'; have := h.fresh c' hc'; simp only [kreap, upd_apply] at *; grind
  · intro p c'
    have hu := h.live_undead p c'
    have hinj := h.cid_inj p pid c'
    cases hd : st.dead <;> simp only [kreap, reapedOf, hd, Bool.false_eq_true, ↓reduceIte, alookup_aremove, upd_apply] at hu ⊢
    · intro hp
      split
      · rename_i e; subst e
        rw [take_succ_get hg, noDead_append]
        exact ⟨hu hp, noDead_single.mpr hd⟩
      · exact hu hp
    · split
      · intro hp; simp at hp
      · intro hp
        have hne : c' ≠ c := by
          intro e; subst e; exact absurd (hinj hp hc) (by assumption)
        simp only [hne, ↓reduceIte]; exact hu hp
  · exact h.term_last


theorem step_reapOne {s s' : State} {t : Tid} {pid : Pid} {st : Status} :
    step s (.reapOne t pid st) = some s' ↔
      ∃ c, s.lock = some t ∧ s.posting = none ∧ alookup s.procs pid = some c ∧ (s.hist c)[s.nreaped c]? = some st ∧
        s' = reapLib (kreap s pid c st) pid st := by
  simp only [step, Option.ite_none_left_eq_some]
  cases alookup s.procs pid <;> simp [kreap, and_assoc]
  exact fun _ _ _ => eq_comm

theorem inv_reap_stranger {s : State} (h : Inv s) {pid : Pid} {c : Cid} {st : Status} (hc : alookup s.procs pid = some c)
    (hg : (s.hist c)[s.nreaped c]? = some st) (hn : alookup s.set pid = none) : Inv (kreap s pid c st) := by
  have hnone : ∀ x, (s.ints x).reg = true → (s.ints x).cid ≠ c := by
    intro x hr he; have := set_of_cid h hc hr he; simp [hn] at this
  refine ⟨kinv_kreap h.k hc hg, ?_, ?_, TInv.congr h.t rfl rfl rfl h.t.posting_ok⟩
  · constructor
    · intro p x; have := h.s.set_sound p x; simp only [kreap, alookup_ite, alookup_aremove]; grind
    · exact h.s.set_complete
    · intro x p; have := h.s.dead_gone x p; simp only [kreap, alookup_ite, alookup_aremove]; grind
    · exact h.s.int_cid_lt
  · constructor
    · intro x hr; have := h.q.base_le x hr; have := hnone x hr; simp only [kreap, upd_apply]; grind
    · intro x hr; have := h.q.routed x hr; have := hnone x hr; simp only [kreap, reapedOf, upd_apply] at *; grind
    · exact h.q.undead_q
    · exact h.q.dead_q
    · exact h.q.spawn_base


theorem inv_reap_interest {s : State} (h : Inv s) {pid : Pid} {c : Cid} {st : Status} {w : Wid} {t : Tid}
    (hc : alookup s.procs pid = some c) (hg : (s.hist c)[s.nreaped c]? = some st) (hw : alookup s.set pid = some w)
    (hl : s.lock = some t) (hp : s.posting = none) :
    Inv { kreap s pid c st with
            set := if st.dead then aremove s.set pid else s.set,
            ints := upd s.ints w { s.ints w with pending := (s.ints w).pending ++ [st], queued := (s.ints w).queued ++ [st],
                                                 dead := if st.dead then true else (s.ints w).dead },
            posting := some w } := by
  have ⟨w1, w2, w3, w4⟩ := h.s.set_sound pid w hw
  have hcw : (s.ints w).cid = c := by rw [hc] at w4; exact (Option.some.inj w4).symm
  have hlt : s.nreaped c < (s.hist c).length := (List.getElem?_eq_some_iff.mp hg).1
  refine ⟨KInv.congr (kinv_kreap h.k hc hg) rfl rfl rfl rfl, ?_, ?_, ?_⟩
  · constructor
    · intro p x; have := h.s.set_sound p x; have := h.s.set_sound p w
      simp only [kreap, alookup_ite, alookup_aremove, upd_apply]; grind
    · intro x; have := h.s.set_complete x; have := h.s.set_sound (s.ints x).pid x
      simp only [alookup_ite, alookup_aremove, upd_apply]; grind
    · intro x p; have := h.s.dead_gone x p; have := h.k.cid_inj p pid c
      simp only [kreap, alookup_ite, alookup_aremove, upd_apply]; grind
    · intro x; have := h.s.int_cid_lt x; simp only [kreap, upd_apply]; grind
  · have hq := h.q.routed w w1
    have hu := h.q.undead_q w w1 w3
    rw [hcw, reapedOf] at hq
    refine QInv.upd h.q rfl rfl (fun x hx hr => upd_other _ _ _ _ fun he => hx ?_) (fun _ => ?_)
    · have := set_of_cid h hc hr he; rw [hw] at this; exact (Option.some.inj this).symm
    · refine ⟨?_, ?_, ?_, ?_, h.q.spawn_base w w1⟩
      · have := h.q.base_le w w1; simp only [kreap, hcw, upd_same] at this ⊢; omega
      · simp only [kreap, reapedOf, hcw, upd_same, take_succ_get hg, hq]
        rw [List.drop_append_of_le_length (by have := h.q.base_le w w1; rw [hcw] at this; rw [List.length_take]; omega)]
      · cases hd : st.dead
        · intro _; rw [noDead_append]; exact ⟨hu, noDead_single.mpr hd⟩
        · simp
      · cases hd : st.dead
        · simp [w3]
        · intro _; exact ⟨_, st, rfl, hd, hu⟩
  · constructor
    · intro x; have := h.t.split x; simp only [kreap, infl_def, upd_apply] at *; grind
    · intro x; have := h.t.owed_ok x; simp only [kreap, upd_apply] at *; grind
    · intro t' x; have := h.t.started_ok t' x; simp only [kreap, upd_apply] at *; grind
    · intro t' x; have := h.t.handled_ok t' x; simp only [kreap, upd_apply] at *; grind
    · intro x _; simp [kreap, hl]

theorem step_inv {s s' : State} (a : Action) (h : Inv s) (hs : step s a = some s') : Inv s' := by
  cases a with
  | fork pid =>
    simp only [step, Option.ite_none_left_eq_some, Option.some.injEq] at hs
    obtain ⟨hn, rfl⟩ := hs
    exact inv_fork h pid (by simpa using hn)
  | childChange pid st => exact inv_childChange h hs
  | reapBegin t =>
    simp only [step, Option.ite_none_left_eq_some, Option.some.injEq] at hs
    obtain ⟨-, rfl⟩ := hs
    exact inv_lock h _ _ (fun _ _ => rfl)
  | reapOne t pid st =>
    obtain ⟨c, hl, hp, hc, hg, rfl⟩ := step_reapOne.mp hs
    cases hw : alookup s.set pid with
    | none => rw [reapLib_none (s := kreap s pid c st) hw]; exact inv_reap_stranger h hc hg hw
    | some w => rw [reapLib_some (s := kreap s pid c st) hw]; exact inv_reap_interest h hc hg hw hl hp
  | reapPost t => exact inv_reapPost h hs
  | reapDone t =>
    simp only [step, Option.ite_none_left_eq_some, Option.ite_some_none_eq_some] at hs
    obtain ⟨hg, -, rfl⟩ := hs
    exact inv_lock h _ _ (fun w hw => by simp [hw] at hg)
  | register t w pid =>
    simp only [step, Option.ite_none_left_eq_some] at hs
    obtain ⟨hg, hs⟩ := hs
    split at hs <;> simp only [Option.ite_none_left_eq_some, Option.some.injEq, reduceCtorEq] at hs
    rename_i c hc
    obtain ⟨hn, rfl⟩ := hs
    exact inv_register h t w pid c false (by simp at hg; exact hg.2) hc (by simpa using hn) nofun
  | registerSpawn t w pid =>
    simp only [step, Option.ite_none_left_eq_some, Option.some.injEq] at hs
    obtain ⟨hg, hn, rfl⟩ := hs
    exact inv_registerSpawn h t w pid (by simp at hg; exact hg.2) (by simpa using hn)
  | spawnFail t w =>
    simp only [step, Option.ite_none_left_eq_some, Option.some.injEq] at hs
    exact hs.2 ▸ h
  | unregister t w => exact inv_unregister h hs
  | kill t w sig =>
    simp only [step, Option.ite_none_left_eq_some] at hs
    obtain ⟨-, hs⟩ := hs
    split at hs <;> cases hs
    · exact inv_lock h _ _ h.t.posting_ok
    · exact h
  | complStart t w => exact inv_complStart h hs
  | steal t => exact inv_steal h hs
  | deliver t => exact inv_deliver h hs
  | complEnd t => exact inv_complEnd h hs

theorem run_inv {s s' : State} (acts : List Action) (h : Inv s) (hr : run s acts = some s') : Inv s' := by
  induction acts generalizing s with
  | nil => simp [run] at hr; subst hr; exact h
  | cons a as ih =>
    simp only [run] at hr
    split at hr
    · rename_i s1 h1; exact ih (step_inv a h h1) hr
    · simp at hr

theorem reachable_inv {s : State} (h : Reachable s) : Inv s := by
  obtain ⟨acts, hr⟩ := h; exact run_inv acts init_inv hr

theorem run_append (s : State) (l l' : List Action) : run s (l ++ l') = (run s l).bind (run · l') := by
  induction l generalizing s with
  | nil => rfl
  | cons a as ih =>
    simp only [List.cons_append, run]
    cases step s a with
    | none => rfl
    | some s1 => exact ih s1

theorem reachable_step {s s' : State} (a : Action) (h : Reachable s) (hs : step s a = some s') : Reachable s' := by
  obtain ⟨acts, hr⟩ := h
  exact ⟨acts ++ [a], by simp [run_append, hr, run, hs]⟩

theorem got_prefix {s : State} (h : TInv s) {w : Wid} (hr : (s.ints w).reg = true) :
    (s.ints w).got <+: (s.ints w).queued := by
  rw [h.split w hr, List.append_assoc]; exact List.prefix_append _ _

theorem terminal_once_last {s : State} (h : Reachable s) {w : Wid} (hr : (s.ints w).reg = true) :
    noDead (s.ints w).queued.dropLast ∧ noDead (s.ints w).got.dropLast ∧
    ((s.ints w).dead = true ↔ ∃ d, (s.ints w).queued.getLast? = some d ∧ d.dead = true) ∧
    ((s.ints w).dead = true → ∀ p, alookup s.set p ≠ some w) := by
  have hi := reachable_inv h
  have hq : noDead (s.ints w).queued.dropLast ∧
      ((s.ints w).dead = true ↔ ∃ d, (s.ints w).queued.getLast? = some d ∧ d.dead = true) := by
    cases hd : (s.ints w).dead with
    | false =>
      have := hi.q.undead_q w hr hd
      refine ⟨fun st hs => this st (List.dropLast_subset _ hs), ?_⟩
      simp only [Bool.false_eq_true, false_iff, not_exists, not_and]
      intro d hl; have := this d (List.mem_of_getLast? hl); simp [this]
    | true =>
      obtain ⟨q, d, e, dd, nq⟩ := hi.q.dead_q w hr hd
      rw [e]
      refine ⟨by simpa using nq, ?_⟩
      simp [dd]
  refine ⟨hq.1, ?_, hq.2, ?_⟩
  · exact noDead_dropLast_of_prefix (got_prefix hi.t hr) hq.1
  · intro hd p hp
    have := (hi.s.set_sound p w hp).2.2.1
    rw [hd] at this; simp at this

theorem spawn_never_missed {s : State} (h : Reachable s) {w : Wid} (hr : (s.ints w).reg = true)
    (hsp : (s.ints w).spawned = true) :
    s.hist (s.ints w).cid = (s.ints w).queued ++ unreapedOf s (s.ints w).cid ∧
    (s.ints w).queued = (s.ints w).got ++ infl s w ++ (s.ints w).pending ∧
    ((s.ints w).pending ≠ [] → (s.ints w).owed = true ∨ (s.thr (s.ints w).owner).comp = .started w ∨ s.posting = some w) := by
  have hi := reachable_inv h
  have hb := hi.q.spawn_base w hr hsp
  have h1 := hi.q.routed w hr
  rw [hb, List.drop_zero] at h1
  refine ⟨?_, hi.t.split w hr, hi.t.owed_ok w hr⟩
  rw [h1, reapedOf, unreapedOf, List.take_append_drop]

theorem stranger_harmless {s : State} (h : Reachable s) {t : Tid} {pid : Pid} {c : Cid} {st : Status}
    (hl : s.lock = some t) (hp : s.posting = none) (hc : alookup s.procs pid = some c)
    (hg : (s.hist c)[s.nreaped c]? = some st) (hn : alookup s.set pid = none) :
    ∃ s', step s (.reapOne t pid st) = some s' ∧ s'.set = s.set ∧ s'.ints = s.ints ∧ s'.thr = s.thr ∧
      s'.posting = none ∧ s'.lock = s.lock ∧ s'.kills = s.kills ∧ Inv s' := by
  have hstep : step s (.reapOne t pid st) = some (kreap s pid c st) :=
    step_reapOne.mpr ⟨c, hl, hp, hc, hg, (reapLib_none (s := kreap s pid c st) hn).symm⟩
  exact ⟨_, hstep, rfl, rfl, rfl, hp, rfl, rfl, inv_reap_stranger (reachable_inv h) hc hg hn⟩

theorem kill_never_after_reap {s : State} (h : Reachable s) {w : Wid} (hr : (s.ints w).reg = true) :
    ((s.ints w).dead = false ↔ alookup s.procs (s.ints w).pid = some (s.ints w).cid) ∧
    (∀ p, killTarget s w = some p → p = (s.ints w).pid ∧ alookup s.procs p = some (s.ints w).cid) ∧
    (killTarget s w = none ↔ (s.ints w).dead = true) := by
  have hi := reachable_inv h
  have key : (s.ints w).dead = false → alookup s.procs (s.ints w).pid = some (s.ints w).cid := fun hd =>
    (hi.s.set_sound _ _ (hi.s.set_complete w hr hd)).2.2.2
  refine ⟨⟨key, ?_⟩, ?_, ?_⟩
  · intro hp
    cases hd : (s.ints w).dead with
    | false => rfl
    | true => exact absurd hp (hi.s.dead_gone w _ hr hd)
  · intro p hk
    simp only [killTarget] at hk
    split at hk
    · simp at hk
    · rename_i hd; injection hk with hk; subst hk
      exact ⟨rfl, key (by simpa using hd)⟩
  · simp only [killTarget]; split <;> simp_all

end Ivy.Wait.Proofs
