import Ivy.L3.PumpCache
import Ivy.L3.PumpProofs
/-!
Proofs for the thread-level C17 theorems (`Ivy/L3/PumpCache.lean`): the buffer cache only ever
holds empty buffers, so the "acquired buffer is empty" assumption built into `Ivy.Pump.pump` holds
in every reachable thread state, and the single-pump theorems lift to every pump on the thread.
-/
namespace Ivy.Pump.Proofs
open Ivy.Pump
open Ivy.Generated

theorem tryInput_hasBuf (s : St) (evs : List Ev) {s' o r e}
    (hp : tryInput s evs = some (s', o, r, e)) : s'.hasBuf = true ∧ s'.splice = s.splice := by
  fun_induction tryInput s evs generalizing s' o r e <;> cases hp
  case case2 h ih => exact ih h  -- EINTR: the call is repeated
  all_goals exact ⟨rfl, rfl⟩

theorem tryOutput_hasBuf (s : St) (evs : List Ev) {s' o r e}
    (hp : tryOutput s evs = some (s', o, r, e)) : s'.hasBuf = s.hasBuf ∧ s'.splice = s.splice := by
  fun_induction tryOutput s evs generalizing s' o r e <;> cases hp
  case case2 h ih => exact ih h  -- EINTR: the call is repeated
  all_goals exact ⟨rfl, rfl⟩

theorem bands_ne {s : St} {b : Out} {r : Int} (hb : bands s = some (b, r)) : r ≠ -1 := by
  have := (bands_eq hb).2.1
  omega

theorem pump_hasBuf {s : St} {evs : List Ev} {s' o r e} (hp : pump s evs = some (s', o, r, e)) :
    s'.hasBuf = ((s.hasBuf || (!s.full && s.sawFin == 0)) && r != -1 && s'.bytes != 0) ∧
      s'.splice = s.splice := by
  obtain ⟨s1, o1, r1, e1, h1, hc⟩ := pump_cases hp
  have hs1 : s1.hasBuf = (s.hasBuf || (!s.full && s.sawFin == 0)) ∧ s1.splice = s.splice := by
    unfold stageIn at h1
    split at h1
    · next hin => simp [tryInput_hasBuf s evs h1, hin]
    · next hskip => cases h1; rw [Bool.eq_false_iff.2 hskip, Bool.or_false]; exact ⟨rfl, rfl⟩
  rcases hc with ⟨_, rfl, _, rfl, _⟩ | ⟨_, s2, o2, r2, h2, hc⟩
  · simp [hs1.2]
  · have hs2 : s2.hasBuf = s1.hasBuf ∧ s2.splice = s1.splice := by
      unfold stageOut at h2
      split at h2
      · exact tryOutput_hasBuf s1 e1 h2
      · cases h2; exact ⟨rfl, rfl⟩
    rcases hc with ⟨_, rfl, _, rfl⟩ | ⟨_, b, hb, rfl, _⟩
    · simp [hs1.2, hs2.2]
    · have hne : (r != -1) = true := by simpa using bands_ne hb
      rw [hne, ← hs1.1, ← hs2.1, ← hs1.2, ← hs2.2]
      split <;> simp [*]

theorem pump_skip {s : St} {evs : List Ev} {s' o r e} (hc : (!s.full && s.sawFin == 0) = false)
    (hb : s.bytes = 0) (hp : pump s evs = some (s', o, r, e)) : s'.bytes = 0 := by
  obtain ⟨s1, o1, r1, e1, h1, hc1⟩ := pump_cases hp
  simp only [stageIn, hc, Bool.false_eq_true, if_false, Option.some.injEq, Prod.mk.injEq] at h1
  obtain ⟨rfl, rfl, rfl, rfl⟩ := h1
  rcases hc1 with ⟨h, _⟩ | ⟨_, s2, o2, r2, h2, hc2⟩
  · exact absurd rfl h
  · simp only [stageOut, hb, bne_self_eq_false, Bool.false_eq_true, if_false, Option.some.injEq, Prod.mk.injEq] at h2
    obtain ⟨rfl, rfl, rfl, rfl⟩ := h2
    rcases hc2 with ⟨h, _⟩ | ⟨_, b, _, rfl, _⟩
    · exact absurd rfl h
    · simp [hb]

theorem getSlot_mem {l : List (Nat × Slot)} {k : Nat} {p : Slot} (h : getSlot l k = some p) : (k, p) ∈ l := by
  fun_induction getSlot l k <;> simp_all

theorem mem_updSlot {l : List (Nat × Slot)} {k : Nat} {v : Slot} {kv : Nat × Slot}
    (h : kv ∈ updSlot l k v) : kv ∈ l ∨ kv.2 = v := by
  fun_induction updSlot l k v <;> simp_all
  case case2 => exact h.elim (fun h => .inr (h ▸ rfl)) (fun h => .inl (.inr h))  -- head has key `k`
  case case3 ih => exact h.elim (fun h => .inl (.inl h)) (fun h => (ih h).imp_left .inr)  -- another key

theorem mem_delSlot {l : List (Nat × Slot)} {k : Nat} {kv : Nat × Slot} (h : kv ∈ delSlot l k) : kv ∈ l := by
  fun_induction delSlot l k <;> simp_all
  case case3 ih => exact h.imp_right ih  -- head has another key

def b2n (b : Bool) : Nat := if b then 1 else 0

theorem held_cons (k : Nat) (p : Slot) (l : List (Nat × Slot)) :
    held ((k, p) :: l) = b2n p.st.hasBuf + held l := rfl

theorem held_upd {l : List (Nat × Slot)} {k : Nat} {p v : Slot} (h : getSlot l k = some p) :
    held (updSlot l k v) + b2n p.st.hasBuf = held l + b2n v.st.hasBuf := by
  fun_induction getSlot l k <;> simp_all [updSlot, held_cons] <;> omega

theorem held_del {l : List (Nat × Slot)} {k : Nat} {p : Slot} (h : getSlot l k = some p) :
    held (delSlot l k) + b2n p.st.hasBuf = held l := by
  fun_induction getSlot l k <;> simp_all [delSlot, held_cons] <;> omega

/-- cache part of the thread invariant, with `n` buffers outside the cache -/
structure BInv (t : Thr) (n : Nat) : Prop where
  clean : ∀ c, c ∈ t.cache → c = []
  bound : t.cache.length ≤ MAX_CACHED_BUFS
  count : t.allocs = t.frees + n + t.cache.length

/-- fields `buf_get`/`buf_put` do not touch -/
def Same (t t' : Thr) : Prop := t'.slots = t.slots ∧ t'.splice = t.splice ∧ t'.fault = t.fault

theorem get_spec {t : Thr} {n : Nat} (h : BInv t n) : t.get.1 = [] ∧ BInv t.get.2 (n + 1) ∧ Same t t.get.2 := by
  obtain ⟨hc, hb, hn⟩ := h
  simp only [Thr.get]
  cases hcache : t.cache with
  | nil =>
    rw [hcache] at hn
    exact ⟨rfl, ⟨nofun, Nat.zero_le _, by simp [bufGet] at hn ⊢; omega⟩, rfl, rfl, rfl⟩
  | cons c rest =>
    rw [hcache] at hc hb hn
    exact ⟨hc c List.mem_cons_self, ⟨fun c' hm => hc c' (List.mem_cons_of_mem _ hm),
      Nat.le_of_succ_le hb, by simp [bufGet] at hn ⊢; omega⟩, rfl, rfl, rfl⟩

theorem put_spec {t : Thr} {n : Nat} (h : BInv t (n + 1)) (content : List Nat) (bytes : Nat)
    (hcont : t.spl = true → bytes = 0 → content = []) (hrw : t.spl = false → content = []) :
    BInv (t.put content bytes) n ∧ Same t (t.put content bytes) := by
  obtain ⟨hc, hb, hn⟩ := h
  refine ⟨?_, rfl, rfl, rfl⟩
  simp only [Thr.put, bufPut]
  split
  · exact ⟨hc, hb, by simp; omega⟩
  · next hd =>
    split
    · next hl =>
      have hcontent : content = [] := by
        cases hs : t.spl
        · exact hrw hs
        · simp [hs] at hd; exact hcont hs hd
      exact ⟨fun c hm => (List.mem_cons.mp hm).elim (· ▸ hcontent) (hc c), hl, by simp; omega⟩
    · exact ⟨hc, hb, by simp; omega⟩

/-- what the thread invariant says of one pump, given the thread's transfer mode -/
def SlotOk (m : Option Bool) (p : Slot) : Prop :=
  Inv p.st ∧ (p.broken = false → p.st.hasBuf = false → p.st.bytes = 0) ∧ (p.last = some 0 → p.st.sawFin = 2) ∧
  m = some p.st.splice

theorem tinv_iff (t : Thr) :
    TInv t ↔ BInv t (held t.slots) ∧ t.fault = false ∧ ∀ kv, kv ∈ t.slots → SlotOk t.splice kv.2 :=
  ⟨fun h => ⟨⟨h.clean, h.bound, h.count⟩, h.nofault,
      fun kv hm => ⟨h.pumps kv hm, h.idle kv hm, h.last0 kv hm, h.mode kv hm⟩⟩,
   fun ⟨hB, hf, hs⟩ => ⟨hB.clean, hB.bound, fun kv hm => (hs kv hm).1, fun kv hm => (hs kv hm).2.1,
      fun kv hm => (hs kv hm).2.2.1, hB.count, hf, fun kv hm => (hs kv hm).2.2.2⟩⟩

theorem tinv_toB {t : Thr} (h : TInv t) : BInv t (held t.slots) := ((tinv_iff t).1 h).1

theorem pumpWith_eq {content : List Nat} {s : St} {evs : List Ev}
    (h : acquires s = true → content = [] ∧ s.buf = []) : pumpWith content s evs = pump s evs := by
  unfold pumpWith
  split
  · next ha =>
    obtain ⟨rfl, hb⟩ := h ha
    have : ({ s with buf := [] } : St) = s := by
      cases s; simp_all
    rw [this]
  · rfl

theorem contentOf_ok (t : Thr) {s : St} (h : Inv s) :
    (t.spl = true → s.bytes = 0 → contentOf t s = []) ∧ (t.spl = false → contentOf t s = []) := by
  constructor
  · intro hs hb
    simp [contentOf, hs, inv_buf_nil h hb]
  · intro hs
    simp [contentOf, hs]

theorem acquireT_spec {t : Thr} {n : Nat} (h : BInv t n) (s : St) :
    (acquireT t s).1 = [] ∧ BInv (acquireT t s).2 (n + b2n (acquires s)) ∧ Same t (acquireT t s).2 := by
  unfold acquireT
  cases ha : acquires s
  · exact ⟨rfl, h, rfl, rfl, rfl⟩
  · exact get_spec h

theorem putIf_spec {t : Thr} {n : Nat} {s : St} (b : Bool) (h : BInv t (n + b2n b)) (hI : Inv s) :
    BInv (if b then t.put (contentOf t s) s.bytes else t) n ∧
      Same t (if b then t.put (contentOf t s) s.bytes else t) := by
  cases b
  · exact ⟨h, rfl, rfl, rfl⟩
  · exact put_spec h _ _ (contentOf_ok t hI).1 (contentOf_ok t hI).2

theorem buffer_balance (h0 c x y : Bool) :
    b2n (!h0 && c) + b2n h0 =
      b2n ((h0 || c) && x && y) + b2n ((h0 || (!h0 && c)) && !((h0 || c) && x && y)) := by
  cases h0 <;> cases c <;> cases x <;> cases y <;> rfl

theorem pumpOp_inv {t : Thr} (h : TInv t) {k : Nat} {evs : List Ev} {t' o r}
    (hp : pumpOp t k evs = some (t', o, r)) : TInv t' := by
  unfold pumpOp at hp
  cases hg : getSlot t.slots k with
  | none => simp [hg] at hp
  | some p =>
    simp only [hg] at hp
    have hmem := getSlot_mem hg
    have hI : Inv p.st := h.pumps _ hmem
    cases hbr : p.broken with
    | true => simp [hbr] at hp
    | false =>
      simp only [hbr] at hp
      have hidle : p.st.hasBuf = false → p.st.bytes = 0 := h.idle _ hmem hbr
      split at hp
      · cases hp
      split at hp
      · next hf =>
        -- NULL buffer in try_output: excluded by the invariant
        simp [acquires] at hf
        exact absurd (hidle hf.1.1) hf.2
      · next hf =>
        obtain ⟨hcont, hB1, hS1⟩ := acquireT_spec (tinv_toB h) p.st
        generalize hacq : acquireT t p.st = acq at hp hcont hB1 hS1
        have heq : pumpWith acq.1 p.st evs = pump p.st evs := by
          apply pumpWith_eq
          intro ha
          simp [acquires] at ha
          exact ⟨hcont, inv_buf_nil hI (hidle ha.1)⟩
        rw [heq] at hp
        split at hp
        · next s' outs r' hpump =>
          simp only [Option.some.injEq, Prod.mk.injEq] at hp
          obtain ⟨rfl, rfl, rfl⟩ := hp
          have hI' := pump_inv p.st evs hI hpump
          obtain ⟨hhb, hspl⟩ := pump_hasBuf hpump
          have hret := ret_spec p.st evs hI hpump
          have hupd := held_upd (v := { st := s', broken := r' == -1, last := some r' }) hg
          -- buffers outside the cache before the release: the pumps' + the one in this call's hands
          have hkey := buffer_balance p.st.hasBuf (!p.st.full && p.st.sawFin == 0) (r' != -1) (s'.bytes != 0)
          rw [← hhb] at hkey
          have hacqs : acquires p.st = (!p.st.hasBuf && (!p.st.full && p.st.sawFin == 0)) := rfl
          rw [← hacqs] at hkey
          have hB1' : BInv acq.2 (held (updSlot t.slots k { st := s', broken := r' == -1, last := some r' })
              + b2n ((p.st.hasBuf || acquires p.st) && !s'.hasBuf)) := by
            have e : held t.slots + b2n (acquires p.st) =
                held (updSlot t.slots k { st := s', broken := r' == -1, last := some r' })
                  + b2n ((p.st.hasBuf || acquires p.st) && !s'.hasBuf) := by
              simp only at hupd
              omega
            rw [← e]; exact hB1
          obtain ⟨hB2, hS2⟩ : BInv (releaseT acq.2 p.st s') _ ∧ Same acq.2 (releaseT acq.2 p.st s') :=
            putIf_spec _ hB1' hI'
          generalize releaseT acq.2 p.st s' = t2 at hB2 hS2
          obtain ⟨hs1, hm1, hf1⟩ := hS1
          obtain ⟨hs2, hm2, hf2⟩ := hS2
          have hslots : t2.slots = t.slots := by rw [hs2, hs1]
          have hmemNew : ∀ kv, kv ∈ (t2.setSlot k { st := s', broken := r' == -1, last := some r' }).slots →
              kv ∈ t.slots ∨ kv.2 = { st := s', broken := r' == -1, last := some r' } := by
            intro kv hm
            simp only [Thr.setSlot, hslots] at hm
            exact mem_updSlot hm
          have hsp : t2.splice = t.splice := hm2.trans hm1
          refine (tinv_iff _).2 ⟨⟨hB2.clean, hB2.bound, by simpa only [Thr.setSlot, hslots] using hB2.count⟩,
            hf2.trans (hf1.trans h.nofault), fun kv hm => ?_⟩
          rcases hmemNew kv hm with hm | hm
          · exact hsp ▸ ((tinv_iff t).1 h).2.2 kv hm
          · rw [hm]
            refine ⟨hI', fun hbr' hnb => ?_, fun hl => (hret.2.1.mp (Option.some.inj hl)).1,
              hsp.trans (hspl ▸ h.mode _ hmem)⟩
            -- a pump that returned ≥ 0 without a buffer has nothing buffered
            simp only at hbr' hnb
            have hr : r' ≠ -1 := by simpa using hbr'
            cases hc : (p.st.hasBuf || (!p.st.full && p.st.sawFin == 0))
            · rw [Bool.or_eq_false_iff] at hc
              exact pump_skip hc.2 (hidle hc.1) hpump
            · simpa [hnb, hc, hr] using hhb
        · cases hp

theorem destroyOp_eq {t : Thr} {k : Nat} {p : Slot} (hg : getSlot t.slots k = some p) :
    ∃ t1, t1 = (if p.st.hasBuf then t.put (contentOf t p.st) p.st.bytes else t) ∧ Same t t1 ∧
      destroyOp t k = some ({ t1 with slots := delSlot t1.slots k }, (destroy p.st).2) :=
  ⟨_, rfl, by cases p.st.hasBuf <;> exact ⟨rfl, rfl, rfl⟩, by simp only [destroyOp, hg]⟩

theorem destroyOp_inv {t : Thr} (h : TInv t) {k : Nat} {t' o}
    (hp : destroyOp t k = some (t', o)) : TInv t' := by
  cases hg : getSlot t.slots k with
  | none => simp [destroyOp, hg] at hp
  | some p =>
    obtain ⟨_, rfl, _, e⟩ := destroyOp_eq hg
    rw [e] at hp
    cases hp
    have hmem := getSlot_mem hg
    have hI : Inv p.st := h.pumps _ hmem
    have hdel := held_del hg
    have hB : BInv t (held (delSlot t.slots k) + b2n p.st.hasBuf) := by
      rw [hdel]; exact tinv_toB h
    obtain ⟨hB1, hs1, hm1, hf1⟩ := putIf_spec p.st.hasBuf hB hI
    generalize (if p.st.hasBuf = true then t.put (contentOf t p.st) p.st.bytes else t) = t1 at hB1 hs1 hm1 hf1 ⊢
    refine (tinv_iff _).2 ⟨⟨hB1.clean, hB1.bound, by simpa only [hs1] using hB1.count⟩, hf1.trans h.nofault,
      fun kv hm => ?_⟩
    exact hm1 ▸ ((tinv_iff t).1 h).2.2 kv (mem_delSlot (show kv ∈ delSlot t.slots k from hs1 ▸ hm))

theorem probe_spec {t : Thr} {n : Nat} (h : BInv t n) (ok : Bool) :
    BInv (probe t ok) n ∧ (probe t ok).slots = t.slots ∧ (probe t ok).fault = t.fault ∧
      (probe t ok).splice = some ok := by
  obtain ⟨hc, hb, hn⟩ := h
  unfold probe
  cases ok
  · exact ⟨⟨hc, hb, by simp; omega⟩, rfl, rfl, rfl⟩
  · have h0 : BInv { t with splice := some true, allocs := t.allocs + 2 } (n + 1 + 1) :=
      ⟨hc, hb, by simp; omega⟩
    obtain ⟨h1, s1⟩ := put_spec h0 [] 0 (fun _ _ => rfl) (fun _ => rfl)
    obtain ⟨h2, s2⟩ := put_spec h1 [] 0 (fun _ _ => rfl) (fun _ => rfl)
    refine ⟨h2, ?_, ?_, ?_⟩
    · simp only [if_true]; rw [s2.1, s1.1]
    · simp only [if_true]; rw [s2.2.2, s1.2.2]
    · simp only [if_true]; rw [s2.2.1, s1.2.1]

theorem newOp_inv {t : Thr} (h : TInv t) {k : Nat} {relay ok : Bool} {t' o}
    (hp : newOp t k relay ok = some (t', o)) : TInv t' := by
  unfold newOp at hp
  cases hg : getSlot t.slots k with
  | some p => simp [hg] at hp
  | none =>
    simp only [hg, Option.some.injEq, Prod.mk.injEq] at hp
    obtain ⟨rfl, _⟩ := hp
    have hstep : ∃ t1, t1 = (if t.splice.isNone = true then probe t ok else t) ∧
        BInv t1 (held t.slots) ∧ t1.slots = t.slots ∧ t1.fault = t.fault ∧
        (∃ b, t1.splice = some b) ∧ (∀ kv, kv ∈ t.slots → t1.splice = t.splice) := by
      refine ⟨_, rfl, ?_⟩
      split
      · next hnone =>
        obtain ⟨a, b, c, d⟩ := probe_spec (tinv_toB h) ok
        refine ⟨a, b, c, ⟨ok, d⟩, ?_⟩
        intro kv hm
        have := h.mode kv hm
        rw [this] at hnone
        simp at hnone
      · next hsome =>
        refine ⟨tinv_toB h, rfl, rfl, ?_, fun _ _ => rfl⟩
        cases hsp : t.splice with
        | none => simp [hsp] at hsome
        | some b => exact ⟨b, rfl⟩
    obtain ⟨t1, ht1, hB1, hs1, hf1, ⟨b, hsb⟩, hkeep⟩ := hstep
    rw [← ht1]
    have hmemNew : ∀ kv : Nat × Slot, kv ∈ (k, Slot.fresh (t1.splice == some true) relay) :: t1.slots →
        kv.2 = Slot.fresh (t1.splice == some true) relay ∨ kv ∈ t.slots := by
      intro kv hm
      rcases List.mem_cons.mp hm with hm | hm
      · left; rw [hm]
      · right; rw [← hs1]; exact hm
    refine (tinv_iff _).2 ⟨⟨hB1.clean, hB1.bound, ?_⟩, hf1.trans h.nofault, fun kv hm => ?_⟩
    · have := hB1.count
      simp only [held_cons, hs1, Slot.fresh, St.init, b2n]
      simp
      omega
    · rcases hmemNew kv hm with hm | hm
      · rw [hm]
        exact ⟨init_inv _ _, fun _ _ => rfl, nofun, by simp only [Slot.fresh, St.init, hsb]; cases b <;> rfl⟩
      · exact hkeep kv hm ▸ ((tinv_iff t).1 h).2.2 kv hm

theorem purgeOp_inv {t : Thr} (h : TInv t) : TInv (purgeOp t) :=
  { h with clean := by simp [purgeOp], bound := by simp [purgeOp],
           count := by have := h.count; simp [purgeOp]; omega }

theorem step_inv {t : Thr} (h : TInv t) {op : Op} {t' o r} (hs : step t op = some (t', o, r)) : TInv t' := by
  cases op <;> simp only [step, h.nofault, Bool.false_eq_true, if_false] at hs
  case new k relay ok =>
    obtain ⟨q, hn, heq⟩ := Option.map_eq_some_iff.1 hs
    cases heq; exact newOp_inv h hn
  case pump k evs =>
    obtain ⟨q, hn, heq⟩ := Option.map_eq_some_iff.1 hs
    cases heq; exact pumpOp_inv h hn
  case destroy k =>
    obtain ⟨q, hn, heq⟩ := Option.map_eq_some_iff.1 hs
    cases heq; exact destroyOp_inv h hn
  case purge => cases hs; exact purgeOp_inv h
  case setMode m =>
    obtain ⟨hc, hs⟩ := Option.ite_none_right_eq_some.1 hs
    cases hs
    have hnil : t.slots = [] := by simp at hc; exact hc.1
    exact { h with nofault := rfl, mode := fun kv hm => by rw [show _ = t.slots from rfl, hnil] at hm; cases hm }

theorem init_tinv (m : Option Bool) : TInv (Thr.init m) := by
  constructor <;> simp [Thr.init, held]

theorem runT_inv : ∀ (ops : List Op) {t t' : Thr}, TInv t → runT t ops = some t' → TInv t' := by
  intro ops
  induction ops with
  | nil => intro t t' h hr; simp [runT] at hr; subst hr; exact h
  | cons op rest ih =>
    intro t t' h hr
    simp only [runT] at hr
    split at hr
    · next t1 o1 r1 hs => exact ih (step_inv h hs) hr
    · cases hr

theorem reach_inv (m : Option Bool) (ops : List Op) {t : Thr} (hr : runT (Thr.init m) ops = some t) : TInv t :=
  runT_inv ops (init_tinv m) hr

theorem cache_clean (m : Option Bool) (ops : List Op) {t : Thr} (hr : runT (Thr.init m) ops = some t) :
    (∀ c, c ∈ t.cache → c = []) ∧ t.cache.length ≤ PUMP_MAX_CACHED_BUFS :=
  ⟨(reach_inv m ops hr).clean, (reach_inv m ops hr).bound⟩

theorem acquire_empty (m : Option Bool) (ops : List Op) {t : Thr} (hr : runT (Thr.init m) ops = some t) :
    (bufGet t.cache).1 = [] ∧
      ∀ (s : St) (evs : List Ev), s.buf = [] → pumpWith (bufGet t.cache).1 s evs = pump s evs := by
  have hc := (reach_inv m ops hr).clean
  have : (bufGet t.cache).1 = [] := by
    cases hcache : t.cache with
    | nil => rfl
    | cons c rest => simp only [bufGet]; exact hc c (by simp [hcache])
  exact ⟨this, fun s evs hb => pumpWith_eq (fun _ => ⟨this, hb⟩)⟩

theorem pump_isolation (m : Option Bool) (ops : List Op) {t : Thr} (hr : runT (Thr.init m) ops = some t) :
    t.fault = false ∧ ∀ k p, (k, p) ∈ t.slots → Inv p.st ∧ t.splice = some p.st.splice :=
  ⟨(reach_inv m ops hr).nofault,
   fun k p hm => ⟨(reach_inv m ops hr).pumps (k, p) hm, (reach_inv m ops hr).mode (k, p) hm⟩⟩

theorem thread_stream (m : Option Bool) (ops : List Op) {t : Thr} (hr : runT (Thr.init m) ops = some t) :
    ∀ k p, (k, p) ∈ t.slots → p.st.sink <+: p.st.src ∧ (p.last = some 0 → p.st.sink = p.st.src) := by
  intro k p hm
  have hT := reach_inv m ops hr
  have hi := sink_prefix (hT.pumps (k, p) hm)
  exact ⟨hi.1, fun hl => hi.2 (hT.last0 (k, p) hm hl)⟩

theorem no_buffer_leak (m : Option Bool) (ops : List Op) {t : Thr} (hr : runT (Thr.init m) ops = some t) :
    t.allocs = t.frees + held t.slots + t.cache.length :=
  (reach_inv m ops hr).count

theorem runT_append : ∀ (a b : List Op) (t : Thr),
    runT t (a ++ b) = (runT t a).bind (fun t' => runT t' b) := by
  intro a
  induction a with
  | nil => intro b t; rfl
  | cons op rest ih =>
    intro b t
    simp only [List.cons_append, runT]
    cases step t op with
    | none => rfl
    | some q => exact ih b q.1

theorem destroyAll : ∀ (l : List (Nat × Slot)) (t : Thr), t.slots = l → t.fault = false →
    ∃ t', runT t (l.map (fun kv => Op.destroy kv.1)) = some t' ∧ t'.slots = [] := by
  intro l
  induction l with
  | nil => intro t hs _; exact ⟨t, rfl, hs⟩
  | cons a l ih =>
    intro t hs hf
    obtain ⟨k, p⟩ := a
    have hg : getSlot t.slots k = some p := by rw [hs]; simp [getSlot]
    obtain ⟨t1, _, ⟨hs1, _, hf1⟩, hstep⟩ := destroyOp_eq hg
    obtain ⟨t', hrun, hnil⟩ := ih { t1 with slots := delSlot t1.slots k }
      (show delSlot t1.slots k = l by rw [hs1, hs]; simp [delSlot]) (hf1.trans hf)
    refine ⟨t', ?_, hnil⟩
    simp only [List.map_cons, runT, step, hf, hstep]
    exact hrun

theorem deinit_no_leak (m : Option Bool) (ops : List Op) {t : Thr} (hr : runT (Thr.init m) ops = some t) :
    ∃ t', runT t (t.slots.map (fun kv => Op.destroy kv.1) ++ [Op.purge]) = some t' ∧
      t'.slots = [] ∧ t'.cache = [] ∧ t'.allocs = t'.frees := by
  have hT := reach_inv m ops hr
  obtain ⟨t1, hrun, hnil⟩ := destroyAll t.slots t rfl hT.nofault
  have hT1 := runT_inv _ hT hrun
  refine ⟨purgeOp t1, ?_, hnil, rfl, ?_⟩
  · rw [runT_append, hrun]
    simp [runT, step, hT1.nofault]
  · have := (purgeOp_inv hT1).count
    have hs : (purgeOp t1).slots = [] := hnil
    rw [hs] at this
    simpa [held, purgeOp] using this

end Ivy.Pump.Proofs
