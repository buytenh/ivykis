import Ivy.L3.PumpSpec
/-!
Proofs for the C17 theorems about the `iv_fd_pump` model (`Ivy/L3/Pump.lean`).

`Stage R s evs s' o r e` is the common postcondition of one stage of `pump` (`tryInput`,
`tryOutput`, or a skipped stage) started in `s` on events `evs`; stages compose (`Stage.trans`),
and `pump_decomp` expresses a whole `pump` call as a composed stage followed by `bands`.
-/
namespace Ivy.Pump.Proofs
open Ivy.Pump
open Ivy.Generated

/-- postcondition of a stage of `pump`; `R` is what a `read` call entitles us to conclude -/
structure Stage (R : Prop) (s : St) (evs : List Ev) (s' : St) (o : List Out) (r : Int)
    (e : List Ev) : Prop where
  inv : Inv s'
  cons : ∃ c, evs = c ++ e ∧ (r = -1 ↔ ∃ ev, ev ∈ c ∧ isErrEv ev = true)
  rc : r = 0 ∨ r = -1
  noBands : ∀ a b, Out.setBands a b ∉ o
  shut : Out.shutdown ∈ o ↔ (s.sawFin ≠ 2 ∧ s'.sawFin = 2 ∧ s.relayEof = true)
  cnt : o.count Out.shutdown ≤ 1
  relay : s'.relayEof = s.relayEof
  mono : s.sawFin = 2 → s'.sawFin = 2
  reads : ∀ c, Out.read c ∈ o → 0 < c ∧ R
  writes : ∀ c, Out.write c ∈ o → 0 < c

theorem Stage.calls {R : Prop} {s s' : St} {c e : List Ev} {o : List Out} {r : Int} (hinv : Inv s')
    (herr : r = -1 ↔ ∃ ev, ev ∈ c ∧ isErrEv ev = true) (hrc : r = 0 ∨ r = -1)
    (ho : ∀ x ∈ o, (∃ n, x = Out.read n ∧ 0 < n ∧ R) ∨ (∃ n, x = Out.write n ∧ 0 < n) ∨ x = Out.fionread)
    (hrelay : s'.relayEof = s.relayEof) (hfin : s'.sawFin = 2 ↔ s.sawFin = 2) :
    Stage R s (c ++ e) s' o r e := by
  have hns : Out.shutdown ∉ o := fun hm => by
    rcases ho _ hm with ⟨_, h, _⟩ | ⟨_, h, _⟩ | h <;> cases h
  refine
    { inv := hinv, cons := ⟨c, rfl, herr⟩, rc := hrc, noBands := fun a b hm => ?_,
      shut := ⟨fun hm => absurd hm hns, fun h => absurd (hfin.1 h.2.1) h.1⟩,
      cnt := by rw [List.count_eq_zero.2 hns]; exact Nat.zero_le _,
      relay := hrelay, mono := hfin.2, reads := fun n hm => ?_, writes := fun n hm => ?_ }
  · rcases ho _ hm with ⟨_, h, _⟩ | ⟨_, h, _⟩ | h <;> cases h
  · rcases ho _ hm with ⟨_, h, h'⟩ | ⟨_, h, _⟩ | h <;> cases h
    exact h'
  · rcases ho _ hm with ⟨_, h, _⟩ | ⟨_, h, h'⟩ | h <;> cases h
    exact h'

theorem Stage.refl {R : Prop} {s : St} (h : Inv s) (evs : List Ev) : Stage R s evs s [] 0 evs :=
  Stage.calls (c := []) h (by simp) (.inl rfl) (by simp) rfl Iff.rfl

theorem Stage.trans {R : Prop} {s s1 s2 : St} {evs e1 e2 : List Ev} {o1 o2 : List Out} {r2 : Int}
    (h1 : Stage R s evs s1 o1 0 e1) (h2 : Stage R s1 e1 s2 o2 r2 e2) :
    Stage R s evs s2 (o1 ++ o2) r2 e2 := by
  obtain ⟨c1, hc1, he1⟩ := h1.cons
  obtain ⟨c2, hc2, he2⟩ := h2.cons
  have hno1 : ∀ ev, ev ∈ c1 → isErrEv ev = true → False := by
    intro ev hm he
    have := he1.mpr ⟨ev, hm, he⟩
    omega
  refine
    { inv := h2.inv, cons := ⟨c1 ++ c2, by simp [hc1, hc2], ?_⟩, rc := h2.rc,
      noBands := fun a b hm => (List.mem_append.mp hm).elim (h1.noBands a b) (h2.noBands a b),
      shut := ?_, cnt := ?_, relay := h2.relay.trans h1.relay, mono := fun h => h2.mono (h1.mono h),
      reads := fun c hm => (List.mem_append.mp hm).elim (h1.reads c) (h2.reads c),
      writes := fun c hm => (List.mem_append.mp hm).elim (h1.writes c) (h2.writes c) }
  · rw [he2]
    constructor
    · rintro ⟨ev, hm, he⟩
      exact ⟨ev, List.mem_append_right _ hm, he⟩
    · rintro ⟨ev, hm, he⟩
      rcases List.mem_append.mp hm with hm | hm
      · exact (hno1 ev hm he).elim
      · exact ⟨ev, hm, he⟩
  · rw [List.mem_append, h1.shut, h2.shut, h1.relay]
    constructor
    · rintro (⟨a, b, c⟩ | ⟨a, b, c⟩)
      · exact ⟨a, h2.mono b, c⟩
      · exact ⟨fun h => a (h1.mono h), b, c⟩
    · rintro ⟨a, b, c⟩
      by_cases h : s1.sawFin = 2
      · exact Or.inl ⟨a, h, c⟩
      · exact Or.inr ⟨h, b, c⟩
  · -- a second `shutdown` would need the pump to finish twice
    rw [List.count_append]
    by_cases h : Out.shutdown ∈ o1
    · have h' : Out.shutdown ∉ o2 := fun hh => (h2.shut.mp hh).1 (h1.shut.mp h).2.1
      have := List.count_eq_zero.mpr h'
      have := h1.cnt
      omega
    · have := List.count_eq_zero.mpr h
      have := h2.cnt
      omega

theorem Stage.call {R : Prop} {s : St} (h : Inv s) {ev : Ev} (hev : isErrEv ev = false) {x : Out}
    (hx : (∃ n, x = Out.read n ∧ 0 < n ∧ R) ∨ (∃ n, x = Out.write n ∧ 0 < n)) (e : List Ev) :
    Stage R s (ev :: e) s [x] 0 e :=
  Stage.calls (c := [ev]) h (by simp [hev]) (.inl rfl)
    (fun y hy => by rw [List.mem_singleton.1 hy]; exact hx.elim .inl (.inr ∘ .inl)) rfl Iff.rfl

theorem Stage.done {R : Prop} {s s' : St} {ev : Ev} {e : List Ev} {x : Out} (h : Inv s) (hinv : Inv s')
    (hev : isErrEv ev = false)
    (hx : (∃ n, x = Out.read n ∧ 0 < n ∧ R) ∨ (∃ n, x = Out.write n ∧ 0 < n))
    (hrelay : s'.relayEof = s.relayEof) (h0 : s.sawFin ≠ 2) (h2 : s'.sawFin = 2) :
    Stage R s (ev :: e) s' (x :: if s.relayEof then [Out.shutdown] else []) 0 e := by
  have fin : Stage R s e s' (if s.relayEof then [Out.shutdown] else []) 0 e := by
    cases hre : s.relayEof <;>
      exact
        { inv := hinv, cons := ⟨[], rfl, by simp⟩, rc := .inl rfl, noBands := by simp,
          shut := by simp [h0, h2, hre], cnt := by simp, relay := hrelay, mono := fun _ => h2,
          reads := by simp, writes := by simp }
  exact (Stage.call h hev hx e).trans fin

theorem inCount_pos {s : St} (h : Inv s) (hf : s.full = false) : 0 < inCount s := by
  unfold inCount
  split
  · simp [PUMP_SPLICE_COUNT]
  · next hs =>
    have hs' : s.splice = false := by simpa using hs
    have h1 := h.le_rw hs'
    have h2 := h.full_rw hs'
    have : s.bytes ≠ BUF_SIZE := fun hb => by rw [h2.mpr hb] at hf; cases hf
    omega

theorem inv_hasBuf {s : St} (h : Inv s) (b : Bool) : Inv { s with hasBuf := b } :=
  { h with }

theorem inv_buf_nil {s : St} (h : Inv s) (hb : s.bytes = 0) : s.buf = [] :=
  List.length_eq_zero_iff.mp (h.bytes_eq ▸ hb)

theorem tryInput_stage (s : St) (h : Inv s) (hf : s.full = false) (h0 : s.sawFin = 0) (evs : List Ev) {s' o r e}
    (hp : tryInput s evs = some (s', o, r, e)) : Stage (s.sawFin = 0 ∧ s.full = false) s evs s' o r e := by
  have hshut : s.shut = false := Bool.eq_false_iff.2 fun hs => by have := (h.shut_iff.mp hs).1; omega
  have hpos : 0 < inCount s ∧ s.sawFin = 0 ∧ s.full = false := ⟨inCount_pos h hf, h0, hf⟩
  have hrd : ∃ n, Out.read (inCount s) = Out.read n ∧ 0 < n ∧ s.sawFin = 0 ∧ s.full = false := ⟨_, rfl, hpos⟩
  -- one case per arm of `tryInput`, in source order; `cases hp` disposes of the arms that return `none`
  fun_induction tryInput s evs generalizing s' o r e <;> cases hp
  case case2 hrec ih => exact (Stage.call h rfl (.inl hrd) _).trans (ih hrec)  -- EINTR
  case case4 =>  -- error
    exact Stage.calls (c := [Ev.rdErr]) (inv_hasBuf h true) (by simp [isErrEv]) (.inr rfl) (by simpa using hpos)
      rfl Iff.rfl
  case case5 hsp v _ =>  -- EAGAIN on a splice pump holding data, then FIONREAD
    have hsp' : s.splice = true := by simp at hsp; exact hsp.1
    exact Stage.calls (c := [Ev.rdEagain, Ev.fion v])
      { h with full_rw := by simp [hsp'], le_rw := by simp [hsp'] } (by simp [isErrEv]) (.inl rfl)
      (by simpa using hpos) rfl Iff.rfl
  case case7 =>  -- EAGAIN
    exact Stage.calls (c := [Ev.rdEagain]) (inv_hasBuf h true) (by simp [isErrEv]) (.inl rfl)
      (by simpa using hpos) rfl Iff.rfl
  case case8 hb =>  -- EOF, nothing buffered
    have hbuf : s.buf = [] := inv_buf_nil h hb
    exact Stage.done h
      { h with fin_le := Nat.le_refl 2, done_emp := fun _ => hbuf, shut_iff := by simp [hshut], drain_ne := nofun }
      rfl (.inl hrd) rfl (by omega) rfl
  case case9 hb =>  -- EOF while draining
    exact Stage.calls (c := [Ev.rdEof])
      { h with fin_le := by simp, done_emp := nofun, shut_iff := by simp [hshut], drain_ne := fun _ => hb }
      (by simp [isErrEv]) (.inl rfl) (by simpa using hpos) rfl (by simp [h0])
  case case11 bs _ hlen _ =>  -- data
    have hlen2 : bs.length ≤ inCount s := Nat.le_of_not_gt fun hh => hlen (Or.inr hh)
    refine Stage.calls (c := [Ev.rdData bs])
      { h with stream := by simp [h.stream], bytes_eq := by simp +zetaDelta [h.bytes_eq],
               full_rw := fun hsp => ?_, le_rw := fun hsp => ?_, done_emp := fun h2 => ?_, drain_ne := fun h1 => ?_ }
      (by simp [isErrEv]) (.inl rfl) (by simpa using hpos) rfl Iff.rfl
    · have hsp' : s.splice = false := hsp
      simp [hsp', hf]
    · have hsp' : s.splice = false := hsp
      simp only [inCount, hsp'] at hlen2
      have := h.le_rw hsp'
      simp +zetaDelta at hlen2 ⊢
      omega
    · have : s.sawFin = 2 := h2
      omega
    · have : s.sawFin = 1 := h1
      omega

theorem tryOutput_stage (R : Prop) (s : St) (h : Inv s) (hb : s.bytes ≠ 0) (evs : List Ev) {s' o r e}
    (hp : tryOutput s evs = some (s', o, r, e)) : Stage R s evs s' o r e := by
  have hpos : 0 < s.bytes := Nat.pos_of_ne_zero hb
  have hne2 : s.sawFin ≠ 2 := fun h2 => hb (by rw [h.bytes_eq, h.done_emp h2]; rfl)
  -- one case per arm of `tryOutput`, in source order; `cases hp` disposes of the arms that return `none`
  fun_induction tryOutput s evs generalizing s' o r e <;> cases hp
  case case2 hrec ih => exact (Stage.call h rfl (.inr ⟨_, rfl, hpos⟩) _).trans (ih hrec)  -- EINTR
  case case4 =>  -- EAGAIN
    exact Stage.calls (c := [Ev.wrEagain]) h (by simp [isErrEv]) (.inl rfl) (by simpa using hpos) rfl Iff.rfl
  case case5 =>  -- error
    exact Stage.calls (c := [Ev.wrErr]) h (by simp [isErrEv]) (.inr rfl) (by simpa using hpos) rfl Iff.rfl
  case case6 =>  -- write returned 0
    exact Stage.calls (c := [Ev.wrZero]) h (by simp [isErrEv]) (.inr rfl) (by simpa using hpos) rfl Iff.rfl
  case case8 n _ hn bytes fin =>  -- n bytes written
    simp only [fin, bytes]
    have hn2 : n ≤ s.bytes := Nat.le_of_not_gt fun hh => hn (Or.inr hh)
    have hbe := h.bytes_eq
    have hstream : s.src = s.sink ++ List.take n s.buf ++ List.drop n s.buf := by
      rw [List.append_assoc, List.take_append_drop]; exact h.stream
    by_cases hfin : s.bytes - n = 0 ∧ s.sawFin = 1
    · -- the last buffered byte after EOF has been written
      obtain ⟨hz, h1⟩ := hfin
      have hshut : s.shut = false := Bool.eq_false_iff.2 fun hs => by have := (h.shut_iff.mp hs).1; omega
      have hB : 0 < BUF_SIZE := by simp [BUF_SIZE, PUMP_BUF_SIZE]
      simp only [hz, h1, beq_self_eq_true, Bool.and_self, Bool.true_and, if_true]
      exact Stage.done h
        { stream := hstream, bytes_eq := by simp; omega, fin_le := Nat.le_refl 2,
          full_rw := fun _ => by simp; omega, le_rw := fun _ => Nat.zero_le _,
          done_emp := fun _ => List.drop_eq_nil_of_le (by omega), shut_iff := by simp [hshut], drain_ne := nofun }
        rfl (.inr ⟨_, rfl, hpos⟩) rfl (by omega) rfl
    · have hfin' : (s.bytes - n == 0 && s.sawFin == 1) = false :=
        Bool.eq_false_iff.2 fun hh => hfin (by simpa using hh)
      simp only [hfin', Bool.false_and, Bool.false_eq_true, if_false]
      exact Stage.calls (c := [Ev.wrN n])
        { h with stream := hstream, bytes_eq := by simp; omega,
                 full_rw := fun hsp => by have := h.le_rw hsp; simp; omega,
                 le_rw := fun hsp => by have := h.le_rw hsp; simp; omega,
                 done_emp := fun h2 => (hne2 h2).elim, drain_ne := fun h1 hle => hfin ⟨hle, h1⟩ }
        (by simp [isErrEv]) (.inl rfl) (by simpa using hpos) rfl Iff.rfl

theorem inv_release {s : St} (h : Inv s) :
    Inv (if s.bytes = 0 then { s with hasBuf := false } else s) := by
  split
  · exact inv_hasBuf h false
  · exact h

/-- `stageIn`, `stageOut`: the two `let`-bound stages inside `pump`, named so that `pump_cases` can speak of them -/
def stageIn (s : St) (evs : List Ev) : Option (St × List Out × Int × List Ev) :=
  if !s.full && s.sawFin == 0 then tryInput s evs else some (s, [], 0, evs)

def stageOut (s : St) (evs : List Ev) : Option (St × List Out × Int × List Ev) :=
  if s.bytes != 0 then tryOutput s evs else some (s, [], 0, evs)

theorem pump_cases {s : St} {evs : List Ev} {s' o r e} (hp : pump s evs = some (s', o, r, e)) :
    ∃ s1 o1 r1 e1, stageIn s evs = some (s1, o1, r1, e1) ∧
      ((r1 ≠ 0 ∧ s' = { s1 with hasBuf := false } ∧ o = o1 ∧ r = -1 ∧ e = e1) ∨
       (r1 = 0 ∧ ∃ s2 o2 r2, stageOut s1 e1 = some (s2, o2, r2, e) ∧
         ((r2 ≠ 0 ∧ s' = { s2 with hasBuf := false } ∧ o = o1 ++ o2 ∧ r = -1) ∨
          (r2 = 0 ∧ ∃ b, bands s2 = some (b, r) ∧
            s' = (if s2.bytes = 0 then { s2 with hasBuf := false } else s2) ∧ o = o1 ++ o2 ++ [b])))) := by
  unfold pump at hp
  dsimp only at hp
  change (match stageIn s evs with | none => none | some (s1, o1, r1, evs1) => _) = _ at hp
  cases h1 : stageIn s evs with
  | none => simp [h1] at hp
  | some p1 =>
    obtain ⟨s1, o1, r1, e1⟩ := p1
    refine ⟨s1, o1, r1, e1, rfl, ?_⟩
    simp only [h1] at hp
    split at hp
    · next hr1 => cases hp; exact .inl ⟨by simpa using hr1, rfl, rfl, rfl, rfl⟩
    · next hr1 =>
      refine .inr ⟨by simpa using hr1, ?_⟩
      change (match stageOut s1 e1 with | none => none | some (s2, o2, r2, evs2) => _) = _ at hp
      cases h2 : stageOut s1 e1 with
      | none => simp [h2] at hp
      | some p2 =>
        obtain ⟨s2, o2, r2, e2⟩ := p2
        simp only [h2] at hp
        split at hp
        · next hr2 => cases hp; exact ⟨s2, o2, r2, rfl, .inl ⟨by simpa using hr2, rfl, rfl, rfl⟩⟩
        · next hr2 =>
          cases hb : bands s2 with
          | none => simp [hb] at hp
          | some pb =>
            obtain ⟨b, rb⟩ := pb
            simp only [hb, Option.some.injEq, Prod.mk.injEq] at hp
            obtain ⟨rfl, rfl, rfl, rfl⟩ := hp
            exact ⟨s2, o2, r2, rfl, .inr ⟨by simpa using hr2, b, hb, rfl, rfl⟩⟩

theorem pump_decomp (s : St) (evs : List Ev) (h : Inv s) {s' o r e}
    (hp : pump s evs = some (s', o, r, e)) :
    ∃ s2 o2 r2, Stage (s.sawFin = 0 ∧ s.full = false) s evs s2 o2 r2 e ∧
      ((r2 = -1 ∧ s' = { s2 with hasBuf := false } ∧ o = o2 ∧ r = -1) ∨
       (r2 = 0 ∧ ∃ b, bands s2 = some (b, r) ∧
          s' = (if s2.bytes = 0 then { s2 with hasBuf := false } else s2) ∧ o = o2 ++ [b])) := by
  obtain ⟨s1, o1, r1, e1, h1, hc⟩ := pump_cases hp
  have S1 : Stage (s.sawFin = 0 ∧ s.full = false) s evs s1 o1 r1 e1 := by
    unfold stageIn at h1
    split at h1
    · next hc => simp at hc; exact tryInput_stage s h hc.1 hc.2 evs h1
    · cases h1; exact Stage.refl h evs
  rcases hc with ⟨hr1, hs', ho, hr, he⟩ | ⟨rfl, s2, o2, r2, h2, hc⟩
  · exact ⟨s1, o1, r1, he ▸ S1, .inl ⟨S1.rc.resolve_left hr1, hs', ho, hr⟩⟩
  · have S2 : Stage (s.sawFin = 0 ∧ s.full = false) s1 e1 s2 o2 r2 e := by
      unfold stageOut at h2
      split at h2
      · next hc => exact tryOutput_stage _ _ S1.inv (by simpa using hc) _ h2
      · cases h2; exact Stage.refl S1.inv _
    refine ⟨s2, o1 ++ o2, r2, S1.trans S2, ?_⟩
    rcases hc with ⟨hr2, hc⟩ | ⟨rfl, hb⟩
    · exact .inl ⟨S2.rc.resolve_left hr2, hc⟩
    · exact .inr ⟨rfl, hb⟩

theorem bands_eq {s : St} {b : Out} {r : Int} (hb : bands s = some (b, r)) :
    b = Out.setBands (s.sawFin = 0 ∧ s.full = false) (s.sawFin ≠ 2 ∧ (s.sawFin = 1 ∨ s.bytes ≠ 0)) ∧
      (r = 0 ∨ r = 1) ∧ (r = 0 ↔ s.sawFin = 2) := by
  unfold bands at hb
  split at hb
  · next h0 =>
    simp only [Option.some.injEq, Prod.mk.injEq] at hb
    obtain ⟨rfl, rfl⟩ := hb
    cases hf : s.full <;> simp [h0, bne, BEq.beq]
  · next h1 =>
    simp only [Option.some.injEq, Prod.mk.injEq] at hb
    obtain ⟨rfl, rfl⟩ := hb
    simp [h1]
  · next h2 =>
    simp only [Option.some.injEq, Prod.mk.injEq] at hb
    obtain ⟨rfl, rfl⟩ := hb
    simp [h2]
  · simp at hb

theorem take_consumed {c e evs : List Ev} (h : evs = c ++ e) :
    evs.take (evs.length - e.length) = c := by
  subst h
  simp

theorem sink_prefix {s : St} (h : Inv s) : s.sink <+: s.src ∧ (s.sawFin = 2 → s.sink = s.src) :=
  ⟨by rw [h.stream]; exact List.prefix_append _ _, fun h2 => by rw [h.stream, h.done_emp h2, List.append_nil]⟩

theorem init_inv (sp re : Bool) : Inv (St.init sp re) := by
  constructor <;> simp [St.init, BUF_SIZE, PUMP_BUF_SIZE]

theorem pump_inv (s : St) (evs : List Ev) (h : Inv s) {s' o r e}
    (hp : pump s evs = some (s', o, r, e)) : Inv s' := by
  obtain ⟨s2, o2, r2, S, hc⟩ := pump_decomp s evs h hp
  rcases hc with ⟨_, rfl, _, _⟩ | ⟨_, b, _, rfl, _⟩
  · exact inv_hasBuf S.inv false
  · exact inv_release S.inv

theorem release_fields (s : St) :
    (if s.bytes = 0 then { s with hasBuf := false } else s).sawFin = s.sawFin ∧
    (if s.bytes = 0 then { s with hasBuf := false } else s).full = s.full ∧
    (if s.bytes = 0 then { s with hasBuf := false } else s).bytes = s.bytes := by
  split <;> exact ⟨rfl, rfl, rfl⟩

theorem ret_spec (s : St) (evs : List Ev) (h : Inv s) {s' o r e}
    (hp : pump s evs = some (s', o, r, e)) :
    (r = 0 ∨ r = 1 ∨ r = -1) ∧
    (r = 0 ↔ s'.sawFin = 2 ∧
      ¬ ∃ ev, ev ∈ evs.take (evs.length - e.length) ∧ isErrEv ev = true) ∧
    (r = -1 ↔ ∃ ev, ev ∈ evs.take (evs.length - e.length) ∧ isErrEv ev = true) := by
  obtain ⟨s2, o2, r2, S, hc⟩ := pump_decomp s evs h hp
  obtain ⟨c, hce, herr⟩ := S.cons
  rw [take_consumed hce]
  rcases hc with ⟨hr2, rfl, _, rfl⟩ | ⟨hr2, b, hb, rfl, _⟩
  · have hex := herr.mp hr2
    exact ⟨.inr (.inr rfl), ⟨nofun, fun hh => (hh.2 hex).elim⟩, fun _ => hex, fun _ => rfl⟩
  · obtain ⟨_, hr01, hr0⟩ := bands_eq hb
    have hnex : ¬ ∃ ev, ev ∈ c ∧ isErrEv ev = true := fun hh => by have := herr.mpr hh; omega
    rw [(release_fields s2).1, hr0]
    exact ⟨by omega, ⟨fun hh => ⟨hh, hnex⟩, (·.1)⟩, fun hh => by omega, fun hh => (hnex hh).elim⟩

theorem run_inv : ∀ (calls : List (List Ev)) (s0 : St), Inv s0 → ∀ {s rs},
    run s0 calls = some (s, rs) →
    Inv s ∧ (rs = [] → s = s0) ∧ (rs.head? = some 0 → s.sawFin = 2) := by
  intro calls
  induction calls with
  | nil =>
    intro s0 h0 s rs hr
    simp only [run, Option.some.injEq, Prod.mk.injEq] at hr
    obtain ⟨rfl, rfl⟩ := hr
    exact ⟨h0, fun _ => rfl, by simp⟩
  | cons evs rest ih =>
    intro s0 h0 s rs hr
    simp only [run] at hr
    split at hr
    · next s1 o1 r1 hp =>
      split at hr
      · simp at hr
      · cases hrest : run s1 rest with
        | none => simp [hrest] at hr
        | some p =>
          obtain ⟨s2, rs2⟩ := p
          simp only [hrest, Option.some.injEq, Prod.mk.injEq] at hr
          obtain ⟨rfl, rfl⟩ := hr
          have h1 := pump_inv s0 evs h0 hp
          obtain ⟨hi, hnil, hhead⟩ := ih s1 h1 hrest
          refine ⟨hi, by simp, ?_⟩
          cases rs2 with
          | nil =>
            intro hh
            simp at hh
            subst hh
            rw [hnil rfl]
            exact ((ret_spec s0 evs h0 hp).2.1.mp rfl).1
          | cons a as =>
            intro hh
            exact hhead (by simpa using hh)
    · simp at hr

end Ivy.Pump.Proofs
