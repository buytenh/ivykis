import Ivy.L3.WorkSpec
/-!
Proofs about the three machines of `Work.lean`.  For the pool, every action keeps `Inv` (`inv_step`): a step proves only
the clauses it touches, and what it leaves alone is carried by frame lemmas, one for each quantified clause (`winv_frame`
for another worker, `iinv_frame` for another item, `resp_frame` for whoever answers for the queue, `started_frame` for
the thread count); a worker's clause after a change to its own record is checked by `winv_self`; `inv_setW_idle` and
`inv_owner` do all this once for the steps that write one worker's record and its place on the idle list, or the
owner's side only, and the per-action lemmas cut the compound worker steps where the invariant holds again
(`enterPrep`/`afterPrep`, then `loopTail`, then `die`).  `step_frame` says what an action can change between two
states (life cycle, order of an item's phases, who frees the pool); the `stuck_*` lemmas say where each party of a
quiescent pool is, whence `no_lost_work` and `drained`.  The NULL pool and `iv_thread` follow, each a small machine
with one invariant checked action by action.
-/
namespace Ivy.Work
namespace Proofs

theorem cnt_eq (p : Nat → Bool) : ∀ n, cnt p n = (List.range n).countP p
  | 0 => rfl
  | n + 1 => by simp [cnt, cnt_eq p n, List.range_succ, List.countP_append, List.countP_cons]

theorem cnt_congr {p q : Nat → Bool} (n : Nat) (h : ∀ j, j < n → p j = q j) : cnt p n = cnt q n := by
  rw [cnt_eq, cnt_eq]; exact List.countP_congr (by simpa using h)

theorem cnt_flip {p q : Nat → Bool} {k : Nat} : ∀ n, k < n → (∀ j, j < n → j ≠ k → p j = q j) → p k = true → q k = false →
    cnt p n = cnt q n + 1
  | 0, hk, _, _, _ => by omega
  | n + 1, hk, h, hp, hq => by
    simp only [cnt]
    by_cases hkn : k = n
    · subst hkn
      rw [cnt_congr k (fun j hj => h j (by omega) (by omega)), hp, hq]; simp
    · rw [cnt_flip n (by omega) (fun j hj hne => h j (by omega) hne) hp hq, h n (by omega) (by omega)]; omega

theorem cnt_le {p q : Nat → Bool} (n : Nat) (h : ∀ j, j < n → p j = true → q j = true) : cnt p n ≤ cnt q n := by
  rw [cnt_eq, cnt_eq]; exact List.countP_mono_left (by simpa using h)

theorem cnt_pos {p : Nat → Bool} (n : Nat) (h : 0 < cnt p n) : ∃ k, k < n ∧ p k = true := by
  rw [cnt_eq, List.countP_pos_iff] at h; simpa using h

theorem cnt_eq_zero {p : Nat → Bool} (n : Nat) (h : ∀ k, k < n → p k = false) : cnt p n = 0 := by
  rw [cnt_eq, List.countP_eq_zero]; simpa using h

theorem cnt_mem_pos {p : Nat → Bool} {n k : Nat} (hk : k < n) (hp : p k = true) : 0 < cnt p n := by
  rw [cnt_eq, List.countP_pos_iff]; exact ⟨k, by simpa using hk, hp⟩


theorem inv_init (max : Nat) (hm : 1 ≤ max) : Inv (St.init max) := by
  constructor <;> simp [St.init, liveCount, cnt] <;> first | omega | skip

/-! Frames: each clause of the invariant reads a few fields only, and the hypothesis about a field defaults to "the step
leaves it alone". -/

/-- `hsi` is the `shut_idle` clause in the new state, for the one step that sets `shut` (`put`) -/
theorem winv_frame' {s s' : St} {j : Nat} (h : WInv s j)
    (hw : s'.w j = s.w j)
    (hsi : s'.shut = true → j ∈ s.idle → (s.w j).kickOwed = true ∨ (s.w j).pc = .gotPre)
    (hidle : j ∈ s'.idle ↔ j ∈ s.idle := by exact Iff.rfl)
    (hit : ∀ i, (s.w j).pc = .running i → s'.it i = s.it i := by intros; rfl)
    (hseq : s.seqTail ≤ s'.seqTail := by exact Nat.le_refl _) (hni : s.ni ≤ s'.ni := by exact Nat.le_refl _) :
    WInv s' j := by
  have h' := h
  cases h'
  constructor <;> (try rw [hw]) <;> (try rw [hidle]) <;> try assumption
  · intro hr; exact Nat.le_trans (h.run_seq hr) hseq
  · intro i hi
    have := h.run_item i hi
    rw [hit i hi]
    exact ⟨by omega, this.2⟩

theorem winv_frame {s s' : St} {j : Nat} (h : WInv s j)
    (hw : s'.w j = s.w j)
    (hidle : j ∈ s'.idle ↔ j ∈ s.idle := by exact Iff.rfl)
    (hit : ∀ i, (s.w j).pc = .running i → s'.it i = s.it i := by intros; rfl)
    (hshut : s'.shut = true → s.shut = true := by exact id)
    (hseq : s.seqTail ≤ s'.seqTail := by exact Nat.le_refl _) (hni : s.ni ≤ s'.ni := by exact Nat.le_refl _) :
    WInv s' j :=
  winv_frame' h hw (fun hs => h.shut_idle (hshut hs)) hidle hit hseq hni

/-- the `hit` of `winv_frame` for a step that writes item i only, where i is not in worker j's hands -/
theorem run_item_frame {s s' : St} {j i : Nat} (h : WInv s j)
    (hne : (s.it i).phase = .running → (s.it i).worker ≠ j) (hit : ∀ i', i' ≠ i → s'.it i' = s.it i') :
    ∀ i', (s.w j).pc = .running i' → s'.it i' = s.it i' :=
  fun i' hr => hit i' fun he => hne (he ▸ (h.run_item i' hr).2.1) (he ▸ (h.run_item i' hr).2.2)

theorem iinv_frame {s s' : St} {i : Nat} (h : IInv s i)
    (hr : (s.it i).phase = .running → s.nw ≤ s'.nw ∧ (s'.w (s.it i).worker).pc = (s.w (s.it i).worker).pc)
    (hit : s'.it i = s.it i := by rfl) (hq : i ∈ s'.queue ↔ i ∈ s.queue := by exact Iff.rfl)
    (hd : i ∈ s'.done ++ s'.owner.batch ↔ i ∈ s.done ++ s.owner.batch := by exact Iff.rfl) : IInv s' i := by
  have h' := h
  cases h'
  constructor <;> (try rw [hit]) <;> (try rw [hq]) <;> (try rw [hd]) <;> try assumption
  intro hp
  have := h.r_imp hp
  have := hr hp
  exact ⟨by omega, by rw [this.2]; exact (h.r_imp hp).2⟩

theorem iinv_frame_w {s s' : St} {k i : Nat} (h : IInv s i) (hw : ∀ j, j ≠ k → s'.w j = s.w j)
    (hrun : (s.w k).pc = .running i → (s'.w k).pc = .running i)
    (hit : s'.it i = s.it i := by rfl) (hq : i ∈ s'.queue ↔ i ∈ s.queue := by exact Iff.rfl)
    (hd : i ∈ s'.done ++ s'.owner.batch ↔ i ∈ s.done ++ s.owner.batch := by exact Iff.rfl)
    (hnw : s.nw ≤ s'.nw := by exact Nat.le_refl _) : IInv s' i := by
  refine iinv_frame h (fun hp => ⟨hnw, ?_⟩) hit hq hd
  have := (h.r_imp hp).2
  by_cases hjk : (s.it i).worker = k
  · rw [hjk] at this ⊢; rw [hrun this, this]
  · rw [hw _ hjk]

theorem liveCount_congr {s s' : St} (hn : s'.nw = s.nw) (hl : ∀ j, j < s.nw → (s'.w j).pc.live = (s.w j).pc.live) :
    liveCount s' = liveCount s := by
  unfold liveCount
  rw [hn]
  exact cnt_congr _ hl

theorem started_frame {s s' : St} (h : Inv s) (hn : s'.nw = s.nw)
    (hl : ∀ j, j < s.nw → (s'.w j).pc.live = (s.w j).pc.live) : s.started = liveCount s' := by
  rw [h.started_eq, liveCount_congr hn hl]

theorem live_pos {s : St} (h : Inv s) {k : Nat} (hk : k < s.nw) (hl : (s.w k).pc.live = true) : 0 < s.started := by
  rw [h.started_eq]
  exact cnt_mem_pos (p := fun k => (s.w k).pc.live) hk hl

theorem not_freed_of {s : St} (h : Inv s) (hne : ¬ (s.shut = true ∧ s.started = 0 ∧ s.queue = [] ∧ s.done = [] ∧
    s.owner = .idle ∧ s.evOwed = false ∧ s.tnOwed = false)) : s.freed = false := by
  cases hf : s.freed
  · rfl
  · exact absurd (h.freed_imp hf) hne

theorem live_not_freed {s : St} (h : Inv s) {k : Nat} (hk : k < s.nw) (hl : (s.w k).pc.live = true) : s.freed = false :=
  not_freed_of h fun hf => by have := live_pos h hk hl; omega

theorem owner_not_idle_not_freed {s : St} (h : Inv s) (ho : s.owner ≠ .idle) : s.freed = false :=
  not_freed_of h fun hf => ho hf.2.2.2.2.1

theorem handle_not_freed {s : St} (h : Inv s) (hh : s.handle = true) : s.freed = false :=
  not_freed_of h fun hf => by have := h.handle_shut.1 hh; simp_all

theorem resp_frame {s s' : St} {j : Nat} (h : Resp s j) (hw : s'.w j = s.w j)
    (hidle : j ∈ s'.idle → j ∈ s.idle := by exact id) : Resp s' j := by
  unfold Resp at *
  rw [hw]
  split <;> simp_all
  all_goals grind

theorem owed_live {s : St} (h : Inv s) (hpos : 0 < s.started) (hq : s.queue ≠ []) : ∃ k, k < s.nw ∧ Resp s k := by
  rcases h.owed hq with hr | hr
  · exact hr
  · omega

theorem resp_live {s : St} {k : Nat} (h : Resp s k) : (s.w k).pc.live = true := by
  unfold Resp at h
  split at h <;> simp_all [WPc.live]

theorem tn_of_started_zero {s : St} (h : Inv s) (h0 : s.started = 0) (hq : s.queue ≠ []) :
    s.tnOwed = true ∨ s.owner = .tnPre := by
  rcases h.owed hq with ⟨k, hk, hr⟩ | hr
  · have := live_pos h hk (resp_live hr)
    omega
  · exact hr.2

theorem resp_of_live_nonidle {s : St} (h : Inv s) {k : Nat} (hk : k < s.nw) (hl : (s.w k).pc.live = true)
    (hni : k ∉ s.idle) : Resp s k := by
  have := (h.wk k hk).nonidle hl hni
  unfold Resp
  rcases this with hp | hp | hp | hp | hp
  · simp [hp]
  · simp [hp]
  · simp [hp]
  · revert hp; cases (s.w k).pc <;> simp [WPc.isRunning]
  · simp [hp.1, hp.2, hni]

theorem off_idle {s : St} {k : Nat} (h : WInv s k) (hni : k ∉ s.idle) :
    (s.w k).kicked = false ∧ (s.w k).timerReg = false :=
  ⟨Bool.eq_false_iff.2 fun hc => hni (h.kicked_imp hc).1, Bool.eq_false_iff.2 fun hc => hni (h.timer_iff.1 hc).1⟩

/-- the clauses of `WInv`, as a predicate on what they read: a step is checked on these, not on the whole state -/
structure WRec (k : Nat) (w : Worker) (onIdle shut : Prop) (seqTail ni : Nat) (it : Nat → Item) : Prop where
  idle_pc   : onIdle → w.pc = .parked ∨ w.pc = .gotPre ∨ w.pc = .toPre
  timer_iff : w.timerReg = true ↔ (onIdle ∧ w.pc ≠ .toPre)
  kicked_imp : w.kicked = true → onIdle ∧ (w.kickOwed = true ∨ w.pc = .gotPre)
  nonidle   : w.pc.live = true → ¬ onIdle →
                w.pc = .starting ∨ w.pc = .selfkick ∨ w.pc = .gotPre ∨ w.pc.isRunning = true ∨
                (w.pc = .parked ∧ w.kickOwed = true)
  kickreg_iff : w.kickReg = true ↔ (w.pc.live = true ∧ w.pc ≠ .starting)
  owed_reg  : w.kickOwed = true → w.kickReg = true
  shut_idle : shut → onIdle → w.kickOwed = true ∨ w.pc = .gotPre
  run_seq   : w.pc.isRunning = true → w.lastSeq ≤ seqTail
  run_item  : ∀ i, w.pc = .running i → i < ni ∧ (it i).phase = .running ∧ (it i).worker = k
  starts_eq : w.starts = if w.pc = .starting then 0 else 1
  stops_eq  : w.stops = if w.pc.live then 0 else 1
  dead_reg  : w.deadReg = true ↔ w.pc ≠ .joined
  dead_owed : w.deadOwed = true ↔ w.pc = .exited

theorem winv_iff (s : St) (k : Nat) :
    WInv s k ↔ WRec k (s.w k) (k ∈ s.idle) (s.shut = true) s.seqTail s.ni s.it :=
  ⟨fun ⟨h1, h2, h3, h4, h5, h6, h7, h8, h9, h10, h11, h12, h13⟩ => ⟨h1, h2, h3, h4, h5, h6, h7, h8, h9, h10, h11, h12, h13⟩,
   fun ⟨h1, h2, h3, h4, h5, h6, h7, h8, h9, h10, h11, h12, h13⟩ => ⟨h1, h2, h3, h4, h5, h6, h7, h8, h9, h10, h11, h12, h13⟩⟩

/-- `winv_self hwk`, with `hwk : WInv s k`, proves a goal `WInv s' k` where `s'` changes worker k's record (and possibly
its membership of the idle list, `shut`, the items).
Its `simp_all` reads every hypothesis in scope, so the caller must have there what fixes the old record: its place (`hpc`,
or the guard `hc` of the step) and, where the step depends on them, `k ∉ s.idle`, `kicked = false`, `timerReg = false`,
`lastSeq ≤ seqTail`, `i < s.ni`.  Such hypotheses are used here even where the call site does not name them.
For the same reason two equations in scope that rewrite into each other (`seqTail = seqHead + queue.length` beside
`seqHead = seqTail`) send its `simp_all` round in a circle: clear one of them before the call. -/
macro "winv_self" hwk:ident : tactic => `(tactic|
  (rw [winv_iff] at $hwk:ident ⊢
   simp only [setW, setI, enq0, if_true] at ⊢
   cases $hwk:ident
   simp_all [WPc.live, WPc.isRunning]
   constructor <;> (try simp [WPc.live, WPc.isRunning, *]) <;> assumption))

theorem inv_setW_idle {s : St} {k : Nat} {f : Worker → Worker} {l : List Nat} (h : Inv s) (hk : k < s.nw)
    (hl : ∀ j, j ≠ k → (j ∈ l ↔ j ∈ s.idle)) (hnd : l.Nodup)
    (hlive : (f (s.w k)).pc.live = (s.w k).pc.live)
    (hrun : ∀ i, (s.w k).pc = .running i → (f (s.w k)).pc = .running i)
    (hresp : s.queue ≠ [] → Resp s k → Resp { setW s k f with idle := l } k)
    (hw : WInv { setW s k f with idle := l } k) : Inv { setW s k f with idle := l } :=
  { h with
    idle_nodup := hnd
    idle_lt := fun j hj => by
      by_cases hjk : j = k
      · exact hjk ▸ hk
      · exact h.idle_lt j ((hl j hjk).1 hj)
    wk := by
      intro j hj
      by_cases hjk : j = k
      · subst hjk; exact hw
      · exact winv_frame (h.wk j hj) (by simp [setW, hjk]) (hl j hjk)
    started_eq := started_frame (s := s) h rfl (by intro j _; by_cases hjk : j = k <;> simp [setW, hjk, hlive])
    items := fun i hi =>
      iinv_frame_w (k := k) (h.items i hi) (by intro j hjk; simp [setW, hjk]) (by simpa [setW] using hrun i)
    owed := by
      intro hq
      rcases h.owed hq with ⟨j, hj, hr⟩ | hr
      · refine Or.inl ⟨j, hj, ?_⟩
        by_cases hjk : j = k
        · subst hjk; exact hresp hq hr
        · exact resp_frame hr (by simp [setW, hjk]) (hl j hjk).1
      · exact Or.inr hr }

theorem inv_setW {s : St} {k : Nat} {f : Worker → Worker} (h : Inv s) (hk : k < s.nw)
    (hlive : (f (s.w k)).pc.live = (s.w k).pc.live)
    (hrun : ∀ i, (s.w k).pc = .running i → (f (s.w k)).pc = .running i)
    (hresp : Resp s k → Resp (setW s k f) k)
    (hw : WInv (setW s k f) k) : Inv (setW s k f) :=
  inv_setW_idle (l := s.idle) h hk (fun _ _ => Iff.rfl) h.idle_nodup hlive hrun (fun _ => hresp) hw

/-- a step that writes only `owner`, `done`, `evOwed`, `tnOwed`, `freed`: those of `iv_work_event` and
`iv_work_thread_needed` that start no thread, and a foreign submission's post of `thread_needed` -/
theorem inv_owner {s : St} (h : Inv s) {o : OPc} {d : List Nat} {ev tn fr : Bool}
    (hd : d ++ o.batch = s.done ++ s.owner.batch)
    (htn : s.queue ≠ [] → s.started = 0 → tn = true ∨ o = .tnPre)
    (hev : d ≠ [] → ev = true ∨ o = .evPre)
    (hfr : fr = true → s.shut = true ∧ s.started = 0 ∧ s.queue = [] ∧ d = [] ∧ o = .idle ∧ ev = false ∧ tn = false)
    (hse : s.shut = true → s.started = 0 → fr = false →
      ev = true ∨ o = .evPre ∨ (∃ b, o = .compl b) ∨ (s.queue ≠ [] ∧ (tn = true ∨ o = .tnPre))) :
    Inv { s with owner := o, done := d, evOwed := ev, tnOwed := tn, freed := fr } :=
  { h with
    wk := fun k hk => winv_frame (h.wk k hk) rfl
    done_nodup := by show (d ++ o.batch).Nodup; rw [hd]; exact h.done_nodup
    done_lt := by show ∀ i ∈ d ++ o.batch, i < s.ni; rw [hd]; exact h.done_lt
    items := fun i hi => iinv_frame (h.items i hi) (fun _ => ⟨Nat.le_refl _, rfl⟩) rfl Iff.rfl
      (by show i ∈ d ++ o.batch ↔ _; rw [hd])
    owed := by
      intro hq
      rcases h.owed hq with ⟨k, hk, hr⟩ | hr
      · exact Or.inl ⟨k, hk, resp_frame hr rfl⟩
      · exact Or.inr ⟨hr.1, htn hq hr.1⟩
    done_owed := hev
    freed_imp := hfr
    shut_ev := hse }

theorem inv_oEv {s s' : St} (h : Inv s) (hs : step s .oEv = some s') : Inv s' := by
  simp only [step] at hs
  split at hs <;> simp at hs
  subst hs
  rename_i hc
  obtain ⟨ho, he, hf⟩ := hc
  refine inv_owner h (o := .evPre) (d := s.done) (tn := s.tnOwed) (by simp [ho]) ?_ (fun _ => Or.inr rfl) (by simp [hf])
    (fun _ _ _ => Or.inr (Or.inl rfl))
  intro hq h0
  exact Or.inl ((tn_of_started_zero h h0 hq).resolve_right (by simp [ho]))

theorem inv_oSteal {s s' : St} (h : Inv s) (hs : step s .oSteal = some s') : Inv s' := by
  simp only [step] at hs
  split at hs <;> simp at hs
  subst hs
  rename_i ho
  have hnf := owner_not_idle_not_freed h (by simp [ho])
  refine inv_owner h (o := .compl s.done) (d := []) (ev := s.evOwed) (tn := s.tnOwed) (by simp [ho]) ?_ (by simp) (by simp [hnf])
    (fun _ _ _ => Or.inr (Or.inr (Or.inl ⟨_, rfl⟩)))
  intro hq h0
  exact Or.inl ((tn_of_started_zero h h0 hq).resolve_right (by simp [ho]))

theorem inv_oTn {s s' : St} (h : Inv s) (hs : step s .oTn = some s') : Inv s' := by
  simp only [step] at hs
  split at hs <;> simp at hs
  subst hs
  rename_i hc
  obtain ⟨ho, he, hf⟩ := hc
  refine inv_owner h (o := .tnPre) (d := s.done) (ev := s.evOwed) (by simp [ho]) (fun _ _ => Or.inr rfl) ?_ (by simp [hf]) ?_
  · intro hd; exact Or.inl ((h.done_owed hd).resolve_right (by simp [ho]))
  · intro hsh h0 _
    rcases h.shut_ev hsh h0 hf with he | he | ⟨b, he⟩ | ⟨hq, _⟩
    · exact Or.inl he
    · simp [ho] at he
    · simp [ho] at he
    · exact Or.inr (Or.inr (Or.inr ⟨hq, Or.inr rfl⟩))

theorem inv_oFinish {s s' : St} (h : Inv s) (hs : step s .oFinish = some s') : Inv s' := by
  simp only [step] at hs
  split at hs <;> try simp at hs
  rename_i ho
  split at hs <;> simp at hs <;> subst hs
  · rename_i hc
    obtain ⟨hsh, hst, hd, hq⟩ := hc
    exact inv_owner h (o := .idle) (d := s.done) (by simp [ho]) (fun hne => absurd hq hne) (fun hne => absurd hd hne)
      (fun _ => ⟨hsh, hst, hq, hd, rfl, rfl, rfl⟩) (by simp)
  · rename_i hc
    have hnf := owner_not_idle_not_freed h (by simp [ho])
    refine inv_owner h (o := .idle) (d := s.done) (ev := s.evOwed) (tn := s.tnOwed) (by simp [ho]) ?_ ?_ (by simp [hnf]) ?_
    · intro hq h0
      exact Or.inl ((tn_of_started_zero h h0 hq).resolve_right (by simp [ho]))
    · intro hd; exact Or.inl ((h.done_owed hd).resolve_right (by simp [ho]))
    · intro hsh hst _
      by_cases hd : s.done = []
      · have hq : s.queue ≠ [] := fun hq => hc ⟨hsh, hst, hd, hq⟩
        exact Or.inr (Or.inr (Or.inr ⟨hq, Or.inl ((tn_of_started_zero h hst hq).resolve_right (by simp [ho]))⟩))
      · exact Or.inl ((h.done_owed hd).resolve_right (by simp [ho]))

theorem inv_oComplete {s s' : St} (h : Inv s) (hs : step s .oComplete = some s') : Inv s' := by
  simp only [step] at hs
  split at hs <;> simp at hs
  subst hs
  rename_i i b ho
  have hnf := owner_not_idle_not_freed h (by simp [ho])
  have hb : s.owner.batch = i :: b := by simp [ho]
  have hnd := h.done_nodup
  have hlt := h.done_lt
  rw [hb] at hnd hlt
  have hi : i < s.ni := hlt i (by simp)
  have hii := h.items i hi
  have hph : (s.it i).phase = .done := hii.d_iff.2 (by simp [hb])
  have hnotin : i ∉ s.done ++ b := by
    intro hm
    have := List.nodup_append.1 hnd
    simp at hm
    rcases hm with hm | hm
    · exact this.2.2 i hm i (by simp) rfl
    · have := this.2.1; simp_all
  exact { h with
    wk := by
      intro k hk
      exact winv_frame (h.wk k hk) rfl Iff.rfl
        (run_item_frame (i := i) (h.wk k hk) (by simp [hph]) fun i' hne => by simp [setI, hne])
    done_nodup := hnd.sublist (List.Sublist.append_left (List.sublist_cons_self _ _) _)
    done_lt := by
      intro x hx
      apply hlt
      simp [setI] at hx ⊢
      rcases hx with hx | hx <;> simp [hx]
    items := by
      intro i' hi'
      by_cases he : i' = i
      · subst he
        have h1 := hii.q_iff; have h4 := hii.work_cnt; have h5 := hii.compl_cnt
        constructor
        · simp [setI, ← h1, hph]
        · simp [setI]
        · simp [setI]; simpa using hnotin
        · simp [setI, h4, hph]
        · simp [setI, h5, hph]
      · exact iinv_frame (h.items i' hi') (fun _ => ⟨Nat.le_refl _, rfl⟩) (by simp [setI, he]) Iff.rfl
          (by simp [setI, hb, he])
    owed := by
      intro hq
      rcases h.owed hq with ⟨k, hk, hr⟩ | hr
      · exact Or.inl ⟨k, hk, resp_frame hr rfl⟩
      · exact Or.inr ⟨hr.1, Or.inl (hr.2.resolve_right (by simp [ho]))⟩
    done_owed := by have := h.done_owed; simp_all [setI]
    freed_imp := by simp [setI, hnf]
    shut_ev := by simp [setI] }

theorem liveCount_startThread (s : St) : liveCount (startThread s) = liveCount s + 1 := by
  unfold liveCount startThread
  simp only [cnt]
  rw [cnt_congr (q := fun k => (s.w k).pc.live) s.nw (by intro j hj; simp [Nat.ne_of_lt hj])]
  simp [WPc.live]

theorem inv_startThread {s : St} (h : Inv s) (hnf : s.freed = false) (hlt : s.started < s.max) : Inv (startThread s) := by
  have hnotidle : s.nw ∉ s.idle := fun hm => by have := h.idle_lt _ hm; omega
  exact { h with
    idle_lt := by intro k hk; have := h.idle_lt k hk; simp [startThread]; omega
    wk := by
      intro k hk
      by_cases hkn : k = s.nw
      · subst hkn
        constructor <;> simp [startThread, WPc.live, WPc.isRunning, hnotidle]
      · have hk' : k < s.nw := by simp [startThread] at hk; omega
        exact winv_frame (h.wk k hk') (by simp [startThread, hkn])
    started_eq := by
      rw [liveCount_startThread]
      show s.started + 1 = liveCount s + 1
      rw [← h.started_eq]
    started_le := by show s.started + 1 ≤ s.max; omega
    items := by
      intro i hi
      refine iinv_frame (h.items i hi) ?_
      intro hp
      have := (h.items i hi).r_imp hp
      exact ⟨by simp [startThread], by simp [startThread, Nat.ne_of_lt this.1]⟩
    owed := fun _ => Or.inl ⟨s.nw, by simp [startThread], by simp [Resp, startThread]⟩
    freed_imp := by intro hf; simp [startThread, hnf] at hf
    shut_ev := by intro _ h0; simp [startThread] at h0 }

theorem inv_oTnStart {s : St} (h : Inv s) (ho : s.owner = .tnPre) (hlt : s.started < s.max) :
    Inv (startThread { s with owner := .idle }) := by
  have hnf := owner_not_idle_not_freed h (by simp [ho])
  refine inv_owner (inv_startThread h hnf hlt) (o := .idle) (d := s.done) (ev := s.evOwed) (tn := s.tnOwed) (fr := s.freed)
    (by simp [startThread, ho]) (fun _ h0 => by simp [startThread] at h0) ?_ (by simp [hnf]) (fun _ h0 => by simp [startThread] at h0)
  intro hd; exact Or.inl ((h.done_owed hd).resolve_right (by simp [ho]))

theorem idle_live {s : St} (h : Inv s) {k : Nat} (hk : k ∈ s.idle) : (s.w k).pc.live = true := by
  have := (h.wk k (h.idle_lt k hk)).idle_pc hk
  rcases this with h | h | h <;> simp [h, WPc.live]

/-- posting the kick of a worker that is on the idle list (`put`, or a submission that also marks it `kicked`) -/
theorem winv_kick_idle {s s' : St} {k : Nat} (h : Inv s) (hm : k ∈ s.idle) {kd : Bool}
    (hw : s'.w k = { s.w k with kicked := kd, kickOwed := true }) (hidle : k ∈ s'.idle ↔ k ∈ s.idle := by exact Iff.rfl) :
    WInv s' k := by
  have hwk := h.wk k (h.idle_lt k hm)
  have hp := hwk.idle_pc hm
  -- it is parked or about to look at the queue, so its kick is registered, and it is not inside a work function
  have hreg : (s.w k).kickReg = true :=
    hwk.kickreg_iff.2 ⟨idle_live h hm, by rcases hp with hp | hp | hp <;> simp [hp]⟩
  have hnr : ∀ i, (s.w k).pc ≠ .running i := by intro i; rcases hp with hp | hp | hp <;> simp [hp]
  cases hwk
  constructor <;> rw [hw] <;> (try rw [hidle]) <;> try assumption
  · exact fun _ => ⟨hm, Or.inl rfl⟩
  · exact fun _ hni => absurd hm hni
  · exact fun _ => hreg
  · exact fun _ _ => Or.inl rfl
  · intro hr; rcases hp with hp | hp | hp <;> simp [hp, WPc.isRunning] at hr
  · exact fun i hr => absurd hr (hnr i)

theorem idle_empty_of_started_zero {s : St} (h : Inv s) (h0 : s.started = 0) : s.idle = [] := by
  cases hq : s.idle with
  | nil => rfl
  | cons a l =>
    have hm : a ∈ s.idle := by simp [hq]
    have := live_pos h (h.idle_lt a hm) (idle_live h hm)
    omega

theorem inv_oTnRun {s s' : St} (h : Inv s) (hs : step s .oTnRun = some s') : Inv s' := by
  simp only [step] at hs
  split at hs <;> try simp at hs
  rename_i ho
  split at hs <;> simp at hs <;> subst hs
  · rename_i hc
    exact inv_oTnStart h ho hc.2
  · rename_i hc
    -- nothing to start: an idle thread exists or the pool is at its maximum, so some thread is alive
    have hpos : 0 < s.started := by
      rcases Nat.eq_zero_or_pos s.started with h0 | h0
      · exact absurd ⟨idle_empty_of_started_zero h h0, by have := h.max_pos; omega⟩ hc
      · exact h0
    have hnf := owner_not_idle_not_freed h (by simp [ho])
    refine inv_owner h (o := .idle) (d := s.done) (ev := s.evOwed) (tn := s.tnOwed) (by simp [ho]) (by omega) ?_ (by simp [hnf])
      (by omega)
    intro hd; exact Or.inl ((h.done_owed hd).resolve_right (by simp [ho]))

theorem inv_put {s s' : St} (h : Inv s) (hs : step s .put = some s') : Inv s' := by
  simp only [step] at hs
  split at hs <;> try simp at hs
  rename_i hc
  obtain ⟨hh, hu⟩ := hc
  have hnf := handle_not_freed h hh
  split at hs <;> simp at hs <;> subst hs
  · rename_i h0
    have hidle := idle_empty_of_started_zero h h0
    exact { h with
      wk := fun k hk => winv_frame' (h.wk k hk) rfl (by intro _ hm; rw [hidle] at hm; simp at hm)
      items := fun i hi => iinv_frame (h.items i hi) (fun _ => ⟨Nat.le_refl _, rfl⟩)
      owed := by
        intro hq
        rcases h.owed hq with ⟨k, hk, hr⟩ | hr
        · exact Or.inl ⟨k, hk, resp_frame hr rfl⟩
        · exact Or.inr hr
      done_owed := by simp
      handle_shut := by simp
      freed_imp := by simp [hnf]
      shut_ev := by simp }
  · rename_i h0
    exact { h with
      wk := by
        intro k hk
        have hwk := h.wk k hk
        by_cases hm : k ∈ s.idle
        · exact winv_kick_idle h hm (kd := (s.w k).kicked) (by simp [hm])
        · exact winv_frame' hwk (by simp [hm]) (fun _ hm' => absurd hm' hm)
      started_eq := started_frame (s := s) h rfl (by intro j _; by_cases hm : j ∈ s.idle <;> simp [hm])
      items := by
        intro i hi
        refine iinv_frame (h.items i hi) (fun _ => ⟨Nat.le_refl _, ?_⟩)
        by_cases hm : (s.it i).worker ∈ s.idle <;> simp [hm]
      owed := by
        intro hq
        obtain ⟨k, hk, hr⟩ := owed_live h (Nat.pos_of_ne_zero h0) hq
        refine Or.inl ⟨k, hk, ?_⟩
        unfold Resp at *
        by_cases hm : k ∈ s.idle
        · simp [hm] at hr ⊢; split at hr <;> simp_all
        · simp [hm] at hr ⊢; exact hr
      handle_shut := by simp
      freed_imp := by simp [hnf]
      shut_ev := fun _ hst => absurd hst h0 }

theorem die_inv {s : St} {k : Nat} (h : Inv s) (hk : k < s.nw)
    (hpc : (s.w k).pc = .gotPre ∨ (s.w k).pc = .toPre)
    (hkick : (s.w k).kicked = false) (ht : (s.w k).timerReg = false)
    (hq : s.queue ≠ [] → ∃ k', k' ≠ k ∧ k' < s.nw ∧ Resp s k') :
    Inv (die { s with idle := s.idle.filter (· ≠ k) } k) := by
  have hkl : k ∉ s.idle.filter (· ≠ k) := by simp
  have hself : WInv (setW { s with idle := s.idle.filter (· ≠ k) } k
      (fun w => { w with kickReg := false, kickOwed := false, stops := w.stops + 1, pc := .dying })) k := by
    -- the dying worker keeps from its old record only that thread_start ran, thread_stop did not, and `dead` is untouched
    have hwk := h.wk k hk
    have hold : (s.w k).starts = 1 ∧ (s.w k).stops = 0 ∧ (s.w k).deadReg = true ∧ ¬ (s.w k).deadOwed = true := by
      rcases hpc with hpc | hpc <;>
        simp [hwk.starts_eq, hwk.stops_eq, hwk.dead_reg, hwk.dead_owed, hpc, WPc.live]
    constructor <;> simp [setW, WPc.live, WPc.isRunning, hkick, ht, hold]
  have hlive : (s.w k).pc.live = true := by rcases hpc with h | h <;> simp [h, WPc.live]
  have hnf := live_not_freed h hk hlive
  have hmem : ∀ j, j ≠ k → (j ∈ s.idle.filter (· ≠ k) ↔ j ∈ s.idle) := by intro j hj; simp [hj]
  have hlc : liveCount s = liveCount (setW s k (fun w => { w with kickReg := false, kickOwed := false, stops := w.stops + 1, pc := .dying })) + 1 := by
    unfold liveCount
    refine cnt_flip (k := k) _ hk ?_ hlive ?_
    · intro j _ hj; simp [setW, hj]
    · simp [setW, WPc.live]
  have hnr : ∀ i, (s.w k).pc ≠ .running i := by intro i; rcases hpc with h | h <;> simp [h]
  unfold die
  simp only [hkick, hkl, or_self, Bool.false_eq_true, if_false]
  -- with or without the post to the owner, the rest of the invariant is the same
  have core : ∀ ev : Bool, (s.evOwed = true → ev = true) → (s.shut = true → s.started - 1 = 0 → ev = true) →
      Inv { setW { s with idle := s.idle.filter (· ≠ k) } k
              (fun w => { w with kickReg := false, kickOwed := false, stops := w.stops + 1, pc := .dying }) with
            started := s.started - 1, evOwed := ev } := by
    intro ev hev hlast
    exact { h with
      idle_nodup := h.idle_nodup.filter _
      idle_lt := fun j hj => h.idle_lt j (List.mem_filter.1 hj).1
      wk := by
        intro j hj
        by_cases hjk : j = k
        · subst hjk; exact winv_frame hself rfl
        · exact winv_frame (h.wk j hj) (by simp [setW, hjk]) (hmem j hjk)
      started_eq := by show s.started - 1 = _; rw [h.started_eq, hlc]; simp; rfl
      started_le := by show s.started - 1 ≤ s.max; have := h.started_le; omega
      items := fun i hi =>
        iinv_frame_w (k := k) (h.items i hi) (by intro j hjk; simp [setW, hjk]) (fun hr => absurd hr (hnr i))
      owed := by
        intro hqne
        obtain ⟨k', hne, hk', hr⟩ := hq hqne
        exact Or.inl ⟨k', hk', resp_frame hr (by simp [setW, hne]) (hmem k' hne).1⟩
      done_owed := fun hd => (h.done_owed hd).imp_left hev
      freed_imp := by intro hf; simp [setW, hnf] at hf
      shut_ev := fun hsh hst _ => Or.inl (hlast hsh hst) }
  split
  · exact core true (fun _ => rfl) (fun _ _ => rfl)
  · rename_i hif
    exact core s.evOwed id (fun hsh hst => absurd ⟨hsh, hst⟩ hif)

theorem loopTail_inv {s : St} {k : Nat} (h : Inv s) (hk : k < s.nw) (hpc : (s.w k).pc = .gotPre)
    (hni : k ∉ s.idle) (hls : (s.w k).lastSeq ≤ s.seqTail) : Inv (loopTail s k) := by
  have hlive : (s.w k).pc.live = true := by simp [hpc, WPc.live]
  have hnf := live_not_freed h hk hlive
  have hpos := live_pos h hk hlive
  have hwk := h.wk k hk
  obtain ⟨hkick, htm⟩ := off_idle hwk hni
  have hseq := h.seq
  unfold loopTail
  split
  · -- take the next item
    split
    · rename_i i q hq
      have hiq : i ∈ s.queue := by simp [hq]
      have hi : i < s.ni := h.queue_lt i hiq
      have hii := h.items i hi
      have hph : (s.it i).phase = .queued := hii.q_iff.2 hiq
      have hqn := h.queue_nodup
      rw [hq] at hqn
      have hind : i ∉ s.done ++ s.owner.batch := mt hii.d_iff.2 (by simp [hph])
      exact { h with
        seq := by show s.seqTail = s.seqHead + 1 + q.length; rw [hseq, hq]; simp; omega
        wk := by
          intro j hj
          by_cases hjk : j = k
          · subst hjk; winv_self hwk
          · exact winv_frame (h.wk j hj) (by simp [setW, setI, hjk]) Iff.rfl
              (run_item_frame (i := i) (h.wk j hj) (by simp [hph]) fun i' hne => by simp [setW, setI, hne])
        started_eq := started_frame (s := s) h rfl
          (by intro j _; by_cases hjk : j = k <;> simp [setW, setI, hjk, hpc, WPc.live])
        queue_nodup := (List.nodup_cons.1 hqn).2
        queue_lt := fun x hx => h.queue_lt x (by rw [hq]; exact List.mem_cons_of_mem _ hx)
        items := by
          intro i' hi'
          by_cases he : i' = i
          · subst he
            have h4 := hii.work_cnt; have h5 := hii.compl_cnt
            constructor
            · simp [setW, setI]; exact (List.nodup_cons.1 hqn).1
            · intro _; simp [setW, setI]; exact hk
            · simp [setW, setI]; simpa using hind
            · simp [setW, setI, h4, hph]
            · simp [setW, setI, h5, hph]
          · exact iinv_frame_w (k := k) (h.items i' hi') (by intro j hjk; simp [setW, setI, hjk]) (by simp [hpc])
              (by simp [setW, setI, he]) (by show i' ∈ q ↔ i' ∈ s.queue; rw [hq]; simp [he])
        owed := fun _ => Or.inl ⟨k, hk, by simp [Resp, setW, setI]⟩
        freed_imp := by intro hf; simp [setW, setI, hnf] at hf
        shut_ev := by intro _ h0; have h0' : s.started = 0 := h0; omega }
    · -- the list cannot be empty here
      rename_i hq
      rw [hq] at hseq; simp at hseq; omega
  · split
    · have hq : s.queue = [] := List.eq_nil_of_length_eq_zero (by omega)
      clear hseq
      split
      · -- park on the idle list
        rename_i hsh
        simp only [htm, Bool.false_eq_true, if_false]
        refine inv_setW_idle (l := k :: s.idle) (f := fun w => { w with timerReg := true, pc := .parked }) h hk
          (fun j hj => by simp [hj]) (List.nodup_cons.2 ⟨hni, h.idle_nodup⟩)
          ?_ ?_ (fun hqne => absurd hq hqne) ?_
        · simp [hpc, WPc.live]
        · simp [hpc]
        · winv_self hwk
      · -- shutting down: die
        have e : s.idle.filter (· ≠ k) = s.idle :=
          List.filter_eq_self.2 (by intro a ha; simp; intro he; subst he; exact hni ha)
        have := die_inv h hk (Or.inl hpc) hkick htm (fun hqne => absurd hq hqne)
        rwa [e] at this
    · -- work left that this call may not take: re-kick ourselves
      apply inv_setW h hk
      · simp [hpc, WPc.live]
      · simp [hpc]
      · intro; simp [Resp, setW, hni]
      · winv_self hwk

theorem enterPrep_inv {s : St} {k : Nat} (h : Inv s) (hk : k < s.nw) (hpc : (s.w k).pc = .gotPre) :
    Inv (enterPrep s k) := by
  have hwk := h.wk k hk
  refine inv_setW_idle h hk (fun j hj => by simp [setW, hj]) (h.idle_nodup.filter _) rfl (fun _ hr => hr)
    (fun _ _ => by simp [Resp, setW, hpc]) ?_
  winv_self hwk

theorem inv_wEnter {s s' : St} {k : Nat} (h : Inv s) (hs : step s (.wEnter k) = some s') : Inv s' := by
  simp only [step] at hs
  split at hs <;> try simp at hs
  rename_i hc
  obtain ⟨hk, hpc⟩ := hc
  have hwk := h.wk k hk
  split at hs
  · rename_i hbad
    have := hwk.timer_iff.2 ⟨hbad.1, by simp [hpc]⟩
    simp [hbad.2] at this
  · simp only [Option.some.injEq] at hs
    subst hs
    refine loopTail_inv (enterPrep_inv h hk hpc) ?_ ?_ ?_ ?_
    · exact hk
    · simp [enterPrep, setW, hpc]
    · simp [enterPrep]
    · simp [enterPrep, setW]

theorem afterPrep_inv {s : St} {k i : Nat} (h : Inv s) (hk : k < s.nw) (hpc : (s.w k).pc = .running i) :
    Inv (afterPrep s k i) := by
  have hwk := h.wk k hk
  have hlive : (s.w k).pc.live = true := by simp [hpc, WPc.live]
  have hnf := live_not_freed h hk hlive
  have hpos := live_pos h hk hlive
  obtain ⟨hi, hph, hwi⟩ := hwk.run_item i hpc
  have hii := h.items i hi
  have hind : i ∉ s.done ++ s.owner.batch := mt hii.d_iff.2 (by simp [hph])
  have hinq : i ∉ s.queue := mt hii.q_iff.2 (by simp [hph])
  unfold afterPrep
  exact { h with
    wk := by
      intro j hj
      by_cases hjk : j = k
      · subst hjk; winv_self hwk
      · exact winv_frame (h.wk j hj) (by simp [setW, setI, hjk]) Iff.rfl
          (run_item_frame (i := i) (h.wk j hj) (fun _ => by omega) fun i' hne => by simp [setW, setI, hne])
    started_eq := started_frame (s := s) h rfl
      (by intro j _; by_cases hjk : j = k <;> simp [setW, setI, hjk, hpc, WPc.live])
    done_nodup := by
      show ((s.done ++ [i]) ++ s.owner.batch).Nodup
      have := h.done_nodup
      simp only [List.append_assoc, List.singleton_append]
      rw [List.nodup_append] at this ⊢
      refine ⟨this.1, ?_, ?_⟩
      · refine List.nodup_cons.2 ⟨?_, this.2.1⟩
        intro hm; exact hind (by simp [hm])
      · intro a ha b hb
        simp at hb
        rcases hb with rfl | hb
        · intro he; subst he; exact hind (by simp [ha])
        · exact this.2.2 a ha b hb
    done_lt := by
      intro x hx
      have hx' : x ∈ (s.done ++ [i]) ++ s.owner.batch := hx
      simp at hx'
      rcases hx' with hx' | rfl | hx'
      · exact h.done_lt x (by simp [hx'])
      · exact hi
      · exact h.done_lt x (by simp [hx'])
    items := by
      intro i' hi'
      by_cases he : i' = i
      · subst he
        have h4 := hii.work_cnt; have h5 := hii.compl_cnt
        constructor
        · simp [setW, setI]; exact hinq
        · simp [setW, setI]
        · simp [setW, setI]
        · simp [setW, setI, h4, hph]
        · simp [setW, setI, h5, hph]
      · exact iinv_frame_w (k := k) (h.items i' hi') (by intro j hjk; simp [setW, setI, hjk])
          (by rw [hpc]; intro hr; exact absurd (WPc.running.inj hr).symm he) (by simp [setW, setI, he]) Iff.rfl
          (by show i' ∈ (s.done ++ [i]) ++ s.owner.batch ↔ _; simp [he])
    owed := fun _ => Or.inl ⟨k, hk, by simp [Resp, setW, setI]⟩
    done_owed := by
      intro _
      show (s.evOwed || s.done.isEmpty) = true ∨ s.owner = .evPre
      cases hd : s.done with
      | nil => simp
      | cons a l => exact (h.done_owed (by simp [hd])).imp_left (by intro he; simp [he])
    freed_imp := by intro hf; simp [setW, setI, hnf] at hf
    shut_ev := by intro _ h0; have h0' : s.started = 0 := h0; omega }

theorem inv_wAfter {s s' : St} {k : Nat} (h : Inv s) (hs : step s (.wAfter k) = some s') : Inv s' := by
  simp only [step] at hs
  split at hs <;> try simp at hs
  rename_i hk
  split at hs <;> simp only [Option.some.injEq, reduceCtorEq] at hs
  subst hs
  rename_i i hpc
  have hwk := h.wk k hk
  have hnotidle : k ∉ s.idle := by
    intro hm; have := hwk.idle_pc hm; simp [hpc] at this
  refine loopTail_inv (afterPrep_inv h hk hpc) ?_ ?_ ?_ ?_
  · exact hk
  · simp [afterPrep, setW, setI]
  · exact hnotidle
  · simp [afterPrep, setW, setI]; exact hwk.run_seq (by simp [hpc, WPc.isRunning])

theorem inv_wTimeoutRun {s s' : St} {k : Nat} (h : Inv s) (hs : step s (.wTimeoutRun k) = some s') : Inv s' := by
  simp only [step] at hs
  split at hs <;> try contradiction
  rename_i hc
  obtain ⟨hk, hpc⟩ := hc
  have hwk := h.wk k hk
  have htm : (s.w k).timerReg = false := by
    cases hc : (s.w k).timerReg
    · rfl
    · have := (hwk.timer_iff.1 hc).2; simp [hpc] at this
  split at hs
  · rename_i hkick
    simp [htm] at hs
    subst hs
    apply inv_setW h hk
    · simp [hpc, WPc.live]
    · simp [hpc]
    · simp [Resp, setW, hpc]
    · winv_self hwk
  · rename_i hkick
    simp only [Option.some.injEq] at hs
    subst hs
    have hkf : (s.w k).kicked = false := by simpa using hkick
    refine die_inv h hk (Or.inr hpc) hkf htm ?_
    intro hq
    obtain ⟨j, hj, hr⟩ := owed_live h (live_pos h hk (by simp [hpc, WPc.live])) hq
    refine ⟨j, ?_, hj, hr⟩
    intro he; subst he
    simp [Resp, hpc] at hr
    rcases hr.2 with hni | hkt
    · have := hwk.nonidle (by simp [hpc, WPc.live]) hni
      simp [hpc, WPc.isRunning] at this
    · simp [hkf] at hkt

/-- `iv_work_submit_pool` after the item is on the queue: who is made to answer for it -/
def enqPre (s : St) (byOwner : Bool) : St :=
  match s.idle with
  | t :: _ => setW s t (fun w => { w with kicked := true, kickOwed := true })
  | [] => if s.started < s.max then (if byOwner then startThread s else { s with tnOwed := true }) else s

/-- the two halves of a submission touch different fields: the answering party can be arranged first -/
theorem enqueue_eq (s : St) (b : Bool) : enqueue s b = enq0 (enqPre s b) := by
  unfold enqueue enqPre
  show (match s.idle with | t :: _ => _ | [] => _) = _
  split
  · rfl
  · show (if s.started < s.max then _ else _) = _
    split
    · split <;> rfl
    · rfl

theorem enqPre_frame (s : St) (b : Bool) :
    (enqPre s b).ni = s.ni ∧ (enqPre s b).it = s.it ∧ (enqPre s b).freed = s.freed ∧ (enqPre s b).queue = s.queue ∧
    (enqPre s b).handle = s.handle ∧ (b = false → (enqPre s b).nw = s.nw ∧ (enqPre s b).started = s.started) ∧
    ∀ j, j < s.nw → ((enqPre s b).w j).pc = (s.w j).pc := by
  unfold enqPre
  split
  · rename_i t _ _
    exact ⟨rfl, rfl, rfl, rfl, rfl, fun _ => ⟨rfl, rfl⟩, by intro j _; by_cases hjt : j = t <;> simp [setW, hjt]⟩
  · split
    · split
      · rename_i hb
        exact ⟨rfl, rfl, rfl, rfl, rfl, fun hf => by simp [hf] at hb, by intro j hj; simp [startThread, Nat.ne_of_lt hj]⟩
      · exact ⟨rfl, rfl, rfl, rfl, rfl, fun _ => ⟨rfl, rfl⟩, fun _ _ => rfl⟩
    · exact ⟨rfl, rfl, rfl, rfl, rfl, fun _ => ⟨rfl, rfl⟩, fun _ _ => rfl⟩

/-- somebody answers for the queue, empty or not -/
def Answered (s : St) : Prop := (∃ k, k < s.nw ∧ Resp s k) ∨ (s.started = 0 ∧ (s.tnOwed = true ∨ s.owner = .tnPre))

theorem inv_enq0 {s : St} (h : Inv s) (hh : s.handle = true) (ha : Answered s) : Inv (enq0 s) := by
  have hnf := handle_not_freed h hh
  have hsh := h.handle_shut.1 hh
  have hniq : s.ni ∉ s.queue := fun hm => by have := h.queue_lt _ hm; omega
  have hnid : s.ni ∉ s.done ++ s.owner.batch := fun hm => by have := h.done_lt _ hm; omega
  exact { h with
    seq := by show s.seqTail + 1 = s.seqHead + (s.queue ++ [s.ni]).length; have := h.seq; simp; omega
    wk := by
      intro j hj
      refine winv_frame (h.wk j hj) rfl Iff.rfl ?_ id (Nat.le_succ _) (Nat.le_succ _)
      intro i hr
      simp [enq0, Nat.ne_of_lt ((h.wk j hj).run_item i hr).1]
    queue_nodup := by
      show (s.queue ++ [s.ni]).Nodup
      rw [List.nodup_append]
      refine ⟨h.queue_nodup, by simp, ?_⟩
      intro a ha b hb; simp at hb; subst hb; intro he; subst he; exact hniq ha
    queue_lt := by
      intro i hi
      have hi' : i ∈ s.queue ++ [s.ni] := hi
      simp at hi'
      show i < s.ni + 1
      rcases hi' with hi' | rfl
      · have := h.queue_lt i hi'; omega
      · omega
    done_lt := by intro i hi; have := h.done_lt i hi; show i < s.ni + 1; omega
    items := by
      intro i hi
      have hi' : i < s.ni + 1 := hi
      by_cases he : i = s.ni
      · subst he
        constructor
        · simp [enq0]
        · simp [enq0]
        · simp [enq0]; simpa using hnid
        · simp [enq0]
        · simp [enq0]
      · exact iinv_frame (h.items i (by omega)) (fun _ => ⟨Nat.le_refl _, rfl⟩) (by simp [enq0, he])
          (by show i ∈ s.queue ++ [s.ni] ↔ _; simp [he])
    owed := fun _ => ha.imp (fun ⟨k, hk, hr⟩ => ⟨k, hk, resp_frame hr rfl⟩) id
    freed_imp := by intro hf; simp [enq0, hnf] at hf
    shut_ev := by intro hs; simp [enq0, hsh] at hs }

theorem inv_enqPre {s : St} (h : Inv s) (hh : s.handle = true) (b : Bool) : Inv (enqPre s b) ∧ Answered (enqPre s b) := by
  have hnf := handle_not_freed h hh
  have busy : s.idle = [] → 0 < s.started → ∃ k, k < s.nw ∧ Resp s k := by
    intro hidle hpos
    rw [h.started_eq] at hpos
    obtain ⟨k, hk, hl⟩ := cnt_pos _ hpos
    exact ⟨k, hk, resp_of_live_nonidle h hk hl (by rw [hidle]; simp)⟩
  unfold enqPre
  split
  · -- an idle thread exists: mark it kicked and post its kick
    rename_i t rest hidle
    have htm : t ∈ s.idle := by rw [hidle]; simp
    have ht : t < s.nw := h.idle_lt t htm
    have hp := (h.wk t ht).idle_pc htm
    have hr : Resp (setW s t (fun w => { w with kicked := true, kickOwed := true })) t := by
      simp only [Resp, setW]
      rcases hp with hp | hp | hp <;> simp [hp]
    exact ⟨inv_setW h ht rfl (fun _ => id) (fun _ => hr) (winv_kick_idle h htm (kd := true) (by simp [setW])), .inl ⟨t, ht, hr⟩⟩
  · rename_i hidle
    split
    · rename_i hlt
      split
      · exact ⟨inv_startThread h hnf hlt, .inl ⟨s.nw, by simp [startThread], by simp [Resp, startThread]⟩⟩
      · -- a thread that is not the owner asks the owner for a thread: with no thread at all the request is what is owed
        refine ⟨inv_owner h (o := s.owner) (d := s.done) (ev := s.evOwed) (tn := true) (fr := s.freed) rfl
          (fun _ _ => .inl rfl) h.done_owed (by simp [hnf]) (by simp [h.handle_shut.1 hh]), ?_⟩
        rcases Nat.eq_zero_or_pos s.started with h0 | hpos
        · exact .inr ⟨h0, .inl rfl⟩
        · exact .inl ((busy hidle hpos).imp fun k hk => ⟨hk.1, resp_frame hk.2 rfl⟩)
    · -- at the maximum, nobody idle
      exact ⟨h, .inl (busy hidle (by have := h.max_pos; omega))⟩

theorem enqueue_inv {s : St} (h : Inv s) (hh : s.handle = true) (b : Bool) : Inv (enqueue s b) := by
  rw [enqueue_eq]
  have ⟨h1, h2⟩ := inv_enqPre h hh b
  exact inv_enq0 h1 ((enqPre_frame s b).2.2.2.2.1.trans hh) h2

theorem inv_step {s s' : St} {a : Act} (h : Inv s) (hs : step s a = some s') : Inv s' := by
  cases a with
  | submit | submitc k | submitf =>
    simp only [step] at hs
    split at hs <;> simp only [Option.some.injEq, reduceCtorEq] at hs
    subst hs
    rename_i hc
    exact enqueue_inv h (by simp [hc]) _
  | put => exact inv_put h hs
  | wStart k | wSelfKick k | wKick k | wTimeout k | wExit k | oJoin k =>
    -- one worker's own record changes, and it stays where it is in the pool's books
    simp only [step] at hs
    split at hs <;> simp at hs
    subst hs
    rename_i hc
    have hk : k < s.nw := by simp [hc]
    have hwk := h.wk k hk
    apply inv_setW h hk
    · simp [hc, WPc.live]
    · simp [hc]
    · intro hr; have := hwk.idle_pc; simp_all [Resp, setW]
    · winv_self hwk
  | wEnter k => exact inv_wEnter h hs
  | wAfter k => exact inv_wAfter h hs
  | wTimeoutRun k => exact inv_wTimeoutRun h hs
  | oEv => exact inv_oEv h hs
  | oSteal => exact inv_oSteal h hs
  | oComplete => exact inv_oComplete h hs
  | oFinish => exact inv_oFinish h hs
  | oTn => exact inv_oTn h hs
  | oTnRun => exact inv_oTnRun h hs

theorem reach_inv {max : Nat} (hm : 1 ≤ max) {s : St} (hr : Reach max s) : Inv s := by
  induction hr with
  | init => exact inv_init max hm
  | step _ hs ih => exact inv_step ih hs


theorem stuck_owner {s : St} (hst : Stuck s) : s.owner = .idle := by
  cases ho : s.owner with
  | idle => rfl
  | evPre => have := hst .oSteal rfl; simp [step, ho] at this
  | tnPre => have := hst .oTnRun rfl; simp [step, ho] at this; split at this <;> simp at this
  | compl b =>
    cases b with
    | nil => have := hst .oFinish rfl; simp [step, ho] at this; split at this <;> simp at this
    | cons i b => have := hst .oComplete rfl; simp [step, ho] at this

theorem stuck_worker {s : St} (h : Inv s) (hst : Stuck s) {k : Nat} (hk : k < s.nw) :
    ((s.w k).pc = .parked ∧ (s.w k).kickOwed = false) ∨ (s.w k).pc = .joined := by
  have hwk := h.wk k hk
  cases hp : (s.w k).pc with
  | joined => exact .inr rfl
  | parked =>
    cases hko : (s.w k).kickOwed
    · exact .inl ⟨rfl, rfl⟩
    · have := hst (.wKick k) rfl; simp [step, hk, hp, hko, hwk.owed_reg hko] at this
  | starting => have := hst (.wStart k) rfl; simp [step, hk, hp] at this
  | selfkick => have := hst (.wSelfKick k) rfl; simp [step, hk, hp] at this
  | gotPre => have := hst (.wEnter k) rfl; simp [step, hk, hp] at this; split at this <;> simp at this
  | running i => have := hst (.wAfter k) rfl; simp [step, hk, hp] at this
  | toPre =>
    have := hst (.wTimeoutRun k) rfl; simp [step, hk, hp] at this
    split at this
    · split at this <;> simp at this
    · simp at this
  | dying => have := hst (.wExit k) rfl; simp [step, hk, hp] at this
  | exited => have := hst (.oJoin k) rfl; simp [step, stuck_owner hst, hk, hp, hwk.dead_owed.2 hp] at this

theorem stuck_queue {s : St} (h : Inv s) (hst : Stuck s) : s.queue = [] := by
  by_cases hq : s.queue = []
  · exact hq
  · exfalso
    have ho := stuck_owner hst
    rcases h.owed hq with ⟨k, hk, hr⟩ | hr
    · rcases stuck_worker h hst hk with hp | hp <;> simp [Resp, hp] at hr
    · have hnf := not_freed_of h (fun hf => hq hf.2.2.1)
      rcases hr.2 with ht | ht
      · have := hst .oTn rfl; simp [step, ho, ht, hnf] at this
      · simp [ho] at ht

theorem no_lost_work {s : St} (h : Inv s) (hst : Stuck s) : ∀ i, i < s.ni → (s.it i).phase = .completed := by
  intro i hi
  have hii := h.items i hi
  have ho := stuck_owner hst
  cases hp : (s.it i).phase with
  | completed => rfl
  | queued => have := hii.q_iff.1 hp; simp [stuck_queue h hst] at this
  | running =>
    have := hii.r_imp hp
    rcases stuck_worker h hst this.1 with hw | hw <;> simp [this.2] at hw
  | done =>
    have hm := hii.d_iff.1 hp
    simp [ho] at hm
    have hd : s.done ≠ [] := by intro he; simp [he] at hm
    have hnf := not_freed_of h (fun hf => hd hf.2.2.2.1)
    rcases h.done_owed hd with he | he
    · have := hst .oEv rfl; simp [step, ho, he, hnf] at this
    · simp [ho] at he

/-- after `put`, a quiescent pool is completely gone -/
theorem drained {s : St} (h : Inv s) (hsh : s.shut = true) (hst : Stuck s) :
    (∀ i, i < s.ni → (s.it i).phase = .completed) ∧ (∀ k, k < s.nw → (s.w k).pc = .joined) ∧ s.freed = true ∧
    poolObjs s = 0 := by
  have ho := stuck_owner hst
  have hj : ∀ k, k < s.nw → (s.w k).pc = .joined := by
    intro k hk
    refine (stuck_worker h hst hk).resolve_left fun ⟨hp, hko⟩ => ?_
    -- parked while shutting down: on the idle list `put` posted its kick, off it the kick is owed anyway
    have hwk := h.wk k hk
    by_cases hi : k ∈ s.idle
    · have := hwk.shut_idle hsh hi; simp [hp, hko] at this
    · have := hwk.nonidle (by simp [hp, WPc.live]) hi; simp [hp, hko, WPc.isRunning] at this
  have hst0 : s.started = 0 := by
    rw [h.started_eq]
    exact cnt_eq_zero _ fun k hk => by simp [hj k hk, WPc.live]
  have hfr : s.freed = true := by
    cases hf : s.freed
    · rcases h.shut_ev hsh hst0 hf with he | he | ⟨b, he⟩ | ⟨hq, _⟩
      · have := hst .oEv rfl; simp [step, ho, he, hf] at this
      · simp [ho] at he
      · simp [ho] at he
      · exact absurd (stuck_queue h hst) hq
    · rfl
  refine ⟨no_lost_work h hst, hj, hfr, ?_⟩
  unfold poolObjs
  simp [hfr]
  exact cnt_eq_zero _ fun k hk => Bool.eq_false_iff.2 fun hl => (h.wk k hk).dead_reg.1 hl (hj k hk)


@[simp] theorem rank_starting : WPc.starting.rank = 0 := rfl
@[simp] theorem rank_selfkick : WPc.selfkick.rank = 1 := rfl
@[simp] theorem rank_parked : WPc.parked.rank = 2 := rfl
@[simp] theorem rank_gotPre : WPc.gotPre.rank = 2 := rfl
@[simp] theorem rank_running (i : Nat) : (WPc.running i).rank = 2 := rfl
@[simp] theorem rank_toPre : WPc.toPre.rank = 2 := rfl
@[simp] theorem rank_dying : WPc.dying.rank = 3 := rfl
@[simp] theorem rank_exited : WPc.exited.rank = 4 := rfl
@[simp] theorem rank_joined : WPc.joined.rank = 5 := rfl

/-- what every step leaves alone or moves in one direction only -/
structure Frame (s s' : St) (keepsFreed keepsItems : Prop) : Prop where
  ni_le : s.ni ≤ s'.ni
  rank : ∀ j, j < s.nw → (s.w j).pc.rank ≤ (s'.w j).pc.rank ∧ (s'.w j).pc.rank ≤ (s.w j).pc.rank + 1
  freed : keepsFreed → s'.freed = s.freed
  it : keepsItems → ∀ i, i < s.ni → s'.it i = s.it i

theorem frame_same {s s' : St} {p q : Prop} (hni : s'.ni = s.ni) (hw : s'.w = s.w) (hf : s'.freed = s.freed)
    (hit : s'.it = s.it) : Frame s s' p q :=
  ⟨by omega, by intro j _; rw [hw]; omega, fun _ => hf, fun _ _ _ => by rw [hit]⟩

theorem frame_setW {s : St} {k : Nat} {f : Worker → Worker} {p q : Prop}
    (h1 : (s.w k).pc.rank ≤ (f (s.w k)).pc.rank) (h2 : (f (s.w k)).pc.rank ≤ (s.w k).pc.rank + 1) :
    Frame s (setW s k f) p q :=
  ⟨Nat.le_refl _, by intro j _; by_cases hjk : j = k <;> simp [setW, hjk, h1, h2], fun _ => rfl, fun _ _ _ => rfl⟩

theorem die_frame (s : St) (k : Nat) :
    (die s k).ni = s.ni ∧ (die s k).freed = s.freed ∧ (die s k).it = s.it ∧
    ((s.w k).pc.rank = 2 →
      ∀ j, (s.w j).pc.rank ≤ ((die s k).w j).pc.rank ∧ ((die s k).w j).pc.rank ≤ (s.w j).pc.rank + 1) := by
  unfold die; split
  · exact ⟨rfl, rfl, rfl, by simp⟩
  · simp only []
    split <;> exact ⟨rfl, rfl, rfl, by intro h2 j; by_cases hjk : j = k <;> simp [setW, hjk, h2]⟩

theorem loopTail_frame (s : St) (k : Nat) :
    (loopTail s k).ni = s.ni ∧ (loopTail s k).freed = s.freed ∧
    ((s.w k).pc.rank = 2 →
      ∀ j, (s.w j).pc.rank ≤ ((loopTail s k).w j).pc.rank ∧ ((loopTail s k).w j).pc.rank ≤ (s.w j).pc.rank + 1) ∧
    ∀ i, (loopTail s k).it i = s.it i ∨
      (i ∈ s.queue ∧ (loopTail s k).it i = { s.it i with phase := .running, workRuns := (s.it i).workRuns + 1, worker := k }) := by
  unfold loopTail
  split
  · split
    · rename_i i' q hq
      refine ⟨rfl, rfl, by intro h2 j; by_cases hjk : j = k <;> simp [setW, setI, hjk, h2], fun i => ?_⟩
      by_cases he : i = i'
      · subst he; right; simp [hq, setW, setI]
      · left; simp [setW, setI, he]
    · exact ⟨rfl, rfl, by simp, fun _ => .inl rfl⟩
  · split
    · split
      · split
        · exact ⟨rfl, rfl, by simp, fun _ => .inl rfl⟩
        · exact ⟨rfl, rfl, by intro h2 j; by_cases hjk : j = k <;> simp [setW, hjk, h2], fun _ => .inl rfl⟩
      · obtain ⟨h1, h2', h3, h4⟩ := die_frame s k
        exact ⟨h1, h2', h4, fun i => .inl (by rw [h3])⟩
    · exact ⟨rfl, rfl, by intro h2 j; by_cases hjk : j = k <;> simp [setW, hjk, h2], fun _ => .inl rfl⟩

theorem step_frame {s s' : St} {a : Act} (hs : step s a = some s') :
    Frame s s' (a ≠ .oFinish) ((∀ k, a ≠ .wEnter k ∧ a ≠ .wAfter k) ∧ a ≠ .oComplete) := by
  have enq : ∀ b, Frame s (enqueue s b) (a ≠ .oFinish) ((∀ k, a ≠ .wEnter k ∧ a ≠ .wAfter k) ∧ a ≠ .oComplete) := by
    intro b
    obtain ⟨e1, e2, e3, -, -, -, e5⟩ := enqPre_frame s b
    rw [enqueue_eq]
    exact ⟨by show s.ni ≤ (enqPre s b).ni + 1; omega, by intro j hj; rw [show (enq0 (enqPre s b)).w = (enqPre s b).w from rfl, e5 j hj]; omega,
      fun _ => e3, fun _ i hi => by simp [enq0, e1, e2, Nat.ne_of_lt hi]⟩
  cases a <;> simp only [step] at hs
  case submit | submitc | submitf =>
    split at hs <;> simp only [Option.some.injEq, reduceCtorEq] at hs; subst hs; exact enq _
  case put =>
    split at hs <;> try contradiction
    split at hs <;> simp only [Option.some.injEq] at hs <;> subst hs
    · exact frame_same rfl rfl rfl rfl
    · exact ⟨Nat.le_refl _, by intro j _; by_cases hm : j ∈ s.idle <;> simp [hm], fun _ => rfl, fun _ _ _ => rfl⟩
  case wStart k | wSelfKick k | wKick k | wTimeout k | wExit k | oJoin k =>
    split at hs <;> simp only [Option.some.injEq, reduceCtorEq] at hs; subst hs
    rename_i hc; exact frame_setW (by simp [hc]) (by simp [hc])
  case oEv | oSteal | oTn =>
    split at hs <;> simp only [Option.some.injEq, reduceCtorEq] at hs; subst hs; exact frame_same rfl rfl rfl rfl
  case oComplete =>
    split at hs <;> simp only [Option.some.injEq, reduceCtorEq] at hs; subst hs
    exact ⟨Nat.le_refl _, by intro j _; simp [setI], fun _ => rfl, fun hq => absurd rfl hq.2⟩
  case oFinish =>
    split at hs <;> try contradiction
    split at hs <;> simp only [Option.some.injEq] at hs <;> subst hs
    · exact ⟨Nat.le_refl _, by intro j _; simp, fun hp => absurd rfl hp, fun _ _ _ => rfl⟩
    · exact frame_same rfl rfl rfl rfl
  case oTnRun =>
    split at hs <;> try contradiction
    split at hs <;> simp only [Option.some.injEq] at hs <;> subst hs
    · exact ⟨Nat.le_refl _, by intro j hj; simp [startThread, Nat.ne_of_lt hj], fun _ => rfl, fun _ _ _ => rfl⟩
    · exact frame_same rfl rfl rfl rfl
  case wTimeoutRun k =>
    split at hs <;> try contradiction
    rename_i hc
    split at hs
    · split at hs <;> simp only [Option.some.injEq] at hs <;> subst hs
      · exact frame_same rfl rfl rfl rfl
      · exact frame_setW (by simp [hc.2]) (by simp [hc.2])
    · simp only [Option.some.injEq] at hs; subst hs
      obtain ⟨h1, h2, h3, h4⟩ := die_frame { s with idle := s.idle.filter (· ≠ k) } k
      exact ⟨by rw [h1]; exact Nat.le_refl _, fun j _ => h4 (by simp [hc.2]) j, fun _ => h2, fun _ _ _ => by rw [h3]⟩
  case wEnter k =>
    split at hs <;> try contradiction
    rename_i hc
    split at hs <;> simp only [Option.some.injEq] at hs <;> subst hs
    · exact frame_same rfl rfl rfl rfl
    · have hmid : ∀ j, ((enterPrep s k).w j).pc = (s.w j).pc := by
        intro j; by_cases hjk : j = k <;> simp [enterPrep, setW, hjk]
      obtain ⟨h1, h2, h3, -⟩ := loopTail_frame (enterPrep s k) k
      exact ⟨by rw [h1]; exact Nat.le_refl _, fun j _ => by rw [← hmid j]; exact h3 (by rw [hmid, hc.2]; rfl) j, fun _ => h2,
        fun hq => absurd rfl (hq.1 k).1⟩
  case wAfter k =>
    split at hs <;> try contradiction
    split at hs <;> simp only [Option.some.injEq, reduceCtorEq] at hs
    subst hs
    rename_i i hpc
    have hmid : ∀ j, ((afterPrep s k i).w j).pc.rank = (s.w j).pc.rank := by
      intro j; by_cases hjk : j = k
      · subst hjk; simp [afterPrep, setW, setI, hpc]
      · simp [afterPrep, setW, setI, hjk]
    obtain ⟨h1, h2, h3, -⟩ := loopTail_frame (afterPrep s k i) k
    exact ⟨by rw [h1]; exact Nat.le_refl _, fun j _ => by rw [← hmid j]; exact h3 (by simp [afterPrep, setW, setI]) j, fun _ => h2,
      fun hq => absurd rfl (hq.1 k).2⟩

theorem step_ni_le {s s' : St} {a : Act} (hs : step s a = some s') : s.ni ≤ s'.ni :=
  (step_frame hs).ni_le

theorem item_order {s s' : St} {a : Act} (h : Inv s) (hs : step s a = some s') {i : Nat} (hi : i < s.ni) :
    (s'.it i).phase = (s.it i).phase ∨
    ((s.it i).phase = .queued ∧ (s'.it i).phase = .running ∧ ∃ k, (a = .wEnter k ∨ a = .wAfter k) ∧ k < s.nw ∧ (s'.it i).worker = k) ∨
    ((s.it i).phase = .running ∧ (s'.it i).phase = .done ∧ a = .wAfter (s.it i).worker) ∨
    ((s.it i).phase = .done ∧ (s'.it i).phase = .completed ∧ a = .oComplete) := by
  cases a
  case oComplete =>
    simp only [step] at hs
    split at hs <;> simp only [Option.some.injEq, reduceCtorEq] at hs
    subst hs
    rename_i i' b ho
    by_cases he : i = i'
    · subst he
      right; right; right
      have := (h.items i hi).d_iff.2 (by simp [ho])
      exact ⟨this, by simp [setI], rfl⟩
    · left; simp [setI, he]
  case wEnter k =>
    simp only [step] at hs; split at hs <;> try simp at hs
    rename_i hc
    split at hs
    · simp at hs; subst hs; left; rfl
    · simp only [Option.some.injEq] at hs; subst hs
      have hmid : (enterPrep s k).it = s.it := rfl
      rcases (loopTail_frame (enterPrep s k) k).2.2.2 i with hl | ⟨hm, hl⟩
      · left; rw [hl, hmid]
      · exact Or.inr (Or.inl ⟨(h.items i hi).q_iff.2 hm, by rw [hl], k, Or.inl rfl, hc.1, by rw [hl]⟩)
  case wAfter k =>
    simp only [step] at hs; split at hs <;> try simp at hs
    rename_i hk
    split at hs <;> simp only [Option.some.injEq, reduceCtorEq] at hs
    subst hs
    rename_i i0 hpc
    obtain ⟨hi0, hph0, hw0⟩ := (h.wk k hk).run_item i0 hpc
    by_cases he : i = i0
    · subst he
      right; right; left
      have hmid : ((afterPrep s k i).it i).phase = .done := by simp [afterPrep, setW, setI]
      rcases (loopTail_frame (afterPrep s k i) k).2.2.2 i with hl | ⟨hm, hl⟩
      · exact ⟨hph0, by rw [hl, hmid], by rw [hw0]⟩
      · have := (h.items i hi).q_iff.2 hm
        simp [hph0] at this
    · have hmid : (afterPrep s k i0).it i = s.it i := by simp [afterPrep, setW, setI, he]
      rcases (loopTail_frame (afterPrep s k i0) k).2.2.2 i with hl | ⟨hm, hl⟩
      · left; rw [hl, hmid]
      · exact Or.inr (Or.inl ⟨(h.items i hi).q_iff.2 hm, by rw [hl], k, Or.inr rfl, hk, by rw [hl]⟩)
  all_goals exact Or.inl (by rw [(step_frame hs).it ⟨by simp, by simp⟩ i hi])


/-- the pool's two events are unregistered (the pool freed) only by the owner's shutting_down test, and only when no
thread is left, nothing is queued or awaiting completion and every item ever submitted has completed -/
theorem free_exact {s s' : St} {a : Act} (h : Inv s) (hs : step s a = some s') (hf : s.freed = false) (hf' : s'.freed = true) :
    a = .oFinish ∧ s.shut = true ∧ s.started = 0 ∧ s.done = [] ∧ s.queue = [] ∧
    (∀ i, i < s.ni → (s.it i).phase = .completed) ∧ (∀ k, k < s.nw → (s.w k).pc.live = false) := by
  have key : a = .oFinish := by
    by_cases key : a = .oFinish
    · exact key
    · have := (step_frame hs).freed key
      rw [hf, hf'] at this; cases this
  subst key
  simp only [step] at hs
  split at hs <;> try simp at hs
  rename_i ho
  split at hs <;> simp at hs <;> subst hs
  · rename_i hc
    obtain ⟨hsh, hst, hd, hq⟩ := hc
    have hlive : ∀ k, k < s.nw → (s.w k).pc.live = false := by
      intro k hk
      cases hl : (s.w k).pc.live
      · rfl
      · have := live_pos h hk hl; omega
    refine ⟨rfl, hsh, hst, hd, hq, ?_, hlive⟩
    intro i hi
    have hii := h.items i hi
    cases hp : (s.it i).phase with
    | completed => rfl
    | queued => have := hii.q_iff.1 hp; simp [hq] at this
    | running => have := hii.r_imp hp; have := hlive _ this.1; simp_all [WPc.live]
    | done => have := hii.d_iff.1 hp; simp [hd, ho] at this
  · simp_all

theorem reachFrom_inv {s t : St} (h : Inv s) (hr : ReachFrom s t) : Inv t := by
  induction hr with
  | refl => exact h
  | step _ hs ih => exact inv_step ih hs

theorem reachFrom_ni_le {s t : St} (hr : ReachFrom s t) : s.ni ≤ t.ni := by
  induction hr with
  | refl => exact Nat.le_refl _
  | step _ hs ih => exact Nat.le_trans ih (step_ni_le hs)

/-- what a submission from a foreign thread does: the item gets the next number and is appended to `work_items`;
nothing else about the items changes; the pool is still usable (not freed), and either an idle worker was kicked and
marked `kicked`, or `thread_needed` is now owed, or the pool is at `max_threads` with nobody idle -/
theorem foreign_submit_effect {s s' : St} (h : Inv s) (hs : step s .submitf = some s') :
    s.shut = false ∧ s'.ni = s.ni + 1 ∧ s'.queue = s.queue ++ [s.ni] ∧ (s'.it s.ni).phase = .queued ∧
    (s'.it s.ni).workRuns = 0 ∧ s'.nw = s.nw ∧ s'.started = s.started ∧ s'.freed = false ∧
    ((∃ t rest, s.idle = t :: rest ∧ (s'.w t).kicked = true ∧ (s'.w t).kickOwed = true) ∨
     (s.idle = [] ∧ s.started < s.max ∧ s'.tnOwed = true) ∨
     (s.idle = [] ∧ s.started = s.max ∧ s'.tnOwed = s.tnOwed)) := by
  simp only [step] at hs
  split at hs <;> simp only [Option.some.injEq, reduceCtorEq] at hs
  subst hs
  rename_i hh
  have hnf := handle_not_freed h hh
  obtain ⟨e1, e2, e3, e4, -, e6, -⟩ := enqPre_frame s false
  rw [enqueue_eq]
  refine ⟨h.handle_shut.1 hh, by simp [enq0, e1], by simp [enq0, e1, e4], by simp [enq0, e1], by simp [enq0, e1],
    (e6 rfl).1, (e6 rfl).2, e3.trans hnf, ?_⟩
  unfold enqPre
  split
  · rename_i t rest hidle
    exact Or.inl ⟨t, rest, hidle, by simp [enq0, setW], by simp [enq0, setW]⟩
  · rename_i hidle
    split
    · rename_i hlt
      exact Or.inr (Or.inl ⟨hidle, hlt, rfl⟩)
    · rename_i hge
      exact Or.inr (Or.inr ⟨hidle, by have := h.started_le; omega, rfl⟩)

/-- queued work is never forgotten: the pool has not been freed, and a worker is responsible for the
queue, or no worker thread exists and `thread_needed` is owed to (or being handled by) the owner, in which case the
handler will find `idle_threads` empty and `started_threads < max_threads`, i.e. it will start a thread -/
theorem queued_item_owed {s : St} (h : Inv s) (hq : s.queue ≠ []) :
    s.freed = false ∧
    ((∃ k, k < s.nw ∧ Resp s k) ∨
     (s.started = 0 ∧ s.idle = [] ∧ s.started < s.max ∧ (s.tnOwed = true ∨ s.owner = .tnPre))) := by
  refine ⟨not_freed_of h (fun hf => hq hf.2.2.1), ?_⟩
  rcases h.owed hq with hr | hr
  · exact Or.inl hr
  · exact Or.inr ⟨hr.1, idle_empty_of_started_zero h hr.1, by have := h.max_pos; omega, hr.2⟩

theorem pairs_append (a b : List Nat) : pairs (a ++ b) = pairs a ++ pairs b := by
  simp [pairs]

theorem linv_step {s s' : LSt} {a : LAct} (h : LInv s) (hs : lstep s a = some s') : LInv s' := by
  have h2 := h.task_iff; have h3 := h.fifo; have h4 := h.inwork; have h5 := h.log_eq
  cases a with
  | submit =>
    simp only [lstep, Option.some.injEq] at hs
    subst hs
    -- the task is registered exactly when it was not yet: never twice
    have e : (if s.pending = [] then (if s.taskReg then { s with fatal := true } else { s with taskReg := true }) else s) =
        { s with taskReg := true } := by
      by_cases hp : s.pending = []
      · have ht : s.taskReg = false := by
          cases hc : s.taskReg
          · rfl
          · exact absurd hp (h2.1 hc)
        simp [hp, ht]
      · have ht := h2.2 hp
        simp only [hp, if_false]
        cases s; simp_all
    rw [e]
    exact { h with
      task_iff := by simp
      fifo := by
        show s.finished ++ s.batch ++ (s.pending ++ [s.n]) = List.range (s.n + 1)
        rw [List.range_succ, ← h3]; simp }
  | task =>
    simp only [lstep] at hs
    split at hs <;> simp at hs
    subst hs
    rename_i hc
    have hiw : s.inWork = false := by
      cases hi : s.inWork
      · rfl
      · exact absurd hc.2 (h4 hi)
    exact { h with
      task_iff := by simp
      fifo := by simp [← h3, hc.2]
      inwork := by simp [hiw]
      log_eq := by simp [h5, hiw] }
  | work =>
    simp only [lstep] at hs
    split at hs <;> try simp at hs
    rename_i i b hb
    obtain ⟨hiw, hs⟩ := hs
    subst hs
    exact { h with inwork := by simp [hb], log_eq := by simp [h5, hiw, hb] }
  | complete =>
    simp only [lstep] at hs
    split at hs <;> try simp at hs
    rename_i i b hb
    obtain ⟨hiw, hs⟩ := hs
    subst hs
    exact { h with
      fifo := by simp [← h3, hb]
      inwork := by simp
      log_eq := by simp [h5, hiw, hb, pairs] }

/-- when the thread has nothing left to run, every locally submitted item had its work function and then its
completion called exactly once, in submission order, and nothing else was called -/
theorem null_pool_local {s : LSt} (h : LInv s) (hst : LStuck s) : s.log = pairs (List.range s.n) := by
  have hb : s.batch = [] := by
    cases hb : s.batch with
    | nil => rfl
    | cons i b =>
      exfalso
      cases hi : s.inWork
      · have := hst .work (by simp); simp [lstep, hb, hi] at this
      · have := hst .complete (by simp); simp [lstep, hb, hi] at this
  have hp : s.pending = [] := by
    cases hp : s.pending with
    | nil => rfl
    | cons i b =>
      exfalso
      have ht := h.task_iff.2 (by simp [hp])
      have := hst .task (by simp); simp [lstep, hb, ht] at this
  have hiw : s.inWork = false := by
    cases hi : s.inWork
    · rfl
    · exact absurd hb (h.inwork hi)
  have := h.fifo
  rw [hb, hp] at this
  simp at this
  rw [h.log_eq, hiw, this]; simp

/-- at every moment: the calls made so far are exactly work+completion of the finished items, in submission order,
plus possibly the work function of the next one; in particular a completion never precedes its work function and
nothing runs twice -/
theorem null_pool_prefix {s : LSt} (h : LInv s) :
    ∃ m, m ≤ s.n ∧ s.finished = List.range m ∧
      s.log = pairs (List.range m) ++ (if s.inWork then [(m, false)] else []) := by
  have hf := h.fifo
  have hl : s.finished.length ≤ s.n := by
    have := congrArg List.length hf; simp at this; omega
  have hfin : s.finished = List.range s.finished.length := by
    have h2 : s.finished = (List.range s.n).take s.finished.length := by
      rw [← hf]; simp [List.append_assoc]
    rwa [List.take_range, Nat.min_eq_left hl] at h2
  refine ⟨s.finished.length, hl, hfin, ?_⟩
  rw [h.log_eq]
  cases hiw : s.inWork
  · simp; rw [← hfin]
  · cases hb : s.batch with
    | nil => exact absurd hb (h.inwork hiw)
    | cons i b =>
      -- the item being worked on is the next number
      have hget := congrArg (fun l => l[s.finished.length]?) hf
      simp [hb] at hget
      have hlt : s.finished.length < s.n := by
        have := congrArg List.length hf; simp [hb] at this; omega
      rw [List.getElem?_range hlt] at hget
      simp at hget
      subst hget
      simp; rw [← hfin]



theorem tinv_init (m : ExitMode) : TInv { mode := m } := by
  constructor <;> simp

theorem tstep_frame {s s' : TSt} {a : TAct} (hs : tstep s a = some s') :
    s'.mode = s.mode ∧ (a ≠ .destruct → s'.posts = s.posts) := by
  cases a <;> simp only [tstep] at hs
  case run => split at hs <;> simp at hs; subst hs; split <;> exact ⟨rfl, fun _ => rfl⟩
  case deinit => split at hs <;> simp at hs; subst hs; exact ⟨rfl, fun _ => rfl⟩
  case leave => split at hs <;> simp at hs; subst hs; exact ⟨rfl, fun _ => rfl⟩
  case destruct =>
    split at hs <;> try simp at hs
    split at hs <;> simp only [Option.some.injEq] at hs <;> subst hs <;> exact ⟨rfl, fun h => absurd rfl h⟩
  case died => split at hs <;> simp at hs; subst hs; exact ⟨rfl, fun _ => rfl⟩
  case creatorDeinit =>
    split at hs <;> try simp at hs
    split at hs
    · split at hs <;> simp only [Option.some.injEq] at hs <;> subst hs <;> exact ⟨rfl, fun _ => rfl⟩
    · simp only [Option.some.injEq] at hs; subst hs; exact ⟨rfl, fun _ => rfl⟩

theorem tinv_step {s s' : TSt} {a : TAct} (h : TInv s) (hs : tstep s a = some s') : TInv s' := by
  have h' := h
  cases h'
  cases a <;> simp only [tstep] at hs
  -- in each case the guard is simplified into the old clauses once; the new clauses then only rewrite with them
  case run =>
    split at hs <;> simp at hs; subst hs
    simp_all
    split <;> constructor <;> first | assumption | simp [*]
  case deinit =>
    split at hs <;> simp at hs; subst hs
    simp_all
    constructor <;> first | assumption | simp [*]
  case leave =>
    split at hs <;> simp at hs; subst hs
    rename_i hc
    rcases hc with hc | hc <;> simp_all
    all_goals constructor <;> first | assumption | simp [*]
    all_goals cases hm : s.mode <;> simp_all [ExitMode.deinits]
  case destruct =>
    split at hs <;> try simp at hs
    simp_all
    split at hs <;> simp only [Option.some.injEq] at hs <;> subst hs
    all_goals constructor <;> first | assumption | simp [*]
    all_goals cases hm : s.mode <;> simp_all [ExitMode.deinits]
  case died =>
    split at hs <;> simp at hs; subst hs
    simp_all
    constructor <;> simp [*]
  case creatorDeinit =>
    split at hs <;> try simp at hs
    split at hs
    · rename_i hr
      have hpj : s.pc ≠ .joined := (h.dead_reg.1 hr).2
      split at hs <;> simp only [Option.some.injEq] at hs <;> subst hs
      · have hpe : s.pc = .exited := by simp_all
        simp_all
        constructor <;> first | assumption | simp [*]
      · have hpe : s.pc ≠ .exited := by intro hp; simp_all
        simp_all
        constructor <;> first | assumption | simp [*]
    · simp only [Option.some.injEq] at hs; subst hs
      have hpj : s.pc = .joined := by
        cases hp : s.pc <;> simp_all
      simp_all
      constructor <;> first | assumption | simp [*]
theorem treach_inv {m : ExitMode} {s : TSt} (hr : TReach m s) : TInv s ∧ s.mode = m := by
  induction hr with
  | init => exact ⟨tinv_init m, rfl⟩
  | step _ hs ih => exact ⟨tinv_step ih.1 hs, by rw [(tstep_frame hs).1, ih.2]⟩

/-- whichever way the body ends and whenever the creator deinitialises its loop: once neither side can do anything
more, the thread has either been joined, or the creator's loop is gone and the thread has exited; in both cases
the record has been freed exactly once, `dead` is unregistered and not pending, nothing freed was used -/
theorem thread_final {s : TSt} (h : TInv s) (hst : TStuck s) :
    (s.pc = .joined ∨ (s.pc = .exited ∧ s.creatorGone = true)) ∧ s.frees = 1 ∧ s.deadReg = false ∧ s.deadOwed = false ∧
    s.ivState = false ∧ s.deinits = (if s.mode = .noInit then 0 else 1) ∧ s.fault = false := by
  have h' := h
  cases h'
  have hpc : s.pc = .joined ∨ (s.pc = .exited ∧ s.creatorGone = true) := by
    cases hp : s.pc with
    | joined => exact Or.inl rfl
    | created => have := hst .run (by simp); simp [tstep, hp] at this
    | body =>
      cases hd : s.mode.deinits
      · have := hst .leave (by simp); simp [tstep, hp, hd] at this
      · have := hst .deinit (by simp); simp [tstep, hp, hd] at this
    | bodyNoState => have := hst .leave (by simp); simp [tstep, hp] at this
    | exiting =>
      have := hst .destruct (by simp); simp [tstep, hp] at this
      split at this <;> simp at this
    | exited =>
      cases hg : s.creatorGone
      · have := hst .died (by simp); simp [tstep, hp, h.dead_owed.2 ⟨hg, hp⟩, hg] at this
      · exact Or.inr ⟨rfl, rfl⟩
  rcases hpc with hp | ⟨hp, hg⟩
  · refine ⟨Or.inl hp, ?_⟩; simp_all
  · refine ⟨Or.inr ⟨hp, hg⟩, ?_⟩; simp_all

/-- `dead` is posted only by the exiting thread's destructor, only while the creator's loop exists, and at most once -/
theorem post_only_to_live_loop {s s' : TSt} {a : TAct} (h : TInv s) (hs : tstep s a = some s') (hp : s'.posts ≠ s.posts) :
    a = .destruct ∧ s.creatorGone = false ∧ s.posts = 0 ∧ s'.posts = 1 := by
  have ha : a = .destruct := by
    by_cases ha : a = .destruct
    · exact ha
    · exact absurd ((tstep_frame hs).2 ha) hp
  subst ha
  have h' := h
  cases h'
  simp only [tstep] at hs
  split at hs <;> try simp at hs
  rename_i hpc
  split at hs <;> simp only [Option.some.injEq] at hs <;> subst hs
  · simp at hp
  · rename_i ho
    have hg : s.creatorGone = false := by
      cases hg : s.creatorGone
      · rfl
      · exfalso; simp_all
    refine ⟨rfl, hg, ?_, ?_⟩ <;> simp_all

end Proofs
end Ivy.Work
