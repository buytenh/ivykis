import Ivy.L3.PopenSpec
/-!
Proofs about the model of iv_popen.c.  `Step` describes `step` branch by branch (`step_spec`), and everything that
looks at what an action does argues by cases on it: every successful step keeps `Inv` (`inv_step`, hence `reach_inv`
and `no_fault`), only the timer writes `sent` (`sent_frame`).  The fair loop: `round` and its parts are compositions
of `step!` (`round_pres`), and a round releases the record or lowers `pot` (`round_progress`, `fair_fold`).  Then
what `Sched` and `SchedExact` say of the `i`-th signal, and the descriptor wiring of the child (`child_wiring`).
-/
namespace Ivy.Popen.Proofs
open Ivy.Popen

theorem nextDue_nil (c : Nat) : nextDue c [] = c := rfl

theorem nextDue_snoc (c : Nat) (l : List (Nat × Sig)) (t : Nat) (sg : Sig) :
    nextDue c (l ++ [(t, sg)]) = t + INTERVAL_NS := by
  simp [nextDue]

theorem nextDue_cons (c : Nat) (x : Nat × Sig) (l : List (Nat × Sig)) :
    nextDue c (x :: l) = nextDue (x.1 + INTERVAL_NS) l := by
  cases l with
  | nil => rfl
  | cons y r =>
    simp only [nextDue, List.getLast?_cons_cons]
    cases h : (y :: r).getLast? with
    | none => simp at h
    | some v => rfl

theorem sched_snoc (c k : Nat) (l : List (Nat × Sig)) (t : Nat) (sg : Sig) :
    Sched c k (l ++ [(t, sg)]) ↔ Sched c k l ∧ sg = sigFor (k + l.length) ∧ nextDue c l ≤ t := by
  induction l generalizing c k with
  | nil => simp [Sched, nextDue]
  | cons x rest ih =>
    simp only [List.cons_append, Sched, ih, nextDue_cons, List.length_cons, and_assoc,
      show k + 1 + rest.length = k + (rest.length + 1) by omega]

theorem schedExact_snoc (c k : Nat) (l : List (Nat × Sig)) (t : Nat) (sg : Sig) :
    SchedExact c k (l ++ [(t, sg)]) ↔ SchedExact c k l ∧ sg = sigFor (k + l.length) ∧ t = nextDue c l := by
  induction l generalizing c k with
  | nil => simp [SchedExact, nextDue]
  | cons x rest ih =>
    simp only [List.cons_append, SchedExact, ih, nextDue_cons, List.length_cons, and_assoc,
      show k + 1 + rest.length = k + (rest.length + 1) by omega]

theorem init_inv (t0 : Nat) : Inv (St.init t0) := by
  constructor <;> simp [St.init, closeTime, Sched, SchedExact]

attribute [local simp, local grind =] closeTime

/-- `step s a` branch by branch: each enabled branch with the guards that select it and its result, each refusal and
each fault with its reason -/
inductive Step (s : St) : Act → Res → Prop
  | submitOff {ty p f} : s.recSt ≠ .none ∨ s.isOpen = true → Step s (.submit ty p f) .disabled
  | submitBad {ty p f} : s.recSt = .none → s.isOpen = false → ty = none ∨ p = false →
      Step s (.submit ty p f)
        (.ok { s with allocs := s.allocs + 1, recSt := .freed, frees := s.frees + 1 } [.alloc, .free, .ret none])
  | submitNoFork {fr} : s.recSt = .none → s.isOpen = false →
      Step s (.submit (some fr) true false)
        (.ok { s with allocs := s.allocs + 1, recSt := .freed, frees := s.frees + 1 }
          [.alloc, .spawn false, .closeBoth, .free, .ret none])
  | submitOk {fr} : s.recSt = .none → s.isOpen = false →
      Step s (.submit (some fr) true true)
        (.ok { s with allocs := s.allocs + 1, recSt := .live, waitReg := true, dead := false, pending := [],
                      spawned := true, alive := true, attached := true, reqChild := true, isOpen := true,
                      forRead := fr } [.alloc, .spawn true, .ret (some fr)])
  | closeOff : s.isOpen = false → Step s .close .disabled
  | closeIdle : s.isOpen = true → s.reqChild = false →
      Step s .close (.ok { s with isOpen := false, closedAt := some s.now } [])
  | closeFault {f} : s.isOpen = true → s.reqChild = true → s.recSt ≠ .live ∨ s.timerReg = true → Step s .close (.fault f)
  | closeChild : s.isOpen = true → s.reqChild = true → s.recSt = .live → s.timerReg = false →
      Step s .close (.ok { s with isOpen := false, closedAt := some s.now, attached := false, timerReg := true,
                                  timerAt := s.now, numKills := 0 } [.tReg s.now])
  | resetOff : s.isOpen = true → Step s .reqReset .disabled
  | reset : s.isOpen = false → Step s .reqReset (.ok { s with reqChild := false } [])
  | tick d : Step s (.tick d) (.ok { s with now := s.now + d } [])
  | timerOff {k d} : s.timerReg = false ∨ s.now < s.timerAt → Step s (.timerFire k d) .disabled
  | timerFault {k d f} : s.timerReg = true → s.recSt ≠ .live ∨ s.waitReg = false → Step s (.timerFire k d) (.fault f)
  | timerDead {k d} : s.timerReg = true → s.recSt = .live → s.timerAt ≤ s.now → s.waitReg = true → s.dead = true →
      Step s (.timerFire k d)
        (.ok { s with timerReg := false, numKills := s.numKills + 1, punctual := s.punctual && s.now == s.timerAt,
                      waitReg := false, pending := [], recSt := .freed, frees := s.frees + 1 }
          [.killReq (sigFor s.numKills), .wUnreg, .free])
  | timerRefused {d} : s.timerReg = true → s.recSt = .live → s.timerAt ≤ s.now → s.waitReg = true → s.dead = false →
      Step s (.timerFire false d)
        (.ok { s with timerReg := false, numKills := s.numKills + 1, punctual := s.punctual && s.now == s.timerAt,
                      sent := s.sent ++ [(s.now, sigFor s.numKills)], lateKill := s.lateKill || s.reaped,
                      killFailed := true, waitReg := false, pending := [], recSt := .freed, frees := s.frees + 1 }
          [.killReq (sigFor s.numKills), .sysKill (sigFor s.numKills), .wUnreg, .free])
  | timerRearm {d} : s.timerReg = true → s.recSt = .live → s.timerAt ≤ s.now → s.waitReg = true → s.dead = false →
      Step s (.timerFire true d)
        (.ok { s with timerReg := true, numKills := s.numKills + 1, punctual := s.punctual && s.now == s.timerAt,
                      sent := s.sent ++ [(s.now, sigFor s.numKills)], lateKill := s.lateKill || s.reaped,
                      alive := s.alive && !(s.alive && (d || sigFor s.numKills == .kill)),
                      kq := if s.alive && (d || sigFor s.numKills == .kill) then s.kq ++ [(sigFor s.numKills).num] else s.kq,
                      timerAt := s.now + INTERVAL_NS }
          [.killReq (sigFor s.numKills), .sysKill (sigFor s.numKills), .tReg (s.now + INTERVAL_NS)])
  | procOff {st} : s.spawned = false ∨ s.alive = false → Step s (.procEvent st) .disabled
  | proc {st} : s.spawned = true → s.alive = true →
      Step s (.procEvent st) (.ok { s with kq := s.kq ++ [st], alive := !isTerminal st } [])
  | reapOff : s.kq = [] → Step s .reap .disabled
  | reap {st rest} : s.kq = st :: rest →
      Step s .reap (.ok { s with kq := rest,
                                 pending := if s.waitReg && !s.dead then s.pending ++ [st] else s.pending,
                                 reaped := isTerminal st || s.reaped,
                                 dead := if isTerminal st then s.dead || (s.waitReg && !s.dead) else s.dead } [])
  | statusOff : s.pending = [] ∨ s.waitReg = false → Step s .childStatus .disabled
  | statusFault {f} : s.waitReg = true → s.recSt ≠ .live ∨ (s.attached = false ∧ s.timerReg = false) →
      Step s .childStatus (.fault f)
  | statusMore {st rest} : s.pending = st :: rest → s.waitReg = true → s.recSt = .live → isTerminal st = false →
      Step s .childStatus (.ok { s with pending := rest } [])
  | statusAttached {st rest} : s.pending = st :: rest → s.waitReg = true → s.recSt = .live → isTerminal st = true →
      s.attached = true →
      Step s .childStatus
        (.ok { s with pending := [], waitReg := false, reqChild := false, recSt := .freed, frees := s.frees + 1 }
          [.wUnreg, .detach, .free])
  | statusDetached {st rest} : s.pending = st :: rest → s.waitReg = true → s.recSt = .live → isTerminal st = true →
      s.attached = false → s.timerReg = true →
      Step s .childStatus
        (.ok { s with pending := [], waitReg := false, timerReg := false, recSt := .freed, frees := s.frees + 1 }
          [.wUnreg, .tUnreg, .free])

theorem Step.ite {s : St} {a : Act} {c : Prop} [Decidable c] {r r' : Res} (h1 : c → Step s a r)
    (h2 : ¬c → Step s a r') : Step s a (if c then r else r') := by
  split
  · exact h1 ‹_›
  · exact h2 ‹_›

theorem bnot_true {b : Bool} : ¬(!b) = true → b = true := by simp
theorem bnot_false {b : Bool} : (!b) = true → b = false := by simp

theorem step_spec (s : St) (a : Act) : Step s a (step s a) := by
  cases a with
  | submit ty p f =>
    refine Step.ite (fun h => .submitOff (by simpa using h)) fun h => ?_
    have hn : s.recSt = .none := Decidable.not_not.mp fun h' => h (.inl h')
    have ho : s.isOpen = false := by simpa using fun h' => h (.inr h')
    cases ty with
    | none => exact .submitBad hn ho (.inl rfl)
    | some fr =>
      cases p with
      | false => exact .submitBad hn ho (.inr rfl)
      | true =>
        cases f with
        | false => exact .submitNoFork hn ho
        | true => exact .submitOk hn ho
  | close =>
    refine Step.ite (fun h => .closeOff (bnot_false h)) fun h => ?_
    have g1 := bnot_true h
    refine Step.ite (fun h2 => .closeIdle g1 (bnot_false h2)) fun h2 => ?_
    have g2 := bnot_true h2
    exact Step.ite (fun h3 => .closeFault g1 g2 (.inl h3)) fun h3 =>
      Step.ite (fun h4 => .closeFault g1 g2 (.inr h4)) fun h4 =>
        .closeChild g1 g2 (Decidable.not_not.mp h3) (by simpa using h4)
  | reqReset => exact Step.ite (fun h => .resetOff h) fun h => .reset (by simpa using h)
  | tick d => exact .tick d
  | timerFire k d =>
    refine Step.ite (fun h => .timerOff (.inl (bnot_false h))) fun h => ?_
    have g1 := bnot_true h
    refine Step.ite (fun h2 => .timerFault g1 (.inl h2)) fun h2 => Step.ite (fun h3 => .timerOff (.inr h3)) fun h3 =>
      Step.ite (fun h4 => .timerFault g1 (.inr (bnot_false h4))) fun h4 => ?_
    have g2 := Decidable.not_not.mp h2; have g3 := Nat.not_lt.mp h3; have g4 := bnot_true h4
    refine Step.ite (fun h5 => .timerDead g1 g2 g3 g4 h5) fun h5 => ?_
    have g5 : s.dead = false := by simpa using h5
    cases k with
    | false => exact .timerRefused g1 g2 g3 g4 g5
    | true => exact .timerRearm g1 g2 g3 g4 g5
  | procEvent st =>
    refine Step.ite (fun h => .procOff (by cases hs : s.spawned <;> simp_all)) fun h => ?_
    have : s.spawned = true ∧ s.alive = true := by simpa using h
    exact .proc this.1 this.2
  | reap =>
    show Step s _ (doReap s)
    unfold doReap
    split
    · exact .reapOff ‹_›
    · rename_i st rest hk
      cases ht : isTerminal st <;> cases hw : s.waitReg <;> cases hd : s.dead <;>
        simpa [hk, ht, hw, hd] using Step.reap (s := s) hk
  | childStatus =>
    show Step s _ (doStatus s)
    unfold doStatus
    split
    · exact .statusOff (.inl ‹_›)
    · rename_i st rest hp
      refine Step.ite (fun h => .statusOff (.inr (bnot_false h))) fun h => ?_
      have g1 := bnot_true h
      refine Step.ite (fun h2 => .statusFault g1 (.inl h2)) fun h2 => ?_
      have g2 := Decidable.not_not.mp h2
      refine Step.ite (fun h3 => .statusMore hp g1 g2 (bnot_false h3)) fun h3 => ?_
      have g3 := bnot_true h3
      refine Step.ite (fun h4 => .statusAttached hp g1 g2 g3 h4) fun h4 => ?_
      have g4 : s.attached = false := by simpa [wUnreg] using h4
      exact Step.ite (fun h5 => .statusFault g1 (.inr ⟨g4, by simpa [wUnreg] using h5⟩)) fun h5 =>
        .statusDetached hp g1 g2 g3 g4 (by simpa [wUnreg] using h5)

theorem Step.of_ok {s s' : St} {a : Act} {o : List Out} (hs : step s a = .ok s' o) : Step s a (.ok s' o) :=
  hs ▸ step_spec s a

theorem Step.submit_fail {s s' : St} {o : List Out} {ty : Option Bool} {p f : Bool}
    (h : Step s (.submit ty p f) (.ok s' o)) (hfail : ty = none ∨ p = false ∨ f = false) :
    s.recSt = .none ∧ s.isOpen = false ∧
      s' = { s with allocs := s.allocs + 1, recSt := .freed, frees := s.frees + 1 } ∧
      Out.ret none ∈ o ∧ (ty ≠ none → p = true → Out.closeBoth ∈ o) := by
  cases h with
  | submitBad hn ho hc =>
    exact ⟨hn, ho, rfl, by simp, fun ht hp => by rcases hc with rfl | rfl <;> contradiction⟩
  | submitNoFork hn ho => exact ⟨hn, ho, rfl, by simp, fun _ _ => by simp⟩
  | submitOk => simp at hfail

theorem sigNum_terminal (sg : Sig) : isTerminal sg.num = true := by cases sg <;> rfl

/-! ### each branch keeps the invariant: the clauses not listed read no field the branch writes -/

theorem detached_of_timer {s : St} (h : Inv s) (hl : s.recSt = .live) (ht : s.timerReg = true) :
    s.attached = false := by
  cases ha : s.attached with
  | false => rfl
  | true => rw [(h.att hl ha).2.2.1] at ht; cases ht

/-- freeing the live record once the terminal status has been collected: interest and timer go with it, and an open
request no longer points at it -/
theorem inv_free {s : St} (h : Inv s) (hl : s.recSt = .live) (hr : s.reaped = true) {tr rc pu : Bool} {nk : Nat}
    (htr : tr = false) (hrc : s.isOpen = true → rc = false) (hpu : pu = true → s.punctual = true) :
    Inv { s with pending := [], waitReg := false, timerReg := tr, reqChild := rc, numKills := nk, punctual := pu,
                 recSt := .freed, frees := s.frees + 1 } :=
  have h2 := h.live_ hl
  { h with
    none_ := nofun
    live_ := nofun
    att := nofun
    det := nofun
    freed_ := fun _ => ⟨rfl, htr, h2.2.2.1, by simp [h2.2.2.2.1], hrc⟩
    reap_dead := nofun
    dead_pend := nofun
    pend_term := nofun
    kills_le := nofun
    exact := fun hp => h.exact (hpu hp)
    unspawned := by simp [h2]
    kf := fun _ => rfl
    fr_reap := fun _ _ _ => hr }

theorem inv_step {s s' : St} {a : Act} {o : List Out} (h : Inv s) (hs : step s a = .ok s' o) : Inv s' := by
  cases Step.of_ok hs with
  | submitBad hn ho | submitNoFork hn ho =>
    have h1 := h.none_ hn
    exact { h with
      none_ := nofun
      live_ := nofun
      att := nofun
      det := nofun
      freed_ := by grind
      dead_pend := nofun
      kills_le := nofun
      unspawned := by have := h.unspawned; grind
      kf := by grind
      fr_reap := by grind }
  | submitOk hn ho =>
    have h1 := h.none_ hn
    have h2 := h.unspawned h1.2.2.2.2.2.1
    exact { h with
      none_ := nofun
      live_ := by have := h.kf; grind
      att := by grind
      det := by grind
      freed_ := nofun
      open_ := by grind
      dead_reap := nofun
      reap_dead := by grind
      alive_kq := by grind
      zombie := by grind
      dead_pend := by grind
      pend_term := by grind
      kills_le := by grind
      unspawned := by grind
      kf := by have := h.kf; grind
      fr_reap := nofun }
  | closeIdle ho hr =>
    have h1 := h.open_ ho
    exact { h with
      none_ := by have := h.none_; grind
      att := by have := h.att; grind
      det := by have := h.det; grind
      freed_ := by have := h.freed_; grind
      open_ := nofun
      sched := by simp [h1, Sched]
      exact := by simp [h1, SchedExact]
      sent_cl := nofun }
  | closeChild ho hr hl ht =>
    have h1 := h.open_ ho
    exact { h with
      none_ := by have := h.none_; grind
      att := by grind
      det := by simp [h1, closeTime, nextDue]
      freed_ := by grind
      open_ := nofun
      kills_le := by simp
      sched := by simp [h1, Sched]
      exact := by simp [h1, SchedExact]
      sent_cl := nofun }
  | reset ho =>
    exact { h with
      none_ := by have := h.none_; grind
      att := by have := h.att; grind
      freed_ := by have := h.freed_; grind }
  | tick d => exact { h with }
  | proc hsp hal =>
    exact { h with
      alive_kq := by have := h.alive_kq hal; grind
      zombie := by grind
      kills_le := by have := h.kills_le; grind
      unspawned := by grind }
  | reap hk =>
    exact { h with
      dead_reap := by have := h.dead_reap; grind
      reap_dead := by have := h.reap_dead; grind
      alive_kq := by have := h.alive_kq; grind
      zombie := by have := h.zombie; have := h.alive_kq; grind
      dead_pend := by have := h.dead_pend; grind
      pend_term := by have := h.pend_term; grind
      unspawned := by have := h.unspawned; grind
      fr_reap := by have := h.fr_reap; grind }
  | statusMore hp hw hl ht =>
    exact { h with
      dead_pend := by have := h.dead_pend; grind
      pend_term := by have := h.pend_term; grind }
  | @statusAttached st rest hp _ hl ht ha =>
    exact inv_free h hl (h.pend_term st (by simp [hp]) ht) (h.att hl ha).2.2.1 (fun _ => rfl) id
  | @statusDetached st rest hp _ hl ht ha =>
    exact inv_free h hl (h.pend_term st (by simp [hp]) ht) rfl (fun ho => by simp [(h.det hl ha).2.1] at ho) id
  | timerDead ht hl _ _ hdead =>
    have h4 := h.det hl (detached_of_timer h hl ht)
    exact inv_free h hl (h.dead_reap hdead) rfl (fun ho => by simp [h4.2.1] at ho) fun hp => (Bool.and_eq_true_iff.mp hp).1
  | timerRefused ht hl hn hw hdead =>
    have h2 := h.live_ hl
    have hd := detached_of_timer h hl ht
    have h4 := h.det hl hd
    have hcl : s.closedAt ≠ none := by intro hc; simp [hc] at h4
    exact { h with
      none_ := nofun
      live_ := nofun
      att := nofun
      det := nofun
      freed_ := by simp [h2, h4]
      open_ := by simp [h4]
      reap_dead := nofun
      dead_pend := nofun
      pend_term := nofun
      late := by have := h.late; have := h.reap_dead; grind
      kills_le := nofun
      sched := by have := h.sched; grind [sched_snoc]
      exact := by have := h.exact; grind [schedExact_snoc]
      sent_cl := by simp [hcl]
      unspawned := by simp [h2]
      kf := fun _ => rfl
      fr_reap := nofun }
  | timerRearm ht hl hn hw hdead =>
    have h2 := h.live_ hl
    have hd := detached_of_timer h hl ht
    have h4 := h.det hl hd
    have hcl : s.closedAt ≠ none := by intro hc; simp [hc] at h4
    exact { h with
      none_ := by simp [hl]
      att := by simp [hd]
      det := by simp [h4, nextDue_snoc]
      freed_ := by simp [hl]
      open_ := by simp [h4]
      alive_kq := by have := h.alive_kq; grind
      zombie := by have := h.zombie; have := sigNum_terminal (sigFor s.numKills); grind
      late := by have := h.late; have := h.reap_dead; grind
      kills_le := by grind [sigFor]
      sched := by have := h.sched; grind [sched_snoc]
      exact := by have := h.exact; grind [schedExact_snoc]
      sent_cl := by simp [hcl]
      unspawned := by simp [h2] }

theorem reach_inv {s : St} (h : Reach s) : Inv s := by
  induction h with
  | init t0 => exact init_inv t0
  | step _ hs ih => exact inv_step ih hs

/-- no action ever touches freed memory, registers the timer twice or unregisters something unregistered:
an open request with a child, a registered timer and a registered interest all belong to a live record -/
theorem no_fault {s : St} (h : Inv s) (a : Act) (f : Fault) : step s a ≠ .fault f := by
  intro hs
  have hn := h.none_
  have hf := h.freed_
  have hcase : s.recSt = .none ∨ s.recSt = .live ∨ s.recSt = .freed := by cases s.recSt <;> simp
  have hst := step_spec s a
  rw [hs] at hst
  cases hst with
  | closeFault ho hr hc => have := h.att; have := h.det; grind
  | timerFault ht hc => have := h.live_; grind
  | statusFault hw hc => have := h.det; grind

theorem sent_frame {s s' : St} {a : Act} {o : List Out} (hs : step s a = .ok s' o)
    (ha : ∀ k d, a ≠ .timerFire k d) : s'.sent = s.sent ∧ ∀ sg, Out.sysKill sg ∉ o := by
  cases Step.of_ok hs with
  | timerDead | timerRefused | timerRearm => exact absurd rfl (ha _ _)
  | _ => exact ⟨rfl, by simp⟩

/-- once the terminal status has been collected no step makes another kill() system call: with the status
collected the interest is DEAD, so the kill helper called by the timer refuses -/
theorem no_kill_after_reap {s s' : St} {a : Act} {o : List Out} (h : Inv s) (hr : s.reaped = true)
    (hs : step s a = .ok s' o) : s'.sent = s.sent ∧ ∀ sg, Out.sysKill sg ∉ o := by
  cases a with
  | timerFire k d =>
    cases Step.of_ok hs with
    | timerDead => exact ⟨rfl, by simp⟩
    | timerRefused _ _ _ hw hd | timerRearm _ _ _ hw hd => rw [h.reap_dead hr hw] at hd; cases hd
  | _ => exact sent_frame hs nofun

theorem step!_ok {s s' : St} {a : Act} {o : List Out} (hs : step s a = .ok s' o) : step! s a = s' := by
  simp [step!, hs]

theorem step!_inv (s : St) (a : Act) (h : Inv s) : Inv (step! s a) := by
  unfold step!
  split
  · rename_i s' o hs; exact inv_step h hs
  · exact h

theorem step!_sent {s : St} {a : Act} (ha : ∀ k d, a ≠ .timerFire k d) : (step! s a).sent = s.sent := by
  unfold step!
  split
  · rename_i hs; exact (sent_frame hs ha).1
  · rfl

theorem reapAll_pres {P : St → Prop} (hP : ∀ s, P s → P (step! s .reap)) :
    ∀ (n : Nat) (s : St), P s → P (reapAll s n)
  | 0, _, h => h
  | n + 1, _, h => reapAll_pres hP n _ (hP _ h)

theorem deliverAll_pres {P : St → Prop} (hP : ∀ s, P s → P (step! s .childStatus)) :
    ∀ (n : Nat) (s : St), P s → P (deliverAll s n)
  | 0, _, h => h
  | n + 1, _, h => deliverAll_pres hP n _ (hP _ h)

theorem collect_pres {P : St → Prop} (hr : ∀ s, P s → P (step! s .reap)) (hd : ∀ s, P s → P (step! s .childStatus))
    {s : St} (h : P s) : P (collect s) :=
  deliverAll_pres hd _ _ (reapAll_pres hr _ _ h)

theorem spont_pres {P : St → Prop} (hP : ∀ s a, P s → P (step! s a)) {s : St} (h : P s) (e : Env) :
    P (spontStep s e) := by
  unfold spontStep; split
  · exact hP _ _ h
  · exact h

theorem round_pres {P : St → Prop} (hP : ∀ s a, P s → P (step! s a)) {s : St} (h : P s) (e : Env) :
    P (round s e) := by
  have h1 : P (collect (spontStep s e)) := collect_pres (hP · _) (hP · _) (spont_pres hP h e)
  unfold round fire; split
  · exact hP _ _ (hP _ _ h1)
  · exact h1

theorem collect_sent (s : St) : (collect s).sent = s.sent :=
  collect_pres (P := fun x => x.sent = s.sent) (fun _ h => (step!_sent (a := .reap) nofun).trans h)
    (fun _ h => (step!_sent (a := .childStatus) nofun).trans h) rfl

theorem released_of_freed {s : St} (h : Inv s) (hf : s.recSt = .freed) (hs : s.spawned = true)
    (hk : s.killFailed = false) : Released s := by
  have h5 := h.freed_ hf
  have hr := h.fr_reap hf hs hk
  have := h.alive_kq
  unfold Released objs
  grind

/-- the part of the state the fair-loop argument follows -/
def core (s : St) := (s.recSt, s.attached, s.numKills, s.alive)

theorem core_eq_fields {s s' : St} (h : core s' = core s) :
    s'.recSt = s.recSt ∧ s'.attached = s.attached ∧ s'.numKills = s.numKills ∧ s'.alive = s.alive := by
  simpa [core] using h

/-- a released record stays released: only `close`, `reqReset`, `tick` and `reap` are still possible, and they
write none of the fields `Released` reads (`reap` can only set `reaped` again) -/
theorem released_stable (s : St) (a : Act) (hr : Released s) : Released (step! s a) := by
  unfold step!
  split
  · rename_i s' o hs
    have ⟨r1, _, _, r4, r5, _, r7, r8⟩ := hr
    cases Step.of_ok hs with
    | closeIdle | reset | tick => exact hr
    | reap => exact ⟨hr.1, hr.2.1, hr.2.2.1, r4, r5, hr.2.2.2.2.2.1, by simp [r7], r8⟩
    | submitBad hn | submitNoFork hn | submitOk hn => rw [r1] at hn; cases hn
    | closeChild _ _ hl | statusMore _ _ hl | statusAttached _ _ hl | statusDetached _ _ hl => rw [r1] at hl; cases hl
    | timerDead ht | timerRefused ht | timerRearm ht => rw [r5] at ht; cases ht
    | proc _ ha => rw [r8] at ha; cases ha
  · exact hr

theorem reap_frame (s : St) : core (step! s .reap) = core s ∧ (step! s .reap).kq = s.kq.tail := by
  unfold step!
  have hst := step_spec s .reap
  generalize step s .reap = r at hst
  cases hst with
  | reapOff hk => exact ⟨rfl, by simp [hk]⟩
  | reap hk => exact ⟨rfl, by rw [hk]; rfl⟩

theorem reapAll_spec : ∀ (n : Nat) (s : St), s.kq.length ≤ n →
    core (reapAll s n) = core s ∧ (reapAll s n).kq = [] := by
  intro n
  induction n with
  | zero => intro s hl; exact ⟨rfl, show s.kq = [] by simpa using hl⟩
  | succ n ih =>
    intro s hl
    have hf := reap_frame s
    have := ih (step! s .reap) (by rw [hf.2]; simp; omega)
    exact ⟨by rw [← hf.1]; exact this.1, this.2⟩

theorem deliver_live {s : St} (h : Inv s) (hl : s.recSt = .live) :
    (Released (step! s .childStatus) ∧ ∃ st, s.pending.head? = some st ∧ isTerminal st = true) ∨
    (core (step! s .childStatus) = core s ∧ (step! s .childStatus).pending = s.pending.tail ∧
      ∀ st, s.pending.head? = some st → isTerminal st = false) := by
  have h2 := h.live_ hl
  have freed : ∀ {x o}, step s .childStatus = .ok x o → x.recSt = .freed → x.spawned = s.spawned →
      x.killFailed = s.killFailed → Released x := fun hst a b c =>
    released_of_freed (inv_step h hst) a (b.trans h2.2.1) (c.trans h2.2.2.2.2)
  unfold step!
  have hst := step_spec s .childStatus
  generalize hr : step s .childStatus = r at hst
  cases hst with
  | statusFault => exact absurd hr (no_fault h _ _)
  | statusOff hc =>
    rcases hc with hp | hw
    · exact .inr (by simp [hp])
    · rw [h2.1] at hw; cases hw
  | statusMore hp _ _ ht => exact .inr (by simp [hp, ht, core])
  | statusAttached hp _ _ ht => exact .inl ⟨freed hr rfl rfl rfl, _, by simp [hp], ht⟩
  | statusDetached hp _ _ ht => exact .inl ⟨freed hr rfl rfl rfl, _, by simp [hp], ht⟩

theorem deliverAll_spec : ∀ (n : Nat) (s : St), Inv s → s.recSt = .live → s.pending.length ≤ n →
    Released (deliverAll s n) ∨
    (Inv (deliverAll s n) ∧ core (deliverAll s n) = core s ∧ ∀ st, st ∈ s.pending → isTerminal st = false) := by
  intro n
  induction n with
  | zero =>
    intro s h hl hn
    right
    have : s.pending = [] := by simpa using hn
    simp [deliverAll, h, this]
  | succ n ih =>
    intro s h hl hn
    simp only [deliverAll]
    rcases deliver_live h hl with ⟨hr, _⟩ | ⟨hc, hp, hh⟩
    · left; exact deliverAll_pres (released_stable · _) _ _ hr
    · have hi := step!_inv _ .childStatus h
      have hl' : (step! s .childStatus).recSt = .live := (core_eq_fields hc).1.trans hl
      rcases ih _ hi hl' (by rw [hp]; simp; omega) with hr | ⟨hi2, hc2, hall⟩
      · left; exact hr
      · right
        refine ⟨hi2, by rw [hc2, hc], ?_⟩
        intro st hm
        cases hpp : s.pending with
        | nil => rw [hpp] at hm; cases hm
        | cons a rest =>
          rw [hpp] at hm hp hh
          rcases List.mem_cons.mp hm with rfl | hm
          · exact hh _ (by simp)
          · exact hall _ (by rw [hp]; simpa using hm)

theorem collect_spec {s : St} (h : Inv s) (hl : s.recSt = .live) :
    Released (collect s) ∨ (Inv (collect s) ∧ core (collect s) = core s ∧ s.alive = true) := by
  unfold collect
  have hi1 := reapAll_pres (step!_inv · _) s.kq.length s h
  obtain ⟨hc1, hk1⟩ := reapAll_spec s.kq.length s (Nat.le_refl _)
  have hl1 := (core_eq_fields hc1).1.trans hl
  rcases deliverAll_spec _ _ hi1 hl1 (Nat.le_refl _) with hr | ⟨hi2, hc2, hall⟩
  · exact .inl hr
  · refine .inr ⟨hi2, hc2.trans hc1, ?_⟩
    -- a child that has ended is reaped once the kernel queue is empty, so a terminal status is pending
    cases ha : s.alive with
    | true => rfl
    | false =>
      have hlive := hi1.live_ hl1
      have hre : (reapAll s s.kq.length).reaped = true := by
        cases hr : (reapAll s s.kq.length).reaped with
        | true => rfl
        | false =>
          obtain ⟨st, hm, _⟩ := hi1.zombie hlive.2.1 ((core_eq_fields hc1).2.2.2.trans ha) hr
          rw [hk1] at hm; cases hm
      obtain ⟨st, hm, ht⟩ := hi1.dead_pend hl1 (hi1.reap_dead hre hlive.1)
      rw [hall st hm] at ht
      cases ht

theorem ended_released {s : St} (h : Inv s) (hl : s.recSt = .live) (ha : s.alive = false) :
    Released (collect s) :=
  (collect_spec h hl).resolve_right fun hc => by rw [ha] at hc; cases hc.2.2

/-- rounds still needed at most -/
def pot (s : St) : Nat := (if s.alive then MAX_SIGTERM_COUNT + 1 - s.numKills else 0) + 1

theorem spont_frame {s : St} (hl : s.recSt = .live) (e : Env) :
    (spontStep s e).recSt = .live ∧ (spontStep s e).attached = s.attached ∧
    (spontStep s e).numKills = s.numKills ∧ ((spontStep s e).alive = true → s.alive = true) := by
  unfold spontStep step!
  repeat' split
  · rename_i hs; cases Step.of_ok hs with | proc _ ha => exact ⟨hl, rfl, rfl, fun _ => ha⟩
  all_goals exact ⟨hl, rfl, rfl, id⟩

theorem fire_live {s : St} (h : Inv s) (hl : s.recSt = .live) (hd : s.attached = false) (ha : s.alive = true) (dies : Bool) :
    (fire s dies).recSt = .live ∧ (fire s dies).attached = false ∧ pot (fire s dies) < pot s := by
  have h4 := h.det hl hd
  have hk := h.kills_le hl hd ha
  have hdead : s.dead = false := by
    cases hx : s.dead with
    | false => rfl
    | true => have := (h.alive_kq ha).2.1; rw [h.dead_reap hx] at this; cases this
  unfold fire
  rw [if_pos h4.1, show step! s (.tick (s.timerAt - s.now)) = { s with now := s.now + (s.timerAt - s.now) } from rfl]
  unfold step!
  have hst := step_spec { s with now := s.now + (s.timerAt - s.now) } (.timerFire true dies)
  generalize hr : step _ (.timerFire true dies) = r at hst
  cases hst with
  | timerFault => exact absurd hr (no_fault (inv_step h (a := .tick _) rfl) _ _)
  | timerOff hc => exact absurd hc (by simp [h4.1]; omega)
  | timerDead _ _ _ _ hx => rw [hdead] at hx; cases hx
  | timerRearm =>
    refine ⟨hl, hd, ?_⟩
    simp only [pot, sigFor, ha, Bool.true_and, if_true]
    by_cases hlt : s.numKills < MAX_SIGTERM_COUNT
    · cases dies <;> simp [hlt] <;> omega
    · simp [hlt]; omega

theorem round_progress {s : St} (h : Inv s) (hl : s.recSt = .live) (hd : s.attached = false) (e : Env) :
    Released (round s e) ∨ ((round s e).recSt = .live ∧ (round s e).attached = false ∧ pot (round s e) < pot s) := by
  obtain ⟨hl0, hd0, hn0, ha0⟩ := spont_frame hl e
  unfold round
  rcases collect_spec (spont_pres step!_inv h e) hl0 with hr | ⟨hi2, hc2, hal⟩
  · left
    unfold fire
    rw [if_neg (by simp [hr.2.2.2.2.1])]
    exact hr
  · -- still running: nothing terminal was collected, the timer fires
    right
    obtain ⟨cl, cd, cn, ca⟩ := core_eq_fields hc2
    have := fire_live hi2 (cl.trans hl0) (cd.trans (hd0.trans hd)) (ca.trans hal) e.dies
    refine ⟨this.1, this.2.1, Nat.lt_of_lt_of_le this.2.2 ?_⟩
    simp only [pot, ca, hal, ha0 hal, if_true, cn, hn0]
    exact Nat.le_refl _

theorem pot_pos (s : St) : 1 ≤ pot s := by
  unfold pot; split <;> omega

theorem pot_le (s : St) : pot s ≤ MAX_SIGTERM_COUNT + 2 := by
  unfold pot; split <;> omega

theorem fold_released : ∀ (l : List Env) (x : St), Released x → Released (l.foldl round x)
  | [], _, hx => hx
  | e :: r, _, hx => fold_released r _ (round_pres released_stable hx e)

theorem fair_fold : ∀ (k : Nat) (envs : List Env) (s : St), Inv s → s.recSt = .live → s.attached = false →
    pot s ≤ k → k ≤ envs.length → Released (envs.foldl round s) := by
  intro k
  induction k with
  | zero => intro envs s _ _ _ hp _; have := pot_pos s; omega
  | succ k ih =>
    intro envs s h hl hd hp hlen
    cases envs with
    | nil => simp at hlen
    | cons e rest =>
      simp only [List.foldl_cons]
      rcases round_progress h hl hd e with hr | ⟨hl', hd', hlt⟩
      · exact fold_released _ _ hr
      · exact ih rest _ (round_pres step!_inv h e) hl' hd' (by omega) (by simpa using hlen)

theorem sched_drop : ∀ (l : List (Nat × Sig)) (c k : Nat), Sched c k l → ∀ i (h : i < l.length),
    (l[i]).2 = sigFor (k + i) ∧ c + i * INTERVAL_NS ≤ (l[i]).1 ∧
      Sched ((l[i]).1 + INTERVAL_NS) (k + i + 1) (l.drop (i + 1)) := by
  intro l
  induction l with
  | nil => intro c k _ i h; simp at h
  | cons x rest ih =>
    intro c k hs i h
    obtain ⟨t, sg⟩ := x
    obtain ⟨h1, h2, h3⟩ := hs
    cases i with
    | zero => exact ⟨h1, by simpa using h2, h3⟩
    | succ j =>
      obtain ⟨e, hle, hd⟩ := ih (t + INTERVAL_NS) (k + 1) h3 j (by simpa using h)
      simp only [List.getElem_cons_succ, List.drop_succ_cons]
      refine ⟨by rw [e]; congr 1; omega, by rw [Nat.add_mul]; omega, ?_⟩
      rwa [show k + (j + 1) + 1 = k + 1 + j + 1 by omega]

theorem sched_index (l : List (Nat × Sig)) (c k : Nat) (hs : Sched c k l) (i : Nat) (h : i < l.length) :
    (l[i]).2 = sigFor (k + i) ∧ c + i * INTERVAL_NS ≤ (l[i]).1 :=
  ⟨(sched_drop l c k hs i h).1, (sched_drop l c k hs i h).2.1⟩

theorem sched_gap (l : List (Nat × Sig)) (c k : Nat) (hs : Sched c k l) (i : Nat) (h : i + 1 < l.length) :
    (l[i]).1 + INTERVAL_NS ≤ (l[i + 1]).1 := by
  have := (sched_drop l c k hs i (by omega)).2.2
  rw [List.drop_eq_getElem_cons h] at this
  exact this.2.1

theorem schedExact_index : ∀ (l : List (Nat × Sig)) (c k : Nat), SchedExact c k l →
    ∀ i (h : i < l.length), l[i] = (c + i * INTERVAL_NS, sigFor (k + i)) := by
  intro l
  induction l with
  | nil => intro c k _ i h; simp at h
  | cons x rest ih =>
    intro c k hs i h
    obtain ⟨t, sg⟩ := x
    obtain ⟨h1, h2, h3⟩ := hs
    cases i with
    | zero => simp [h1, h2]
    | succ j =>
      have := ih (t + INTERVAL_NS) (k + 1) h3 j (by simpa using h)
      simp only [List.getElem_cons_succ]
      rw [this, h2, Nat.add_mul]
      congr 1
      · omega
      · congr 1; omega


theorem dup2_apply (t : FdTab) (o n x : Nat) :
    dup2 t o n x = if x = n ∧ (t o).isSome then t o else t x := by
  unfold dup2
  cases h : t o <;> simp

theorem child_wiring (fr : Bool) (t : FdTab) (p0 p1 dn : Nat)
    (h0 : (t 0).isSome) (h1 : (t 1).isSome) (h2 : (t 2).isSome)
    (hp0 : t p0 = none) (hp1 : t p1 = none) (hne : p0 ≠ p1)
    (hdn : t dn = none) (hd0 : dn ≠ p0) (hd1 : dn ≠ p1) :
    let c := childSide fr (afterPipe t p0 p1) p0 p1 dn
    c 0 = some (if fr then File.null else File.pipeR) ∧ c 1 = some (if fr then File.pipeW else File.null) ∧
    c 2 = some File.null ∧ c p0 = none ∧ c p1 = none ∧ c dn = none ∧
    ∀ x, 3 ≤ x → x ≠ p0 → x ≠ p1 → x ≠ dn → c x = t x := by
  have hq : p0 ≠ 0 ∧ p0 ≠ 1 ∧ p0 ≠ 2 ∧ p1 ≠ 0 ∧ p1 ≠ 1 ∧ p1 ≠ 2 ∧ dn ≠ 0 ∧ dn ≠ 1 ∧ dn ≠ 2 := by
    refine ⟨?_, ?_, ?_, ?_, ?_, ?_, ?_, ?_, ?_⟩ <;> (intro h; subst h; simp_all)
  intro c
  cases fr <;> simp only [c, childSide, Bool.false_eq_true, ↓reduceIte, afterPipe, openAt, close, dup2_apply] <;> grind

end Ivy.Popen.Proofs
