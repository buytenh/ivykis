/-
Model of /repo/src/iv_work.c (work pools) and of the part of /repo/src/iv_thread_posix.c it relies on,
as a labelled transition system.

One `St` is one pool instance: the fields the C code keeps under `pool->lock`, one program counter per
worker thread and one for the owner thread, at the granularity of the critical sections of iv_work.c:
every `Act` is one critical section (or one lock-free handler entry) and is atomic because the pool lock
is held for its whole duration; the order of operations inside each action follows the C text.

Events (`iv_event`) are used through their specification (C08): `iv_event_post` on a registered event makes
a later handler run in the owning thread "owed"; a post on an event that is already owed is absorbed; the
flag is cleared when the owner's loop takes the event off its list to run the handler (from then on a post is a
new delivery); `iv_event_unregister` cancels an owed run.  `kickOwed`,
`evOwed`, `tnOwed`, `deadOwed` are these flags for `thr->kick`, `pool->ev`, `pool->thread_needed` and
iv_thread's `dead`.  Timers: `timerReg` = the worker's idle timer is registered; its expiry (10 s without
being unregistered) is the environment action `wTimeout`.

Sequence numbers are `Nat` (the C uses uint32_t and compares by signed difference; the model is exact as
long as fewer than 2^31 items are outstanding).  List removal of a node is `filter (· ≠ k)` (list nodes are
unique).  Where the C would call `iv_fatal` (die on a kicked thread / a thread still on the idle list,
unregistering an unregistered timer, registering a registered timer) or take from an empty list, the model
sets `fatal`.  Thread creation is assumed to succeed.  Work items are numbered in submission order (an
`iv_work_item` structure may be reused once its completion has been called; each submission is a new number).

Submitters.  `iv_work_submit_pool` distinguishes only "called in the owner thread" from "called in any other thread"
(`called_from_owner_thread`).  `submit` is the first, `submitc k` and `submitf` are the second: `submitc k` is the
call made by worker k of this pool from inside a work function, `submitf` ("foreign") is the call made by any other
thread that is not the owner: in practice a worker of ANOTHER pool running one of that pool's work functions, or one
of this pool's workers inside a `thread_start` hook.  Both have the same effect (`enqueue s false`): enqueue under the
pool lock, kick the first idle worker and mark it `kicked`, else below `max_threads` post `thread_needed` to the owner;
a non-owner never starts a thread itself.

Environment contract (valid use, the whole of it): the application does not submit to a pool after it called
`iv_work_pool_put` on it (guard `handle = true` of the three submit actions: `put` clears the user's handle), and does
not call `put` while a submission to that pool is in progress (the caller reads `this->priv` before it takes the pool
lock: a submission is ONE action here, never interleaved with `put`).  Nothing else is assumed about a foreign
submitter: any thread, any moment, any number of times, whatever the pool's workers are doing.

History (defect D10).  The pinned code tests
`!pool->started_threads && iv_list_empty(&pool->work_done)` in `iv_work_event` before it frees a shutting-down pool:
`work_items` is not looked at.  A pool without any worker can have an item queued and only `thread_needed` owed (a
foreign continuation).  The owner's events run in posting order, so a fresh pool is safe (`thread_needed` was posted
before put's `ev`), but when `ev` is already pending (or the owner is inside `iv_work_event`) at the moment the last
worker idles out, the order is ev first: witness on the model of the pinned code (oFinish without the `queue = []`
test), for every max ≥ 1:
  submit, wStart 0, wSelfKick 0, wKick 0, wEnter 0, wAfter 0, wTimeout 0, wTimeoutRun 0, submitf, put, oEv, oSteal,
  oComplete, oFinish   ⟶   freed = true with queue = [1]: item 1 never runs, `thread_needed` is unregistered while owed.
Reproduced on the real code: corpus/C13/d10-freed-with-queued-continuation.scn.  The model below is the code after the
one-condition repair (`&& iv_list_empty(&pool->work_items)` in that test); with it no event ordering has to be assumed.
-/
namespace Ivy.Work

/-- where a worker thread is -/
inductive WPc where
  | starting            -- thread created; iv_init, kick not yet registered, thread_start not yet called
  | selfkick            -- kick registered, thread_start called; the start-up `iv_event_post(&thr->kick)` not yet done
  | parked              -- in its iv_main, outside every handler
  | gotPre              -- iv_work_thread_got_event invoked, pool lock not yet taken
  | running (i : Nat)   -- inside the work function of item i (between the unlock and the re-lock)
  | toPre               -- iv_work_thread_idle_timeout invoked, pool lock not yet taken
  | dying               -- __iv_work_thread_die done (kick unregistered, thr freed); leaving iv_main / iv_deinit
  | exited              -- thread function returned; the TLS destructor posted `dead`
  | joined              -- the owner joined it and unregistered `dead`
deriving DecidableEq, Repr

def WPc.live : WPc → Bool
  | .starting | .selfkick | .parked | .gotPre | .running _ | .toPre => true
  | _ => false

def WPc.isRunning : WPc → Bool
  | .running _ => true
  | _ => false

structure Worker where
  pc       : WPc  := .starting
  kicked   : Bool := false     -- thr->kicked
  kickReg  : Bool := false     -- thr->kick registered
  kickOwed : Bool := false     -- thr->kick posted, handler not yet invoked
  timerReg : Bool := false     -- thr->idle_timer registered
  lastSeq  : Nat  := 0         -- last_seq of the current got_event call
  starts   : Nat  := 0         -- ghost: calls of pool->thread_start in this thread
  stops    : Nat  := 0         -- ghost: calls of pool->thread_stop in this thread
  deadReg  : Bool := true      -- iv_thread: this thread's `dead` event is registered in the owner
  deadOwed : Bool := false     -- iv_thread: `dead` posted, iv_thread_died not yet invoked
deriving DecidableEq, Repr

inductive Phase where
  | queued | running | done | completed
deriving DecidableEq, Repr

def Phase.rank : Phase → Nat
  | .queued => 0 | .running => 1 | .done => 2 | .completed => 3

structure Item where
  phase     : Phase := .queued
  workRuns  : Nat := 0        -- ghost: calls of work->work
  complRuns : Nat := 0        -- ghost: calls of work->completion
  worker    : Nat := 0        -- ghost: the worker that took it
deriving DecidableEq, Repr

/-- where the owner thread is -/
inductive OPc where
  | idle                        -- outside the pool's handlers (its loop, or user code)
  | evPre                       -- iv_work_event invoked, pool lock not yet taken
  | compl (batch : List Nat)    -- iv_work_event: running the completions of the stolen list
  | tnPre                       -- iv_work_thread_needed invoked, pool lock not yet taken
deriving DecidableEq, Repr

/-- user code of the owner runs between handlers or inside a completion callback -/
def OPc.user : OPc → Bool
  | .idle | .compl _ => true
  | _ => false

def OPc.batch : OPc → List Nat
  | .compl b => b
  | _ => []

@[simp] theorem OPc.batch_compl (b : List Nat) : (OPc.compl b).batch = b := rfl
@[simp] theorem OPc.batch_idle : OPc.idle.batch = [] := rfl
@[simp] theorem OPc.batch_evPre : OPc.evPre.batch = [] := rfl
@[simp] theorem OPc.batch_tnPre : OPc.tnPre.batch = [] := rfl

structure St where
  max     : Nat                 -- max_threads
  handle  : Bool := true        -- the user's `this->priv` is non-NULL
  freed   : Bool := false       -- pool freed: pool->ev and pool->thread_needed unregistered
  seqHead : Nat := 0
  seqTail : Nat := 0
  queue   : List Nat := []      -- work_items
  done    : List Nat := []      -- work_done
  idle    : List Nat := []      -- idle_threads (first = list head)
  started : Nat := 0            -- started_threads
  shut    : Bool := false       -- shutting_down
  evOwed  : Bool := false
  tnOwed  : Bool := false
  owner   : OPc := .idle
  nw      : Nat := 0            -- workers ever created
  w       : Nat → Worker := fun _ => {}
  ni      : Nat := 0            -- items ever submitted
  it      : Nat → Item := fun _ => {}
  fatal   : Bool := false

def St.init (max : Nat) : St := { max }

inductive Act where
  | submit                 -- owner: iv_work_pool_submit_work / _continuation called in the owner thread
  | submitc (k : Nat)      -- iv_work_pool_submit_continuation from the work function running in worker k
  | submitf                -- iv_work_pool_submit_continuation from any other non-owner thread (a worker of another pool, ...)
  | put                    -- owner: iv_work_pool_put
  | wStart (k : Nat)       -- iv_work_thread up to and including thread_start
  | wSelfKick (k : Nat)    -- iv_work_thread: iv_event_post(&thr->kick)
  | wKick (k : Nat)        -- the worker's loop invokes iv_work_thread_got_event
  | wEnter (k : Nat)       -- got_event: first critical section
  | wAfter (k : Nat)       -- got_event: critical section after a work function returned
  | wTimeout (k : Nat)     -- the idle timer expires: the worker's loop invokes iv_work_thread_idle_timeout
  | wTimeoutRun (k : Nat)  -- idle_timeout: its critical section
  | wExit (k : Nat)        -- the thread function returns, the iv_thread destructor posts `dead`
  | oEv                    -- the owner's loop invokes iv_work_event
  | oSteal                 -- iv_work_event: steals the done list
  | oComplete              -- iv_work_event: calls the next completion
  | oFinish                -- iv_work_event: the shutting_down test (frees the pool or returns)
  | oTn                    -- the owner's loop invokes iv_work_thread_needed
  | oTnRun                 -- iv_work_thread_needed: its critical section
  | oJoin (k : Nat)        -- the owner's loop invokes iv_thread_died for worker k: join, unregister `dead`
deriving DecidableEq, Repr

def setW (s : St) (k : Nat) (f : Worker → Worker) : St :=
  { s with w := fun j => if j = k then f (s.w j) else s.w j }

def setI (s : St) (i : Nat) (f : Item → Item) : St :=
  { s with it := fun j => if j = i then f (s.it j) else s.it j }

/-- `iv_work_start_thread` (called with the pool lock held, in the owner thread) -/
def startThread (s : St) : St :=
  { s with nw := s.nw + 1, started := s.started + 1, w := fun j => if j = s.nw then {} else s.w j }

/-- `iv_work_submit_pool`: `pool->seq_tail++; iv_list_add_tail(&work->list, &pool->work_items)` (the new item gets number `s.ni`) -/
def enq0 (s : St) : St :=
  { s with ni := s.ni + 1, it := fun j => if j = s.ni then {} else s.it j,
           seqTail := s.seqTail + 1, queue := s.queue ++ [s.ni] }

/-- `iv_work_submit_pool` -/
def enqueue (s : St) (byOwner : Bool) : St :=
  let s := enq0 s
  match s.idle with
  | t :: _ => setW s t (fun w => { w with kicked := true, kickOwed := true })
  | [] =>
    if s.started < s.max then
      if byOwner then startThread s else { s with tnOwed := true }
    else s

/-- `__iv_work_thread_die` (pool lock held) -/
def die (s : St) (k : Nat) : St :=
  if (s.w k).kicked = true ∨ k ∈ s.idle then { s with fatal := true } else
  let s := setW s k (fun w => { w with kickReg := false, kickOwed := false, stops := w.stops + 1, pc := .dying })
  let s := { s with started := s.started - 1 }
  if s.shut = true ∧ s.started = 0 then { s with evOwed := true } else s

/-- the `while` test of got_event and what follows it, up to the next unlock -/
def loopTail (s : St) (k : Nat) : St :=
  if s.seqHead < (s.w k).lastSeq then
    match s.queue with
    | i :: q =>
      let s := { s with seqHead := s.seqHead + 1, queue := q }
      let s := setI s i (fun it => { it with phase := .running, workRuns := it.workRuns + 1, worker := k })
      setW s k (fun w => { w with pc := .running i })
    | [] => { s with fatal := true }
  else if s.seqHead = s.seqTail then
    if s.shut = false then
      if (s.w k).timerReg = true then { s with fatal := true } else
      let s := { s with idle := k :: s.idle }
      setW s k (fun w => { w with timerReg := true, pc := .parked })
    else die s k
  else
    setW s k (fun w => { w with kickOwed := true, pc := .parked })

/-- got_event, from the lock to the loop test: `thr->kicked = 0`; leave the idle list and stop the idle timer if
parked there; `last_seq = pool->seq_tail` -/
def enterPrep (s : St) (k : Nat) : St :=
  let onIdle : Bool := decide (k ∈ s.idle)
  let s := setW s k (fun w => { w with kicked := false, timerReg := (if onIdle then false else w.timerReg), lastSeq := s.seqTail })
  { s with idle := s.idle.filter (· ≠ k) }

/-- got_event after the work function of item i returned, from the re-lock to the loop test:
`if (iv_list_empty(&pool->work_done)) iv_event_post(&pool->ev); iv_list_add_tail(&work->list, &pool->work_done)` -/
def afterPrep (s : St) (k i : Nat) : St :=
  let s := { s with evOwed := s.evOwed || s.done.isEmpty, done := s.done ++ [i] }
  let s := setI s i (fun it => { it with phase := .done })
  setW s k (fun w => { w with pc := .gotPre })

def step (s : St) : Act → Option St
  | .submit =>
    if s.handle = true ∧ s.owner.user = true then some (enqueue s true) else none
  | .submitc k =>
    if s.handle = true ∧ k < s.nw ∧ (s.w k).pc.isRunning = true then some (enqueue s false) else none
  | .submitf =>
    if s.handle = true then some (enqueue s false) else none
  | .put =>
    if s.handle = true ∧ s.owner.user = true then
      let s := { s with handle := false, shut := true }
      if s.started = 0 then some { s with evOwed := true }
      else some { s with w := fun j => if j ∈ s.idle then { s.w j with kickOwed := true } else s.w j }
    else none
  | .wStart k =>
    if k < s.nw ∧ (s.w k).pc = .starting then
      some (setW s k (fun w => { w with kickReg := true, starts := w.starts + 1, pc := .selfkick }))
    else none
  | .wSelfKick k =>
    if k < s.nw ∧ (s.w k).pc = .selfkick then
      some (setW s k (fun w => { w with kickOwed := true, pc := .parked }))
    else none
  | .wKick k =>
    if k < s.nw ∧ (s.w k).pc = .parked ∧ (s.w k).kickOwed = true ∧ (s.w k).kickReg = true then
      some (setW s k (fun w => { w with kickOwed := false, pc := .gotPre }))
    else none
  | .wEnter k =>
    if k < s.nw ∧ (s.w k).pc = .gotPre then
      if k ∈ s.idle ∧ (s.w k).timerReg = false then some { s with fatal := true } else
      some (loopTail (enterPrep s k) k)
    else none
  | .wAfter k =>
    if k < s.nw then
      match (s.w k).pc with
      | .running i => some (loopTail (afterPrep s k i) k)
      | _ => none
    else none
  | .wTimeout k =>
    if k < s.nw ∧ (s.w k).pc = .parked ∧ (s.w k).timerReg = true then
      some (setW s k (fun w => { w with timerReg := false, pc := .toPre }))
    else none
  | .wTimeoutRun k =>
    if k < s.nw ∧ (s.w k).pc = .toPre then
      if (s.w k).kicked = true then
        if (s.w k).timerReg = true then some { s with fatal := true } else
        some (setW s k (fun w => { w with timerReg := true, pc := .parked }))
      else
        some (die { s with idle := s.idle.filter (· ≠ k) } k)
    else none
  | .wExit k =>
    if k < s.nw ∧ (s.w k).pc = .dying then
      some (setW s k (fun w => { w with deadOwed := true, pc := .exited }))
    else none
  | .oEv =>
    if s.owner = .idle ∧ s.evOwed = true ∧ s.freed = false then some { s with evOwed := false, owner := .evPre } else none
  | .oSteal =>
    if s.owner = .evPre then some { s with owner := .compl s.done, done := [] } else none
  | .oComplete =>
    match s.owner with
    | .compl (i :: b) =>
      some (setI { s with owner := .compl b } i (fun it => { it with phase := .completed, complRuns := it.complRuns + 1 }))
    | _ => none
  | .oFinish =>
    if s.owner = .compl [] then
      if s.shut = true ∧ s.started = 0 ∧ s.done = [] ∧ s.queue = [] then
        some { s with freed := true, evOwed := false, tnOwed := false, owner := .idle }
      else some { s with owner := .idle }
    else none
  | .oTn =>
    if s.owner = .idle ∧ s.tnOwed = true ∧ s.freed = false then some { s with tnOwed := false, owner := .tnPre } else none
  | .oTnRun =>
    if s.owner = .tnPre then
      let s := { s with owner := .idle }
      if s.idle = [] ∧ s.started < s.max then some (startThread s) else some s
    else none
  | .oJoin k =>
    if s.owner = .idle ∧ k < s.nw ∧ (s.w k).pc = .exited ∧ (s.w k).deadOwed = true then
      some (setW s k (fun w => { w with deadOwed := false, deadReg := false, pc := .joined }))
    else none

/-- the LTS of the pinned code BEFORE the D10 repair: `iv_work_event` frees a shutting-down pool without looking at
`work_items`.  Only used to keep the witness of the defect checkable (Props/C13.lean); no theorem is about it. -/
def stepD10 (s : St) : Act → Option St
  | .oFinish =>
    if s.owner = .compl [] then
      if s.shut = true ∧ s.started = 0 ∧ s.done = [] then
        some { s with freed := true, evOwed := false, tnOwed := false, owner := .idle }
      else some { s with owner := .idle }
    else none
  | a => step s a

/-- the actions of the user program (and of the clock): everything else is internal to the library -/
def Act.external : Act → Bool
  | .submit | .submitc _ | .submitf | .put | .wTimeout _ => true
  | _ => false

/-! ## NULL pool: `iv_work_submit_local` / `iv_work_handle_local` (one thread, no lock) -/

structure LSt where
  pending : List Nat := []     -- tinfo->work_items
  taskReg : Bool := false      -- tinfo->task registered
  batch   : List Nat := []     -- the stolen list inside iv_work_handle_local
  inWork  : Bool := false      -- between work->work and work->completion of the batch head
  n       : Nat := 0           -- items ever submitted (numbered in submission order)
  finished : List Nat := []    -- ghost: items whose completion has run, in order
  log     : List (Nat × Bool) := []   -- ghost: (i, false) = work->work of i called, (i, true) = work->completion of i called
  fatal   : Bool := false      -- iv_task_register of a registered task

inductive LAct where
  | submit      -- iv_work_submit_local (from user code of this thread, also from inside work/completion)
  | task        -- the loop runs the task: iv_work_handle_local steals the list
  | work        -- calls work->work of the batch head
  | complete    -- calls work->completion of the batch head (already unlinked)
deriving DecidableEq, Repr

def lstep (s : LSt) : LAct → Option LSt
  | .submit =>
    let s1 := if s.pending = [] then (if s.taskReg then { s with fatal := true } else { s with taskReg := true }) else s
    some { s1 with pending := s.pending ++ [s.n], n := s.n + 1 }
  | .task =>
    if s.taskReg = true ∧ s.batch = [] then some { s with taskReg := false, batch := s.pending, pending := [] } else none
  | .work =>
    match s.batch with
    | i :: _ => if s.inWork = false then some { s with inWork := true, log := s.log ++ [(i, false)] } else none
    | [] => none
  | .complete =>
    match s.batch with
    | i :: b => if s.inWork = true then
        some { s with inWork := false, batch := b, finished := s.finished ++ [i], log := s.log ++ [(i, true)] } else none
    | [] => none

/-! ## iv_thread: one created thread and its creator (`iv_thread_posix.c`)

The record `struct iv_thread` is shared by the thread and its creator.  `iv_thread_lock` serialises the thread's exit
(`iv_thread_destructor`: test `orphaned`, set `exited`, post `dead`) against the creator tearing its loop down while
the thread has not been joined (`iv_thread_tls_deinit_thread`: detach, unlink, unregister `dead`, free the record if
`exited`, else set `orphaned`); each is one action here because each runs entirely under that lock.  Whoever comes
second frees the record.

History: before the repair (harness/iv_thread_creator_deinit.patch) `iv_thread_tls_deinit_thread` only detached the
thread; `dead` stayed registered in the creator's iv_state, which `__iv_deinit` then freed, and the destructor posted
into it (heap-use-after-free, and the record leaked).  The faulting schedule, for every exit mode:
run, creatorDeinit, [deinit], leave, destruct.  Scenario: corpus/C13/creator-deinit-live-thread.scn. -/

/-- how the thread function ends -/
inductive ExitMode where
  | ret | pexit | retNoDeinit | pexitNoDeinit | noInit
deriving DecidableEq, Repr

inductive TPc where
  | created       -- iv_thread_create returned in the creator; the thread has not run yet
  | body          -- inside start_routine, iv state initialised (iv_init called)
  | bodyNoState   -- inside start_routine, no iv state (never initialised, or already deinitialised)
  | exiting       -- start_routine returned / pthread_exit called: TLS destructors run
  | exited        -- destructors done, thread terminated
  | joined        -- the creator's iv_thread_died joined it and freed the record
deriving DecidableEq, Repr

structure TSt where
  mode     : ExitMode
  pc       : TPc  := .created
  deadReg  : Bool := true      -- `dead` registered in the creator (a loop object of the creator)
  deadOwed : Bool := false
  ivState  : Bool := false     -- the thread has an iv_state
  deinits  : Nat := 0          -- ghost: __iv_deinit calls in the thread
  posts    : Nat := 0          -- ghost: iv_event_post(&thr->dead) calls
  creatorGone : Bool := false  -- the creator has deinitialised its loop (its iv_state is freed)
  orphaned : Bool := false     -- thr->orphaned
  exited   : Bool := false     -- thr->exited
  frees    : Nat := 0          -- ghost: free(thr) calls
  fault    : Bool := false     -- a freed iv_state or a freed record was used

inductive TAct where
  | run        -- the thread starts: iv_thread_handler sets the TLS key, calls start_routine (which calls iv_init unless noInit)
  | deinit     -- the body calls iv_deinit (modes ret, pexit)
  | leave      -- the body returns or calls pthread_exit
  | destruct   -- TLS destructors: iv_state_destructor (if a state is left), then iv_thread_destructor (under iv_thread_lock)
  | died       -- creator's loop: iv_thread_died: pthread_join, unlink, unregister `dead`, free the record
  | creatorDeinit  -- creator: iv_deinit (after iv_quit, or without ever running iv_main), or its loop-state destructor at
                   -- thread exit: iv_thread_tls_deinit_thread (under iv_thread_lock), then the iv_state is freed
deriving DecidableEq, Repr

def ExitMode.deinits : ExitMode → Bool
  | .ret | .pexit => true
  | _ => false

def tstep (s : TSt) : TAct → Option TSt
  | .run =>
    if s.pc = .created then
      some (if s.mode = .noInit then { s with pc := .bodyNoState } else { s with pc := .body, ivState := true })
    else none
  | .deinit =>
    if s.pc = .body ∧ s.mode.deinits = true then some { s with pc := .bodyNoState, ivState := false, deinits := s.deinits + 1 } else none
  | .leave =>
    if (s.pc = .body ∧ s.mode.deinits = false) ∨ s.pc = .bodyNoState then some { s with pc := .exiting } else none
  | .destruct =>
    if s.pc = .exiting then
      let s := { s with pc := .exited, ivState := false, deinits := if s.ivState then s.deinits + 1 else s.deinits,
                        fault := s.fault || decide (s.frees ≠ 0) }      -- reads thr->orphaned
      if s.orphaned then
        some { s with frees := s.frees + 1 }
      else
        -- iv_event_post(&thr->dead) locks thr->dead.owner->event_list_mutex: a use of the creator's iv_state
        some { s with exited := true, deadOwed := true, posts := s.posts + 1, fault := s.fault || s.creatorGone }
    else none
  | .died =>
    if s.pc = .exited ∧ s.deadOwed = true ∧ s.creatorGone = false then
      some { s with pc := .joined, deadOwed := false, deadReg := false, frees := s.frees + 1,
                    fault := s.fault || decide (s.frees ≠ 0) }
    else none
  | .creatorDeinit =>
    if s.creatorGone = false then
      if s.deadReg then        -- the record is still on the creator's child_threads list
        let s := { s with creatorGone := true, deadReg := false, deadOwed := false, fault := s.fault || decide (s.frees ≠ 0) }
        if s.exited then some { s with frees := s.frees + 1 } else some { s with orphaned := true }
      else some { s with creatorGone := true }
    else none

end Ivy.Work
