import Ivy.L1.Exec
import Ivy.Mon.C01
import Ivy.Mon.C02
import Ivy.Mon.C03
import Ivy.Mon.C04
import Ivy.Mon.C06
import Ivy.Mon.C07
import Ivy.Mon.C08
import Ivy.L1.ProgressSpec
import Ivy.Drv.Util
import Ivy.Mon.TmoContract
/-! T-replay driver for the loop: reads the log of /verif/harness/loop_h.c, feeds the environment
records to the L1 machine and compares the library records with the machine's outputs. -/
namespace Ivy.Drv.Loop
open Ivy.L1
open Ivy.Heap (TS)

structure S where
  m : Option St := none
  expected : List Out := []      -- outputs the model has produced and the log has not shown yet
  pendingApi : Option (List String) := none
  line : Nat := 0
  agree : Nat := 0
  diverged : Nat := 0
  cov : List (String × Nat) := []
  stop : Bool := false
  evs : Array Ev := #[]          -- the implementation's records of the current execution, for the monitors
  monBad : List (String × String) := []   -- monitor rejections of earlier executions in the same log (before a `cycle`)
  evPending : Option (List String) := none
  evStop : Bool := false

def bump (c : List (String × Nat)) (k : String) : List (String × Nat) :=
  match c.find? (·.1 == k) with
  | some _ => c.map fun (a, n) => if a == k then (a, n + 1) else (a, n)
  | none => c ++ [(k, 1)]

def objNum (s : String) : Option Nat := (s.drop 1).toString.toNat?

def nameOfFd (f : FdId) : String :=
  match fdRaw? f with
  | some r => s!"r{r}"
  | none => s!"f{f}"

def fdOfName (s : String) : Option FdId :=
  if s.startsWith "f" then objNum s
  else if s.startsWith "r" then (objNum s).map rawFd
  else none

def blockName : Block → String
  | .mainTop _ => "mainTop" | .collect => "collect" | .popTimer => "popTimer" | .startTasks => "startTasks"
  | .popTask => "popTask" | .runEvents => "runEvents" | .popEvent => "popEvent" | .resume => "resume"
  | .exitCheck => "exitCheck" | .prepWait => "prepWait" | .flush _ _ => "flush" | .wait _ _ => "wait"
  | .dispatchNext => "dispatchNext" | .fdStage => "fdStage"

/-- run internal steps until the machine needs an input (bounded, as a runaway guard) -/
def settle (m : St) (outs : List Out) (cov : List (String × Nat)) (fuel : Nat) : St × List Out × List (String × Nat) :=
  match fuel with
  | 0 => (m, outs, cov)
  | fuel + 1 =>
    match m.pc with
    | .run b =>
      let (m', o) := internal m b
      settle m' (outs ++ o) (bump cov (blockName b)) fuel
    | _ => (m, outs, cov)

def fmtBandsEpoll (b : Bands) : String := (if b.i then "i" else "") ++ (if b.o then "o" else "")
def fmtBandsPoll (b : Bands) : String :=
  (if b.i then "i" else "") ++ (if b.o then "o" else "") ++ (if b.i || b.o || b.e then "h" else "")

def fmtOut (m : St) : Out → String
  | .cb (.timer t) => s!"CB t{t}"
  | .cb (.task k) => s!"CB k{k}"
  | .cb (.fd f b) => s!"CB {nameOfFd f} " ++ (match b with | 0 => "err" | 1 => "in" | _ => "out")
  | .cb (.event e) => s!"CB e{e}"
  | .cb (.raw r) => s!"CB r{r}"
  | .ret v => s!"RET {v}"
  | .wait prim to interest ktimer kick =>
    let tos := match to with | .inf => "inf" | .ns v => s!"{v}ns" | .ms v => s!"{v}ms"
    let isEpoll := prim.startsWith "epoll"
    let ints := ",".intercalate (interest.map fun (f, b) => nameOfFd f ++ ":" ++ (if isEpoll then fmtBandsEpoll b else fmtBandsPoll b))
    let kt := match ktimer with
      | none => "none"
      | some none => "off"
      | some (some v) => toString (TS.toNs v)
    let kk := match kick with | none => "none" | some true => "armed" | some false => "idle"
    let _ := m
    s!"WAIT prim={prim} to={tos} int={ints} ktimer={kt} kick={kk}"
  | .mainRet => "MAINRET"
  | .fatal _ => "FATAL"
  | .fault msg => s!"FAULT {msg}"

def parseBool (s : String) : Bool := s == "1"

def parseApi (ws : List String) (okFlag : Bool) : Option Api :=
  match ws with
  | ["fdRegister", f, a, b, c] => (objNum f).map fun f => Api.fdRegister f (parseBool a) (parseBool b) (parseBool c)
  | ["fdRegisterTry", f, a, b, c] => (objNum f).map fun f => Api.fdRegisterTry f (parseBool a) (parseBool b) (parseBool c) okFlag
  | ["fdUnregister", f] => (objNum f).map Api.fdUnregister
  | ["fdSetIn", f, v] => (objNum f).map fun f => Api.fdSetIn f (parseBool v)
  | ["fdSetOut", f, v] => (objNum f).map fun f => Api.fdSetOut f (parseBool v)
  | ["fdSetErr", f, v] => (objNum f).map fun f => Api.fdSetErr f (parseBool v)
  | ["timerRegister", t, sec, nsec] =>
    match objNum t, sec.toInt?, nsec.toInt? with
    | some t, some sec, some nsec => some (Api.timerRegister t ⟨sec, nsec⟩)
    | _, _, _ => none
  | ["timerUnregister", t] => (objNum t).map Api.timerUnregister
  | ["taskRegister", k] => (objNum k).map Api.taskRegister
  | ["taskUnregister", k] => (objNum k).map Api.taskUnregister
  | ["evRegister", e] => (objNum e).map fun e => Api.evRegister e okFlag
  | ["evUnregister", e] => (objNum e).map Api.evUnregister
  | ["evPost", e] => (objNum e).map Api.evPost
  | ["rawRegister", r] => (objNum r).map fun r => Api.rawRegister r okFlag
  | ["rawUnregister", r] => (objNum r).map Api.rawUnregister
  | ["quit"] => some Api.quit
  | ["invalidateNow"] => some Api.invalidateNow
  | ["validateNow"] => some Api.validateNow
  | ["main"] => some Api.main
  | _ => none

def deferred (name : String) : Bool :=
  ["fdRegister", "fdRegisterTry", "fdUnregister", "fdSetIn", "fdSetOut", "fdSetErr", "timerRegister", "timerUnregister",
   "taskRegister", "taskUnregister", "evRegister", "evUnregister", "rawRegister"].contains name

def parseKEv (s : String) : KEv :=
  { kin := s.contains 'i', kout := s.contains 'o', kerr := s.contains 'e', khup := s.contains 'h' }

def parseWItem (s : String) : Option WItem :=
  if s == "KICK" then some .kick
  else if s == "KTIMER" then some .ktimer
  else
    match s.splitOn ":" with
    | [nm, ev] => (fdOfName nm).map fun f => WItem.fd f (parseKEv ev)
    | _ => none

def kindOf (s : String) : Option (Nat × Nat) :=
  let k := if s.startsWith "f" then some 0 else if s.startsWith "t" then some 1 else if s.startsWith "k" then some 2
           else if s.startsWith "e" then some 3 else if s.startsWith "r" then some 4 else none
  match k, objNum s with
  | some k, some n => some (k, n)
  | _, _ => none

def diverge (s : S) (msg : String) : S × List String :=
  ({ s with diverged := s.diverged + 1, stop := true }, [s!"DIVERGE line {s.line}: {msg}"])

/-- feed an input to the machine, then settle -/
def feed (s : S) (m : St) (i : Input) (what : String) : S × List String :=
  let envMsg := if envOk m i then [] else [s!"ENVBAD line {s.line}: input '{what}' is outside the assumed environment contract (envOk)"]
  let (s', o) := feedCore s m i what
  (s', envMsg ++ o)
where feedCore (s : S) (m : St) (i : Input) (what : String) : S × List String :=
  match input m i with
  | none => diverge s s!"the model does not accept input '{what}' in its current state (pc={repr m.pc})"
  | some (m', outs) =>
    let (m'', outs', cov) := settle m' outs s.cov 10000
    ({ s with m := some m'', expected := s.expected ++ outs', cov := cov }, [])

/-- a library record appeared in the log: it must be the next predicted output -/
def expect (s : S) (m : St) (rec : String) : S × List String :=
  match s.expected with
  | [] => diverge s s!"implementation did '{rec}' but the model predicts no output here (pc={repr m.pc})"
  | o :: rest =>
    let p := fmtOut m o
    if p == rec then ({ s with expected := rest, agree := s.agree + 1 }, [])
    else diverge s s!"implementation did '{rec}' but the model predicts '{p}'"

def stripGt (ws : List String) : String :=
  " ".intercalate (ws.filter fun w => !(w.startsWith "gt="))

def initFromCfg (rest : List String) : Option St :=
  let get (k : String) : String := (rest.find? (·.startsWith (k ++ "="))).map (fun w => (w.drop (k.length + 1)).toString) |>.getD ""
  let meth := match get "method" with
    | "epoll-timerfd" => some Method.epollTimerfd | "epoll" => some Method.epoll
    | "ppoll" => some Method.ppoll | "poll" => some Method.poll | _ => none
  meth.map fun meth => St.init meth 1024 (get "timerfd" == "1") true

def step (s : S) (ws : List String) : S × List String :=
  let s := { s with line := s.line + 1 }
  if s.stop then (s, []) else
  match s.m, ws with
  | none, "CFG" :: rest =>
    match initFromCfg rest with
    | some m => ({ s with m := some m }, [])
    | none => diverge s "unknown poll method"
  | none, _ => diverge s "log does not start with CFG"
  | some m, "API" :: name :: args =>
    if deferred name then ({ s with pendingApi := some (name :: args) }, [])
    else
      match parseApi (name :: args) true with
      | some a => feed s m (.api a) (" ".intercalate ws)
      | none => diverge s s!"unparsable API record {ws}"
  | some m, ["RET", v] =>
    match s.pendingApi with
    | some aw =>
      match parseApi aw (v == "0") with
      | some a =>
        let (s', o) := feed { s with pendingApi := none } m (.api a) (" ".intercalate aw)
        if s'.stop then (s', o) else
        match s'.m with
        | some m' => expect s' m' s!"RET {v}"
        | none => (s', o)
      | none => diverge s s!"unparsable API record {aw}"
    | none => (s, [])       -- RET of validateNow
  | some m, "FATAL" :: _ =>
    match s.pendingApi with
    | some aw =>
      match parseApi aw true with
      | some a =>
        let (s', o) := feed { s with pendingApi := none } m (.api a) (" ".intercalate aw)
        if s'.stop then (s', o) else
        match s'.m with
        | some m' => let (s'', o') := expect s' m' "FATAL"; ({ s'' with stop := true }, o')
        | none => (s', o)
      | none => diverge s s!"unparsable API record {aw}"
    | none => let (s', o) := expect s m "FATAL"; ({ s' with stop := true }, o)
  | some m, "CB" :: nm :: rest =>
    let rec_ := match rest with
      | [b] => if b.startsWith "reg=" then s!"CB {nm}" else s!"CB {nm} {b}"
      | _ => s!"CB {nm}"
    expect s m rec_
  | some m, ["END"] => feed s m .handlerEnd "END"
  | some m, ["TIME", v] =>
    match v.toInt? with
    | some ns => feed s m (.time ⟨ns / 1000000000, ns % 1000000000⟩) "TIME"
    | none => diverge s "bad TIME"
  | some m, "WAIT" :: rest => expect s m (stripGt ("WAIT" :: rest))
  | some m, ["WRET", "EINTR"] => feed s m (.wret .eintr) "WRET EINTR"
  | some m, ["WRET", "ENOSYS"] => feed s m (.wret .enosys) "WRET ENOSYS"
  | some m, ["WRET", ev] =>
    let body := (ev.drop 3).toString
    let items := if body == "" then [] else body.splitOn ","
    if items.contains "STALE" then diverge s "kernel reported a pointer to an unregistered descriptor (stale epoll registration)" else
    match items.mapM parseWItem with
    | some l => feed s m (.wret (.events l)) (" ".intercalate ws)
    | none => diverge s s!"unparsable WRET {ev}"
  | some m, ["RAWREAD", _, r] => feed s m (.rawRead (r == "ok")) "RAWREAD"
  | some m, ["XPOST", e] =>
    match objNum e with
    | some e => feed s m (.xpost e) "XPOST"
    | none => diverge s "bad XPOST"
  | some m, ["FREE", o] =>
    match kindOf o with
    | some (k, n) => feed s m (.free k n) "FREE"
    | none => diverge s "bad FREE"
  | some m, ["INIT", o] =>
    match kindOf o with
    | some (k, n) => feed s m (.init k n) "INIT"
    | none => diverge s "bad INIT"
  | some m, ["MAINRET"] => expect s m "MAINRET"
  | some _, "CLK" :: _ => (s, [])
  | some _, "GT" :: _ => (s, [])
  | some _, "FDFLAGS" :: _ => (s, [])
  | some _, "LEDGER" :: _ => (s, [])
  | some _, "LEDGER-LIVE" :: _ => (s, [])
  | some _, "CYCLE-SKIPPED" :: _ => (s, [])
  | some m, "CFG" :: _ =>
    -- the loop was torn down and re-initialised (`cycle`): a fresh machine; only legal outside iv_main with nothing pending
    if !s.expected.isEmpty then diverge s "loop re-initialised while the model still predicts output"
    else
      -- latched process-wide flags survive re-initialisation
      match initFromCfg (ws.drop 1) with
      | some m' => ({ s with m := some { m' with useRaw := m.useRaw, pwait2 := m.pwait2 } }, [])
      | none => diverge s "unknown poll method"
  | some _, "RAWPOST" :: _ => (s, [])
  -- records of the harness about itself / for the implementation-side oracles only (not library behaviour)
  | some _, "PROBE-EINTR" :: _ => (s, [])
  | some _, "EARLY" :: _ => (s, [])
  | some _, "TRY-FAILED-ON-OPEN-FD" :: _ => (s, [])
  | some m, [e] =>
    if e == "BLOCKED" || e == "WAITLIMIT" || e == "CBLIMIT" || e == "EOF" then
      if !s.expected.isEmpty then
        diverge s s!"run ended ({e}) but the model still predicts '{fmtOut m (s.expected.headD .mainRet)}'"
      else
        match e, m.pc with
        | "BLOCKED", .waiting _ _ => ({ s with stop := true }, [])
        | "BLOCKED", _ => diverge s "implementation blocked in the kernel but the model is not in a wait"
        | _, _ => ({ s with stop := true }, [])
    else diverge s s!"unknown record {e}"
  | some _, _ => diverge s s!"unknown record {ws}"

/-! ### the implementation's own records as `Ev`s (independent of the model's predictions) -/

def parseInterest (s : String) : List (FdId × Bands) :=
  if s == "" then [] else
  (s.splitOn ",").filterMap fun it =>
    match it.splitOn ":" with
    | [nm, b] => (fdOfName nm).map fun f => (f, ({ i := b.contains 'i', o := b.contains 'o', e := false } : Bands))
    | _ => none

def parseWait (ws : List String) : Option Out :=
  let get (k : String) : String := (ws.find? (·.startsWith (k ++ "="))).map (fun w => (w.drop (k.length + 1)).toString) |>.getD ""
  let to := get "to"
  let tmo : Option Timeout :=
    if to == "inf" then some .inf
    else if to.endsWith "ns" then (to.dropEnd 2).toString.toInt?.map Timeout.ns
    else if to.endsWith "ms" then (to.dropEnd 2).toString.toInt?.map Timeout.ms
    else none
  let kt := get "ktimer"
  let ktv : Option (Option TS) :=
    if kt == "none" then none else if kt == "off" then some none
    else match kt.toInt? with
      | some ns => some (some ⟨ns / 1000000000, ns % 1000000000⟩)
      | none => none
  let kk := get "kick"
  let kkv : Option Bool := if kk == "armed" then some true else if kk == "idle" then some false else none
  tmo.map fun t => Out.wait (get "prim") t (parseInterest (get "int")) ktv kkv

def parseCb (nm : String) (rest : List String) : Option Cb :=
  match kindOf nm, rest with
  | some (0, f), [b] => some (.fd f (if b == "err" then 0 else if b == "in" then 1 else 2))
  | some (1, t), _ => some (.timer t)
  | some (2, k), _ => some (.task k)
  | some (3, e), _ => some (.event e)
  | some (4, r), [] => some (.raw r)
  | some (4, r), [b] => some (.fd (rawFd r) (if b == "err" then 0 else if b == "in" then 1 else 2))
  | _, _ => none

def parseGt (s : String) : List (FdId × KEv) :=
  if s == "" then [] else
  (s.splitOn ",").filterMap fun it =>
    match it.splitOn ":" with
    | [nm, b] => (fdOfName nm).map fun f => (f, parseKEv b)
    | _ => none

/-- translate one log line into monitor events -/
def toEvs (s : S) (ws : List String) : S × List Ev :=
  match ws with
  | "API" :: name :: args =>
    if deferred name then ({ s with evPending := some (name :: args) }, [])
    else match parseApi (name :: args) true with
      | some a => (s, [Ev.inp (.api a)])
      | none => (s, [])
  | ["RET", v] =>
    match s.evPending with
    | some aw =>
      let s := { s with evPending := none }
      match parseApi aw (v == "0"), v.toInt? with
      | some a, some v => (s, [Ev.inp (.api a), Ev.out (.ret v)])
      | _, _ => (s, [])
    | none => (s, [])
  | "FATAL" :: _ =>
    match s.evPending with
    | some aw =>
      match parseApi aw true with
      | some a => ({ s with evPending := none }, [Ev.inp (.api a), Ev.out (.fatal "")])
      | none => (s, [Ev.out (.fatal "")])
    | none => (s, [Ev.out (.fatal "")])
  | "CB" :: nm :: rest =>
    let rest := rest.filter (fun w => !(w.startsWith "reg="))
    match parseCb nm rest with
    | some c => (s, [Ev.out (.cb c)])
    | none => (s, [])
  | ["END"] => (s, [Ev.inp .handlerEnd])
  | ["TIME", v] => match v.toInt? with
    | some ns => (s, [Ev.inp (.time ⟨ns / 1000000000, ns % 1000000000⟩)])
    | none => (s, [])
  | "WAIT" :: rest => match parseWait rest with
    | some o => (s, [Ev.out o])
    | none => (s, [])
  | ["GT"] => (s, [Ev.gt []])
  | ["GT", g] => (s, [Ev.gt (parseGt g)])
  | ["WRET", "EINTR"] => (s, [Ev.inp (.wret .eintr)])
  | ["WRET", "ENOSYS"] => (s, [Ev.inp (.wret .enosys)])
  | ["WRET", ev] =>
    let body := (ev.drop 3).toString
    let items := if body == "" then [] else body.splitOn ","
    (s, [Ev.inp (.wret (.events (items.filterMap parseWItem)))])
  | ["RAWREAD", _, r] => (s, [Ev.inp (.rawRead (r == "ok"))])
  | ["XPOST", e] => match objNum e with
    | some e => (s, [Ev.inp (.xpost e)])
    | none => (s, [])
  | ["FREE", o] => match kindOf o with
    | some (k, n) => (s, [Ev.inp (.free k n)])
    | none => (s, [])
  | ["INIT", o] => match kindOf o with
    | some (k, n) => (s, [Ev.inp (.init k n)])
    | none => (s, [])
  | ["MAINRET"] => (s, [Ev.out .mainRet])
  | _ => (s, [])

/-- the verdicts of all monitors on one execution (from `iv_init` to `iv_deinit`) -/
def verdicts (evs : List Ev) : List (String × Option String) :=
  [("C01", Ivy.Mon.C01.verdict evs), ("C02", Ivy.Mon.C02.verdict evs), ("C03", Ivy.Mon.C03.verdict evs),
   ("C04", Ivy.Mon.C04.verdict evs), ("C06", Ivy.Mon.C06.verdict evs), ("C07", Ivy.Mon.C07.verdict evs),
   ("C07spin", Ivy.Mon.C07.spin4Verdict evs), ("C07tmo", Ivy.Mon.C07.tmoCapVerdict evs), ("C07idle", Ivy.L1.Progress.idleVerdict evs), ("C08", Ivy.Mon.C08.verdict evs),
   -- not a property monitor: the hypothesis of `Ivy.Props.C07tmo.tmo_cap_sound` evaluated on the log (the harness' kernel must keep it)
   ("ENVtmo", if Ivy.L1.ProofsC07tmo.tmoContract evs then none else some "the clock did not advance by the timeout of a wait that timed out (timeout contract of Ivy.Props.C07tmo)")]

def stepAll (s : S) (ws : List String) : S × List String :=
  -- `cycle` tore the loop down and initialised it again: the theorems (and so the monitors) are about ONE execution from the
  -- initial state, so the records so far are judged now and a new execution starts
  let s := match s.m, ws with
    | some _, "CFG" :: _ =>
      let bad := (verdicts s.evs.toList).filterMap fun (nm, v) => v.map fun e => (nm, e)
      { s with evs := #[], monBad := s.monBad ++ bad.filter fun (nm, _) => !(s.monBad.any (·.1 == nm)) }
    | _, _ => s
  let (s, evs) := toEvs s ws
  let s := { s with evs := evs.foldl Array.push s.evs }
  step s ws

def run : IO Unit := do
  let out ← IO.getStdout
  let s ← loopLines (← IO.getStdin) out ({} : S) stepAll
  for (nm, v) in verdicts s.evs.toList do
    -- an earlier execution of this log (before a `cycle`) may already have been rejected
    match (s.monBad.find? (·.1 == nm)).map (·.2) <|> v with
    | none => out.putStrLn s!"MON {nm} ok"
    | some e => out.putStrLn s!"MON {nm} VIOLATION {e}"
  out.putStrLn s!"SUMMARY lines {s.line} agree {s.agree} diverged {s.diverged}"
  for (k, n) in s.cov do
    out.putStrLn s!"COV {k} {n}"

end Ivy.Drv.Loop
