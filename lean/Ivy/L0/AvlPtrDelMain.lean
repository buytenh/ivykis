import Ivy.L0.AvlPtrDel
/-!
`iv_avl_tree_delete` refines `Avl.delete` (leaf case, left-victim case, right-victim case),
assembled from the pieces in `AvlPtrDel.lean` and the walk theorem.
-/
namespace Ivy.AvlPtr
open Ivy.Avl (Tree toList size)
open Ivy.Avl.Tree

/- The three cases keep the address list in the form `pre ++ (il ++ a :: ir) ++ post` in which
`own_find` delivers it (for a leaf `il = ir = []`), so that `delete_refines` applies them as
they stand. -/
theorem delete_leaf_case {m : Mem} {root par : Option Nat} {c : List Frame} {a : Nat}
    {pre post : List Nat} {k : Int} {hh : Nat} {T : Tree} {s : Bool} {fuel : Nat}
    (hc : OwnCtx m root none c (some a) par pre post)
    (hma : m a = some ⟨k, none, none, par, hh⟩)
    (nd : (pre ++ ([] ++ a :: []) ++ post).Nodup)
    (hup : up false c nil = some (T, s)) (hf : c.length ≤ fuel) :
    ∃ m' root', delete fuel ⟨m, root⟩ a = some ⟨m', root'⟩ ∧
      Own m' root' none T (pre ++ post) ∧
      (∀ j, j ∉ pre ++ ([] ++ a :: []) ++ post → m' j = m j) := by
  obtain ⟨ndc, _, dI⟩ := nodup_ctx.1 nd
  have ha_c : a ∉ pre ++ post := dI a (by simp)
  obtain ⟨m1, root1, e2, hc1, fr1⟩ := replaceReference_ctx hc
    (own_mk hma (own_nil.2 ⟨rfl, rfl⟩) (own_nil.2 ⟨rfl, rfl⟩)) ndc ha_c none
  obtain ⟨m', root', e3, ho', fr'⟩ :=
    walk_spec (t := nil) (ids := []) fuel hc1 ⟨rfl, rfl⟩ (by simpa using ndc) hup hf
  refine ⟨m', root', ?_, by simpa using ho', fun j hj => ?_⟩
  · simp [delete, hma, deleteLeaf, e2, fr1 a ha_c, e3]
  · have h1 := (not_mem_ctx.1 hj).1
    rw [fr' j (by simpa using h1), fr1 j h1]

theorem delete_left_case {m : Mem} {root par rp : Option Nat} {c cR : List Frame} {a j0 : Nat}
    {pre post il ir : List Nat} {k mk : Int} {hh vh : Nat} {l r vl T : Tree} {s : Bool}
    {fuel : Nat}
    (hc : OwnCtx m root none c (some a) par pre post)
    (hma : m a = some ⟨k, some j0, rp, par, hh⟩)
    (hl : Own m (some j0) (some a) l il) (hr : Own m rp (some a) r ir)
    (nd : (pre ++ (il ++ a :: ir) ++ post).Nodup)
    (hp : plug cR (node vl mk vh nil) = l) (hR : AllR cR)
    (hgt : Avl.height l > Avl.height r)
    (hup : up false (cR ++ .L mk hh r :: c) vl = some (T, s))
    (hf1 : size l ≤ fuel) (hf2 : cR.length + 1 + c.length ≤ fuel) :
    ∃ m' root' A B, delete fuel ⟨m, root⟩ a = some ⟨m', root'⟩ ∧
      pre ++ (il ++ a :: ir) ++ post = A ++ a :: B ∧
      Own m' root' none T (A ++ B) ∧
      (∀ j, j ∉ pre ++ (il ++ a :: ir) ++ post → m' j = m j) := by
  obtain ⟨v, vp, vlp, preR, vlids, ed, hcR, hmv, hvl, rfl⟩ :=
    victimR_spec (root := root) hl hp hR hf1
  obtain ⟨_, ndvl, dvl⟩ := nodup_ctx.1 (nodup_node.1 (nodup_ctx.1 nd).2.1).1
  obtain ⟨m2, mid, eS, hfa2, hcR2, hvl2, hc2, hmv2, hvp, frU⟩ := splice_frame hc
    (ownCtx_consL hma hr ownCtx_nil) hcR (own_mk hmv hvl (own_nil.2 ⟨rfl, rfl⟩))
    hvl (fun j hj => by simp [hj]) (fun h => dvl v h (by simp)) ndvl (by simpa using nd)
  obtain ⟨_, rp', _, _, _, e0, hma2, hr2, ⟨_, e2, _, rfl⟩, e1⟩ := hfa2
  cases e0
  cases e2.symm
  obtain rfl : ir = _ := by simpa using e1
  have eU : unlinkLeftMax fuel ⟨m, root⟩ j0 = some (⟨m2, root⟩, v) := by
    simpa [unlinkLeftMax, ed, hmv] using eS
  rw [← hmv2] at hmv
  have hL2 : Own m2 mid (some a) (plug cR vl) (preR ++ vlids ++ []) := own_plug hcR2 hvl2
  -- the address lists without the victim, and without the deleted node
  obtain ⟨nd2, hv2⟩ := nodup_remove (A := pre ++ (preR ++ vlids)) (a := v) (B := a :: ir ++ post)
    (by simpa using nd)
  have nd2 : (pre ++ ((preR ++ vlids ++ []) ++ a :: ir) ++ post).Nodup := by simpa using nd2
  have ndW : ((pre ++ preR) ++ vlids ++ ([] ++ (v :: ir ++ post))).Nodup := by
    simpa using (nodup_remove (A := pre ++ (preR ++ vlids ++ [v])) (a := a) (B := ir ++ post)
      (by simpa using nd)).1
  obtain ⟨ndH, ndir, _⟩ := nodup_node.1 (nodup_ctx.1 nd2).2.1
  obtain ⟨m6, root6, e6, hc6, hmv6, roots6, frL, frR, fr6⟩ :=
    replaceNode_spec (p := if vp = some a then some v else vp) hc2 hma2 hmv hL2 hr2 nd2
      (by simpa using hv2)
  obtain ⟨hcR6, hvl6⟩ := ctx_hole_retop (tp' := some v) hcR2 hvl2 ndH frL
    fun j n e hn => roots6 j n (Or.inl e) hn
  have hr6 : Own m6 rp' (some v) r ir :=
    own_retop hr2 ndir frR fun j n e hn => roots6 j n (Or.inr e) hn
  have hfull6 := ownCtx_append hcR6
    (ownCtx_consL (k := mk) hmv6 hr6 hc6)
  simp only [hvp] at e6
  obtain ⟨m', root', e7, ho', fr'⟩ :=
    walk_spec fuel hfull6 hvl6 ndW hup (by simp; omega)
  refine ⟨m', root', pre ++ preR ++ vlids ++ [v], ir ++ post, ?_, by simp, by simpa using ho',
    fun j hj => ?_⟩
  · have h1 := own_height (root := root) hl
    have h2 := own_height (root := root) hr
    simp only [delete, hma, deleteNonleaf_eq, h1, h2, Option.bind_eq_bind, Option.bind_some,
      hgt, if_true, eU, hmv]
    simp only [reduceCtorEq, false_and, if_false, Option.bind_some, hvp, e6, e7]
  · have hj' := hj
    simp only [List.mem_append, List.mem_cons, List.mem_nil_iff, not_or, or_false] at hj'
    rw [fr' j (by simp [hj']), fr6 j (by simp [hj']) hj'.1.2.1.2, frU j (by simpa using hj)]

theorem delete_right_case {m : Mem} {root par lp : Option Nat} {c cL : List Frame} {a j0 : Nat}
    {pre post il ir : List Nat} {k mk : Int} {hh vh : Nat} {l r vr T : Tree} {s : Bool}
    {fuel : Nat}
    (hc : OwnCtx m root none c (some a) par pre post)
    (hma : m a = some ⟨k, lp, some j0, par, hh⟩)
    (hl : Own m lp (some a) l il) (hr : Own m (some j0) (some a) r ir)
    (nd : (pre ++ (il ++ a :: ir) ++ post).Nodup)
    (hp : plug cL (node nil mk vh vr) = r) (hL : AllL cL)
    (hgt : ¬ Avl.height l > Avl.height r)
    (hup : up false (cL ++ .R mk hh l :: c) vr = some (T, s))
    (hf1 : size r ≤ fuel) (hf2 : cL.length + 1 + c.length ≤ fuel) :
    ∃ m' root' A B, delete fuel ⟨m, root⟩ a = some ⟨m', root'⟩ ∧
      pre ++ (il ++ a :: ir) ++ post = A ++ a :: B ∧
      Own m' root' none T (A ++ B) ∧
      (∀ j, j ∉ pre ++ (il ++ a :: ir) ++ post → m' j = m j) := by
  obtain ⟨v, vp, vrp, postL, vrids, ed, hcL, hmv, hvr, rfl⟩ :=
    victimL_spec (root := root) hr hp hL hf1
  obtain ⟨_, ndv, _⟩ := (nodup_ctx (pre := []) (ids := v :: vrids)).1
    (nodup_node.1 (nodup_ctx.1 nd).2.1).2.1
  obtain ⟨hv_vr, ndvr⟩ := List.nodup_cons.1 ndv
  obtain ⟨m2, mid, eS, hfa2, hcL2, hvr2, hc2, hmv2, hvp, frU⟩ := splice_frame hc
    (ownCtx_consR hma hl ownCtx_nil) hcL (own_mk hmv (own_nil.2 ⟨rfl, rfl⟩) hvr)
    hvr (fun j hj => by simp [hj]) hv_vr ndvr (by simpa using nd)
  obtain ⟨_, lp', _, _, _, e0, hma2, hl2, ⟨_, e2, rfl, _⟩, e1⟩ := hfa2
  cases e0
  cases e2.symm
  obtain rfl : il = _ := by simpa using e1
  have eU : unlinkRightMin fuel ⟨m, root⟩ j0 = some (⟨m2, root⟩, v) := by
    simpa [unlinkRightMin, ed, hmv] using eS
  rw [← hmv2] at hmv
  have hR2 : Own m2 mid (some a) (plug cL vr) ([] ++ vrids ++ postL) := own_plug hcL2 hvr2
  obtain ⟨nd2, hv2⟩ := nodup_remove (A := pre ++ (il ++ [a])) (a := v) (B := vrids ++ postL ++ post)
    (by simpa using nd)
  have nd2 : (pre ++ (il ++ a :: ([] ++ vrids ++ postL)) ++ post).Nodup := by simpa using nd2
  have ndW : (((pre ++ il ++ [v]) ++ []) ++ vrids ++ (postL ++ post)).Nodup := by
    simpa using (nodup_remove (A := pre ++ il) (a := a) (B := v :: vrids ++ postL ++ post)
      (by simpa using nd)).1
  obtain ⟨ndil, ndH, _⟩ := nodup_node.1 (nodup_ctx.1 nd2).2.1
  obtain ⟨m6, root6, e6, hc6, hmv6, roots6, frL, frR, fr6⟩ :=
    replaceNode_spec (p := if vp = some a then some v else vp) hc2 hma2 hmv hl2 hR2 nd2
      (by simpa using hv2)
  obtain ⟨hcL6, hvr6⟩ := ctx_hole_retop (tp' := some v) hcL2 hvr2 ndH frR
    fun j n e hn => roots6 j n (Or.inr e) hn
  have hl6 : Own m6 lp' (some v) l il :=
    own_retop hl2 ndil frL fun j n e hn => roots6 j n (Or.inl e) hn
  have hfull6 := ownCtx_append hcL6
    (ownCtx_consR (k := mk) hmv6 hl6 hc6)
  simp only [hvp] at e6
  obtain ⟨m', root', e7, ho', fr'⟩ :=
    walk_spec fuel hfull6 hvr6 ndW hup (by simp; omega)
  refine ⟨m', root', pre ++ il, v :: vrids ++ postL ++ post, ?_, by simp, by simpa using ho',
    fun j hj => ?_⟩
  · have h1 := own_height (root := root) hl
    have h2 := own_height (root := root) hr
    simp only [delete, hma, deleteNonleaf_eq, h1, h2, Option.bind_eq_bind, Option.bind_some,
      hgt, if_false, eU, hmv]
    simp only [reduceCtorEq, and_false, if_false, Option.bind_some, hvp, e6, e7]
  · have hj' := hj
    simp only [List.mem_append, List.mem_cons, not_or] at hj'
    rw [fr' j (by simp [hj']), fr6 j (by simp [hj']) hj'.1.2.2.2.1.1, frU j (by simpa using hj)]

end Ivy.AvlPtr
