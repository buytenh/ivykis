import Ivy.L0.AvlPtrWalk
/-!
The steps of `iv_avl_tree_delete_nonleaf` at pointer level, each on a represented heap: victim
search, victim splice (`replace_reference(victim, victim->left)` + parent fix-up), replacement
of the deleted node by the victim (child/parent pointers and stored height taken over, both
children re-parented).  `deleteNonleaf_eq` cuts the transcribed function into these steps;
`AvlPtrDelMain.lean` puts them together with the leaf unlink and the `rebalance_path` walk.
-/
namespace Ivy.AvlPtr
open Ivy.Avl (Tree toList size)
open Ivy.Avl.Tree

/-- victim search and unlink, left branch (`height(an->left) > height(an->right)`) -/
def unlinkLeftMax (fuel : Nat) (h : Heap) (start : Nat) : Option (Heap × Nat) := do
  let victim ← descendRight fuel h start
  let vl := (← h.mem victim).left
  let h ← replaceReference h victim vl
  let h ← setParentIf h vl (← h.mem victim).parent
  some (h, victim)

/-- victim search and unlink, right branch -/
def unlinkRightMin (fuel : Nat) (h : Heap) (start : Nat) : Option (Heap × Nat) := do
  let victim ← descendLeft fuel h start
  let vr := (← h.mem victim).right
  let h ← replaceReference h victim vr
  let h ← setParentIf h vr (← h.mem victim).parent
  some (h, victim)

/-- the tail of `iv_avl_tree_delete_nonleaf`: the victim takes the place of `an` -/
def replaceNode (h : Heap) (an victim : Nat) (p : Option Nat) : Option (Heap × Option Nat) := do
  let h ← replaceReference h an (some victim)
  let na ← h.mem an
  let nv ← h.mem victim
  let h := h.set victim { nv with left := na.left, right := na.right,
                                  parent := na.parent, height := na.height }
  let h ← setParentIf h na.left (some victim)
  let h ← setParentIf h na.right (some victim)
  some (h, p)

theorem deleteNonleaf_eq (fuel : Nat) (h : Heap) (an : Nat) :
    deleteNonleaf fuel h an = (do
      let n ← h.mem an
      let hl ← height h n.left
      let hr ← height h n.right
      let (h, victim) ←
        if hl > hr then (do unlinkLeftMax fuel h (← n.left))
        else (do unlinkRightMin fuel h (← n.right))
      let p := (← h.mem victim).parent
      let p := if p = some an then some victim else p
      replaceNode h an victim p) := by
  simp only [deleteNonleaf, unlinkLeftMax, unlinkRightMin, replaceNode, Option.bind_eq_bind,
    Option.bind_assoc, Option.bind_some]


theorem replaceNode_spec {m : Mem} {root par lp rp p : Option Nat} {c : List Frame} {a v : Nat}
    {pre post il ir : List Nat} {k : Int} {hh : Nat} {L R : Tree} {nv : Node}
    (hc : OwnCtx m root none c (some a) par pre post)
    (hma : m a = some ⟨k, lp, rp, par, hh⟩) (hmv : m v = some nv)
    (hl : Own m lp (some a) L il) (hr : Own m rp (some a) R ir)
    (nd : (pre ++ (il ++ a :: ir) ++ post).Nodup)
    (hv : v ∉ pre ++ (il ++ a :: ir) ++ post) :
    ∃ m' root', replaceNode ⟨m, root⟩ a v p = some (⟨m', root'⟩, p) ∧
      OwnCtx m' root' none c (some v) par pre post ∧
      m' v = some ⟨nv.key, lp, rp, par, hh⟩ ∧
      (∀ j n, (lp = some j ∨ rp = some j) → m j = some n →
        m' j = some { n with parent := some v }) ∧
      (∀ j ∈ il, lp ≠ some j → m' j = m j) ∧ (∀ j ∈ ir, rp ≠ some j → m' j = m j) ∧
      (∀ j, j ∉ pre ++ (il ++ a :: ir) ++ post → j ≠ v → m' j = m j) := by
  obtain ⟨ndc, ndI, dI⟩ := nodup_ctx.1 nd
  obtain ⟨_, _, _, _, dlr⟩ := nodup_node.1 ndI
  obtain ⟨hv_c, hv_I⟩ := not_mem_ctx.1 hv
  simp only [List.mem_append, List.mem_cons, not_or] at hv_I
  have ha_c : a ∉ pre ++ post := dI a (by simp)
  obtain ⟨m3, root3, e2, hc3, fr3⟩ := replaceReference_ctx hc (own_mk hma hl hr) ndc ha_c (some v)
  obtain ⟨m4, hm4⟩ : ∃ m4, m4 = upd m3 v ⟨nv.key, lp, rp, par, hh⟩ := ⟨_, rfl⟩
  have f4 : ∀ j, j ∉ pre ++ post → j ≠ v → m4 j = m j := fun j h1 h2 => by
    rw [hm4, upd_ne _ _ h2, fr3 j h1]
  have hl4 : Own m4 lp (some a) L il :=
    own_frame hl fun j hj => f4 j (dI j (by simp [hj])) (ne_of_mem_of_not_mem hj hv_I.1)
  have hr4 : Own m4 rp (some a) R ir :=
    own_frame hr fun j hj => f4 j (dI j (by simp [hj])) (ne_of_mem_of_not_mem hj hv_I.2.2)
  have e5 := setParentIf_own (root := root3) (par' := some v) hl4
  have hr5 : Own (reparent m4 lp (some v)) rp (some a) R ir :=
    own_frame hr4 fun j hj => reparent_other hl4 fun h => (dlr j h).1 hj
  have e6 := setParentIf_own (root := root3) (par' := some v) hr5
  refine ⟨reparent (reparent m4 lp (some v)) rp (some v), root3, ?_, ?_, ?_, ?_, ?_, ?_, ?_⟩
  · simp only [replaceNode, e2, Option.bind_eq_bind, Option.bind_some, fr3 a ha_c, hma,
      fr3 v hv_c, hmv, Heap.set]
    rw [← hm4, e5]
    simp only [Option.bind_some, e6]
  · refine ownCtx_frame hc3 fun j hj => ?_
    rw [reparent_other hr5 fun h => dI j (by simp [h]) hj,
      reparent_other hl4 fun h => dI j (by simp [h]) hj, hm4,
      upd_ne _ _ (ne_of_mem_of_not_mem hj hv_c)]
  · rw [reparent_other hr5 hv_I.2.2, reparent_other hl4 hv_I.1, hm4, upd_same]
  · rintro j n (rfl | rfl) hmj
    · have hj := own_root_mem hl
      rw [reparent_other hr5 (dlr j hj).1, reparent_root (by
        rw [f4 j (dI j (by simp [hj])) (ne_of_mem_of_not_mem hj hv_I.1)]; exact hmj)]
    · have hj := own_root_mem hr
      exact reparent_root (by
        rw [reparent_other hl4 fun h => (dlr j h).1 hj,
          f4 j (dI j (by simp [hj])) (ne_of_mem_of_not_mem hj hv_I.2.2)]; exact hmj)
  · intro j hj hne
    rw [reparent_other hr5 (dlr j hj).1, reparent_ne hne,
      f4 j (dI j (by simp [hj])) (ne_of_mem_of_not_mem hj hv_I.1)]
  · intro j hj hne
    rw [reparent_ne hne, reparent_other hl4 fun h => (dlr j h).1 hj,
      f4 j (dI j (by simp [hj])) (ne_of_mem_of_not_mem hj hv_I.2.2)]
  · intro j hj hjv
    obtain ⟨h1, h2⟩ := not_mem_ctx.1 hj
    simp only [List.mem_append, List.mem_cons, not_or] at h2
    rw [reparent_other hr5 h2.2.2, reparent_other hl4 h2.1, f4 j h1 hjv]

theorem victimR_spec {m : Mem} {root : Option Nat} {j0 a : Nat} {l vl : Tree} {il : List Nat}
    {cR : List Frame} {mk : Int} {vh : Nat} {fuel : Nat}
    (hl : Own m (some j0) (some a) l il) (hp : plug cR (node vl mk vh nil) = l) (hr : AllR cR)
    (hf : size l ≤ fuel) :
    ∃ v vp vlp preR vlids, descendRight fuel ⟨m, root⟩ j0 = some v ∧
      OwnCtx m (some j0) (some a) cR (some v) vp preR [] ∧
      m v = some ⟨mk, vlp, none, vp, vh⟩ ∧ Own m vlp (some v) vl vlids ∧
      il = preR ++ vlids ++ [v] := by
  subst hp
  obtain ⟨hole, vp, preR, postR, vids, hc, hv, rfl⟩ := own_unplug hl
  obtain ⟨v, vlp, rp0, vlids, ir0, rfl, hmv, hvl, hr0, rfl⟩ := hv
  obtain ⟨rfl, rfl⟩ := hr0
  have := allR_post hc hr
  subst this
  obtain ⟨v', init, e, ed⟩ := descendRight_spec (root := root) _ fuel hl hf
  have : v' = v := by
    have h1 : (preR ++ (vlids ++ [v]) ++ []).getLast? = some v := by simp
    rw [e] at h1
    simpa using h1
  subst this
  exact ⟨v', vp, vlp, preR, vlids, ed, hc, hmv, hvl, by simp⟩

theorem victimL_spec {m : Mem} {root : Option Nat} {j0 a : Nat} {r vr : Tree} {ir : List Nat}
    {cL : List Frame} {mk : Int} {vh : Nat} {fuel : Nat}
    (hr : Own m (some j0) (some a) r ir) (hp : plug cL (node nil mk vh vr) = r) (hl : AllL cL)
    (hf : size r ≤ fuel) :
    ∃ v vp vrp postL vrids, descendLeft fuel ⟨m, root⟩ j0 = some v ∧
      OwnCtx m (some j0) (some a) cL (some v) vp [] postL ∧
      m v = some ⟨mk, none, vrp, vp, vh⟩ ∧ Own m vrp (some v) vr vrids ∧
      ir = v :: vrids ++ postL := by
  subst hp
  obtain ⟨hole, vp, preL, postL, vids, hc, hv, rfl⟩ := own_unplug hr
  obtain ⟨v, lp0, vrp, il0, vrids, rfl, hmv, hl0, hvr, rfl⟩ := hv
  obtain ⟨rfl, rfl⟩ := hl0
  have := allL_pre hc hl
  subst this
  obtain ⟨v', rest, e, ed⟩ := descendLeft_spec (root := root) _ fuel hr hf
  have : v' = v := by
    simp only [List.nil_append, List.cons_append, List.cons.injEq] at e
    exact e.1.symm
  subst this
  exact ⟨v', vp, vrp, postL, vrids, ed, hc, hmv, hvr, by simp⟩


/-- `replace_reference(v, vc); if (vc != NULL) vc->parent = v->parent` for a node `v` in
the hole of a non-empty context `cA` (itself in the hole of `c`): the subtree at `vc`, part of
`v`'s own subtree, takes `v`'s place; `v`'s record is untouched. -/
theorem splice_ctx {m : Mem} {root top tp vp vc : Option Nat} {c cA : List Frame} {v : Nat}
    {pre post preA postA vids cids : List Nat} {tv tc : Tree}
    (hc : OwnCtx m root none c top tp pre post)
    (hcA : OwnCtx m top tp cA (some v) vp preA postA) (hne : cA ≠ [])
    (hv : Own m (some v) vp tv vids) (hvc : Own m vc (some v) tc cids)
    (hsub : ∀ j ∈ cids, j ∈ vids) (hvn : v ∉ cids) (ndc : cids.Nodup)
    (nd : (pre ++ (preA ++ vids ++ postA) ++ post).Nodup) :
    ∃ m2, (do let h ← replaceReference ⟨m, root⟩ v vc
              let h ← setParentIf h vc (← h.mem v).parent
              some (h, v)) = some (⟨m2, root⟩, v) ∧
      OwnCtx m2 top tp cA vc vp preA postA ∧ Own m2 vc vp tc cids ∧
      OwnCtx m2 root none c top tp pre post ∧ m2 v = m v ∧
      (∀ j, j ∉ preA ++ cids ++ postA → m2 j = m j) := by
  obtain ⟨_, ndM, dM⟩ := nodup_ctx.1 nd
  obtain ⟨ndA, _, dv⟩ := nodup_ctx.1 ndM
  have hvm := own_root_mem hv
  obtain ⟨_, _, _, _, _, _, _, _, _, hmv, _⟩ := own_some hv
  obtain ⟨ref, e1, href⟩ := findReference_ctx (ownCtx_append hcA hc) hv (by
    have h1 := dM v (mem_ctx.2 (.inr hvm))
    have h2 := dv v hvm
    simp only [List.mem_append, not_or] at h1 h2 ⊢
    exact ⟨⟨h1.1, h2.1⟩, h2.2, h1.2⟩)
  obtain ⟨m1, e2, hcA1, fr1⟩ := store_ctx_gen hcA hne ((isRef_append hne).1 href) ndA vc
  obtain ⟨g, rfl, hg⟩ := ownCtx_hp_mem hcA hne
  have f1 : ∀ j, j ≠ g → m1 j = m j := fun j hj => fr1 j fun e => hj (Option.some.inj e).symm
  have hgv : g ∉ vids := fun h => dv g h hg
  have hvg : v ≠ g := fun e => hgv (e ▸ hvm)
  have hvc1 : Own m1 vc (some v) tc cids :=
    own_frame hvc fun j hj => f1 j fun e => hgv (e ▸ hsub j hj)
  have e3 := setParentIf_own (root := root) (par' := some g) hvc1
  refine ⟨reparent m1 vc (some g), ?_,
    ownCtx_frame hcA1 fun j hj => reparent_other hvc1 fun h => dv j (hsub j h) hj,
    own_reparent hvc1 ndc, ownCtx_frame hc fun j hj => ?_, ?_, fun j hj => ?_⟩
  · simp only [replaceReference, e1, e2, Option.bind_eq_bind, Option.bind_some, f1 v hvg, hmv, e3]
  · rw [reparent_other hvc1 fun h => dM j (mem_ctx.2 (.inr (hsub j h))) hj,
      f1 j fun e => dM g (mem_ctx.2 (.inl hg)) (e ▸ hj)]
  · rw [reparent_other hvc1 hvn, f1 v hvg]
  · obtain ⟨h1, h2⟩ := not_mem_ctx.1 hj
    rw [reparent_other hvc1 h2, f1 j fun e => h1 (e ▸ hg)]

/-- the same seen from the deleted node `a`: the victim `v` sits in the hole of `cV` inside
the child of `a` selected by the frame `fa`.  When `cV` is empty `v` is that child itself and
the write goes into `a`'s record; otherwise `a` is untouched. -/
theorem splice_frame {m : Mem} {root par vp vc : Option Nat} {c cV : List Frame} {fa : Frame}
    {a j0 v : Nat} {pre post preF postF preV postV vids cids : List Nat} {tv tc : Tree}
    (hc : OwnCtx m root none c (some a) par pre post)
    (hfa : OwnCtx m (some a) par [fa] (some j0) (some a) preF postF)
    (hcV : OwnCtx m (some j0) (some a) cV (some v) vp preV postV)
    (hv : Own m (some v) vp tv vids) (hvc : Own m vc (some v) tc cids)
    (hsub : ∀ j ∈ cids, j ∈ vids) (hvn : v ∉ cids) (ndc : cids.Nodup)
    (nd : (pre ++ (preF ++ (preV ++ vids ++ postV) ++ postF) ++ post).Nodup) :
    ∃ m2 mid, (do let h ← replaceReference ⟨m, root⟩ v vc
                  let h ← setParentIf h vc (← h.mem v).parent
                  some (h, v)) = some (⟨m2, root⟩, v) ∧
      OwnCtx m2 (some a) par [fa] mid (some a) preF postF ∧
      OwnCtx m2 mid (some a) cV vc vp preV postV ∧ Own m2 vc vp tc cids ∧
      OwnCtx m2 root none c (some a) par pre post ∧ m2 v = m v ∧ (vp = some a ↔ cV = []) ∧
      (∀ j, j ∉ pre ++ (preF ++ (preV ++ vids ++ postV) ++ postF) ++ post → m2 j = m j) := by
  by_cases hV : cV = []
  · subst hV
    obtain ⟨e1, rfl, rfl, rfl⟩ := hcV
    cases e1
    obtain ⟨m2, e, hfa2, hvc2, hc2, hmv2, fr2⟩ :=
      splice_ctx hc hfa (by simp) hv hvc hsub hvn ndc (by simpa using nd)
    exact ⟨m2, vc, e, hfa2, ownCtx_nil, hvc2, hc2, hmv2, ⟨fun _ => rfl, fun _ => rfl⟩,
      fun j hj => fr2 j fun h => hj (mem_ctx.2 (.inr (by simpa using mem_ctx_mono hsub h)))⟩
  · obtain ⟨_, ndM, dM⟩ := nodup_ctx.1 nd
    obtain ⟨_, _, dV⟩ := nodup_ctx.1 ndM
    obtain ⟨m2, e, hcV2, hvc2, _, hmv2, fr2⟩ :=
      splice_ctx (ownCtx_append hfa hc) hcV hV hv hvc hsub hvn ndc (by simpa using nd)
    refine ⟨m2, some j0, e,
      ownCtx_frame hfa fun j hj => fr2 j fun h => dV j (mem_ctx_mono hsub h) hj, hcV2, hvc2,
      ownCtx_frame hc fun j hj => fr2 j fun h => dM j (mem_ctx.2 (.inr (mem_ctx_mono hsub h))) hj,
      hmv2, ⟨fun e => ?_, fun e => absurd e hV⟩,
      fun j hj => fr2 j fun h => hj (mem_ctx.2 (.inr (mem_ctx.2 (.inr (mem_ctx_mono hsub h)))))⟩
    obtain ⟨g, eg, hg⟩ := ownCtx_hp_mem hcV hV
    obtain ⟨_, ea, ha⟩ := ownCtx_hp_mem hfa (by simp)
    cases ea
    cases e ▸ eg
    exact absurd ha (dV a (mem_ctx.2 (.inl hg)))

end Ivy.AvlPtr
