import Ivy.L0.AvlPtrRepr
/-!
The four pointer-level rotations refine the functional ones:
a subtree represented at `*ref` is replaced by a representation of the rotated
subtree, with the same in-order address list, all parent pointers (including the
re-hung inner subtrees `c`, `e` and the new subtree root) correct, and no memory
outside the subtree's own nodes touched except the final store through `ref`.
-/
namespace Ivy.AvlPtr
open Ivy.Avl (Tree toList size)
open Ivy.Avl.Tree

/-!
Each rotation is proved in two steps.  First the code is run on the heap (`simp` with the
facts that the nodes written are distinct from each other and from the roots of the subtrees
whose heights are read), which gives the final records of the two or three nodes involved,
the new parent of each re-hung inner subtree, and that nothing else changed.  From these
pointwise facts the representation of the rotated tree is assembled with `own_frame` for the
untouched subtrees and `own_retop` for the re-hung ones.
-/

theorem rotateLeft_spec {m : Mem} {root gp : Option Nat} {ref : Ref} {b : Nat}
    {a c e : Tree} {kb kd : Int} {hb hd : Nat} {I : List Nat}
    (ho : Own m (some b) gp (node a kb hb (node c kd hd e)) I) (nd : I.Nodup)
    (hr : deref ⟨m, root⟩ ref = some (some b)) :
    ∃ d m2, rotateLeft ⟨m, root⟩ ref = store ⟨m2, root⟩ ref (some d) ∧
      (∀ n, n ∉ I → m2 n = m n) ∧
      Own m2 (some d) gp (Avl.mk (Avl.mk a kb c) kd e) I := by
  obtain ⟨ap, _, ia, _, hmb, hoa, ⟨d, cp, ep, ic, ie, rfl, hmd, hoc, hoe, rfl⟩, rfl⟩ :=
    own_some_node.1 ho
  obtain ⟨nda, ndr, hb_a, hb_r, dar⟩ := nodup_node.1 nd
  obtain ⟨ndc, nde, hd_c, hd_e, dce⟩ := nodup_node.1 ndr
  simp only [List.mem_append, List.mem_cons, not_or] at hb_r dar
  obtain ⟨hb_c, hbd, hb_e⟩ := hb_r
  obtain ⟨m2, e, hB, hD, hC, fr⟩ : ∃ m2, rotateLeft ⟨m, root⟩ ref = store ⟨m2, root⟩ ref (some d) ∧
      m2 b = some ⟨kb, ap, cp, some d, Avl.height (Avl.mk a kb c)⟩ ∧
      m2 d = some ⟨kd, some b, ep, gp, Avl.height (Avl.mk (Avl.mk a kb c) kd e)⟩ ∧
      (∀ j n, cp = some j → m j = some n → m2 j = some { n with parent := some b }) ∧
      ∀ n, n ≠ b → n ≠ d → cp ≠ some n → m2 n = m n := by
    simp only [heap_run, rotateLeft, hr, hmb, hmd, hbd, Ne.symm hbd, own_ne hoa hb_a,
      own_ne hoc hb_c, own_ne hoc hd_c, own_ne hoe hb_e, own_ne hoe hd_e, own_height hoa,
      own_height hoc, own_height hoe]
    refine ⟨_, rfl, by simp only [heap_run, hbd], by simp only [heap_run], ?_, ?_⟩
    · rintro j n rfl hj
      have h1 : j ≠ b := fun e => own_ne hoc hb_c (e ▸ rfl)
      have h2 : j ≠ d := fun e => own_ne hoc hd_c (e ▸ rfl)
      simp only [heap_run, h1, h2, reparent_same, hj]
    · intro n h1 h2 h3
      simp only [heap_run, h1, h2, reparent_ne h3]
  refine ⟨d, m2, e, fun n hn => ?_, d, some b, ep, ia ++ b :: ic, ie, rfl, hD,
    own_mk hB (own_frame hoa fun j hj => ?_) (own_retop hoc ndc (fun j hj => ?_) hC),
    own_frame hoe fun j hj => ?_, by simp⟩
  · simp only [List.mem_append, List.mem_cons, not_or] at hn
    exact fr n hn.2.1 hn.2.2.2.1 (own_ne hoc hn.2.2.1)
  · exact fr j (dar j hj).2 (dar j hj).1.2.1 (own_ne hoc (dar j hj).1.1)
  · exact fr j (ne_of_mem_of_not_mem hj hb_c) (ne_of_mem_of_not_mem hj hd_c)
  · exact fr j (ne_of_mem_of_not_mem hj hb_e) (ne_of_mem_of_not_mem hj hd_e)
      (own_ne hoc fun h => (dce j h).1 hj)

theorem rotateRight_spec {m : Mem} {root gp : Option Nat} {ref : Ref} {d : Nat}
    {a c e : Tree} {kb kd : Int} {hb hd : Nat} {I : List Nat}
    (ho : Own m (some d) gp (node (node a kb hb c) kd hd e) I) (nd : I.Nodup)
    (hr : deref ⟨m, root⟩ ref = some (some d)) :
    ∃ b m2, rotateRight ⟨m, root⟩ ref = store ⟨m2, root⟩ ref (some b) ∧
      (∀ n, n ∉ I → m2 n = m n) ∧
      Own m2 (some b) gp (Avl.mk a kb (Avl.mk c kd e)) I := by
  obtain ⟨_, ep, _, ie, hmd, ⟨b, ap, cp, ia, ic, rfl, hmb, hoa, hoc, rfl⟩, hoe, rfl⟩ :=
    own_some_node.1 ho
  obtain ⟨ndl, nde, hd_l, hd_e, dle⟩ := nodup_node.1 nd
  obtain ⟨nda, ndc, hb_a, hb_c, dac⟩ := nodup_node.1 ndl
  simp only [List.mem_append, List.mem_cons, not_or] at hd_l dle
  obtain ⟨hd_a, hdb, hd_c⟩ := hd_l
  have hb_e : b ∉ ie := (dle b (.inr (.inl rfl))).1
  obtain ⟨m2, e, hB, hD, hC, fr⟩ : ∃ m2, rotateRight ⟨m, root⟩ ref = store ⟨m2, root⟩ ref (some b) ∧
      m2 b = some ⟨kb, ap, some d, gp, Avl.height (Avl.mk a kb (Avl.mk c kd e))⟩ ∧
      m2 d = some ⟨kd, cp, ep, some b, Avl.height (Avl.mk c kd e)⟩ ∧
      (∀ j n, cp = some j → m j = some n → m2 j = some { n with parent := some d }) ∧
      ∀ n, n ≠ b → n ≠ d → cp ≠ some n → m2 n = m n := by
    simp only [heap_run, rotateRight, hr, hmb, hmd, hdb, Ne.symm hdb, own_ne hoa hb_a,
      own_ne hoa hd_a, own_ne hoc hb_c, own_ne hoc hd_c, own_ne hoe hd_e, own_height hoa,
      own_height hoc, own_height hoe]
    refine ⟨_, rfl, by simp only [heap_run], by simp only [heap_run, hdb], ?_, ?_⟩
    · rintro j n rfl hj
      have h1 : j ≠ b := fun e => own_ne hoc hb_c (e ▸ rfl)
      have h2 : j ≠ d := fun e => own_ne hoc hd_c (e ▸ rfl)
      simp only [heap_run, h1, h2, reparent_same, hj]
    · intro n h1 h2 h3
      simp only [heap_run, h1, h2, reparent_ne h3]
  refine ⟨b, m2, e, fun n hn => ?_, b, ap, some d, ia, ic ++ d :: ie, rfl, hB,
    own_frame hoa fun j hj => ?_,
    own_mk hD (own_retop hoc ndc (fun j hj => ?_) hC) (own_frame hoe fun j hj => ?_), by simp⟩
  · simp only [List.mem_append, List.mem_cons, not_or] at hn
    exact fr n hn.1.2.1 hn.2.1 (own_ne hoc hn.1.2.2)
  · exact fr j (dac j hj).2 (dle j (.inl hj)).2 (own_ne hoc (dac j hj).1)
  · exact fr j (ne_of_mem_of_not_mem hj hb_c) (ne_of_mem_of_not_mem hj hd_c)
  · exact fr j (ne_of_mem_of_not_mem hj hb_e) (ne_of_mem_of_not_mem hj hd_e)
      (own_ne hoc fun h => (dle j (.inr (.inr h))).1 hj)

/-- the part the two double rotations share (everything after the three nodes have been
read); `top` is the old subtree root, whose parent `d` takes over -/
def rotate3 (h : Heap) (ref : Ref) (b d f top : Nat) : Option Heap := do
  let c := (← h.mem d).left
  let h ← setRight h b c
  let h ← setParentIf h c (some b)
  let h ← recalcHeight h b
  let e := (← h.mem d).right
  let h ← setLeft h f e
  let h ← setParentIf h e (some f)
  let h ← recalcHeight h f
  let h ← setLeft h d (some b)
  let h ← setRight h d (some f)
  let h ← setParent h d (← h.mem top).parent
  let h ← setParent h b (some d)
  let h ← setParent h f (some d)
  let h ← recalcHeight h d
  store h ref (some d)

theorem rotate3_spec {m : Mem} {root gp ap cp ep gq xb xf pb pd pf : Option Nat} {ref : Ref}
    {b d f top : Nat} {a c e g : Tree} {kb kd kf : Int} {hb hd hf : Nat}
    {ia ic ie ig : List Nat}
    (hmb : m b = some ⟨kb, ap, xb, pb, hb⟩) (hmd : m d = some ⟨kd, cp, ep, pd, hd⟩)
    (hmf : m f = some ⟨kf, xf, gq, pf, hf⟩) (htop : b = top ∧ pb = gp ∨ f = top ∧ pf = gp)
    (hoa : Own m ap (some b) a ia) (hoc : Own m cp (some d) c ic)
    (hoe : Own m ep (some d) e ie) (hog : Own m gq (some f) g ig)
    (nd : ((ia ++ b :: (ic ++ d :: ie)) ++ f :: ig).Nodup) :
    ∃ m2, rotate3 ⟨m, root⟩ ref b d f top = store ⟨m2, root⟩ ref (some d) ∧
      (∀ n, n ∉ (ia ++ b :: (ic ++ d :: ie)) ++ f :: ig → m2 n = m n) ∧
      Own m2 (some d) gp (Avl.mk (Avl.mk a kb c) kd (Avl.mk e kf g))
        ((ia ++ b :: (ic ++ d :: ie)) ++ f :: ig) := by
  obtain ⟨ndl, ndg, hf_l, hf_g, dlg⟩ := nodup_node.1 nd
  obtain ⟨nda, ndr, hb_a, hb_r, dar⟩ := nodup_node.1 ndl
  obtain ⟨ndc, nde, hd_c, hd_e, dce⟩ := nodup_node.1 ndr
  simp only [List.mem_append, List.mem_cons, not_or] at hf_l dlg hb_r dar
  obtain ⟨hf_a, hfb, hf_c, hfd, hf_e⟩ := hf_l
  obtain ⟨hb_c, hbd, hb_e⟩ := hb_r
  have hb_g : b ∉ ig := (dlg b (.inr (.inl rfl))).1
  have hd_g : d ∉ ig := (dlg d (.inr (.inr (.inr (.inl rfl))))).1
  obtain ⟨m2, e, hB, hF, hD, hC, hE, fr⟩ :
      ∃ m2, rotate3 ⟨m, root⟩ ref b d f top = store ⟨m2, root⟩ ref (some d) ∧
      m2 b = some ⟨kb, ap, cp, some d, Avl.height (Avl.mk a kb c)⟩ ∧
      m2 f = some ⟨kf, ep, gq, some d, Avl.height (Avl.mk e kf g)⟩ ∧
      m2 d = some ⟨kd, some b, some f, gp,
        Avl.height (Avl.mk (Avl.mk a kb c) kd (Avl.mk e kf g))⟩ ∧
      (∀ j n, cp = some j → m j = some n → m2 j = some { n with parent := some b }) ∧
      (∀ j n, ep = some j → m j = some n → m2 j = some { n with parent := some f }) ∧
      ∀ n, n ≠ b → n ≠ d → n ≠ f → cp ≠ some n → ep ≠ some n → m2 n = m n := by
    rcases htop with ⟨rfl, rfl⟩ | ⟨rfl, rfl⟩ <;>
      simp only [heap_run, rotate3, hmb, hmd, hmf, hbd, Ne.symm hbd, hfb, Ne.symm hfb, hfd,
        Ne.symm hfd, own_ne hoa hb_a, own_ne hoc hb_c, own_ne hoc hd_c, own_ne hoc hf_c,
        own_ne hoe hb_e, own_ne hoe hd_e, own_ne hoe hf_e, own_ne hog hb_g, own_ne hog hf_g,
        own_height hoa, own_height hoc, own_height hoe, own_height hog]
    all_goals
      refine ⟨_, rfl, by simp only [heap_run, hbd, Ne.symm hfb], by simp [upd_ne, hfd], by simp only [heap_run], ?_, ?_, ?_⟩
      · rintro j n rfl hj
        have h1 : j ≠ b := fun e => own_ne hoc hb_c (e ▸ rfl)
        have h2 : j ≠ d := fun e => own_ne hoc hd_c (e ▸ rfl)
        have h3 : j ≠ f := fun e => own_ne hoc hf_c (e ▸ rfl)
        have h4 := own_ne hoe (dce j (own_root_mem hoc)).1
        simp only [heap_run, h1, h2, h3, reparent_ne h4, reparent_same, hj]
      · rintro j n rfl hj
        have h1 : j ≠ b := fun e => own_ne hoe hb_e (e ▸ rfl)
        have h2 : j ≠ d := fun e => own_ne hoe hd_e (e ▸ rfl)
        have h3 : j ≠ f := fun e => own_ne hoe hf_e (e ▸ rfl)
        have h4 := own_ne hoc fun h => (dce j h).1 (own_root_mem hoe)
        simp only [heap_run, h1, h2, h3, reparent_ne h4, reparent_same, hj]
      · intro n h1 h2 h3 h4 h5
        simp only [heap_run, h1, h2, h3, reparent_ne h4, reparent_ne h5]
  refine ⟨m2, e, fun n hn => ?_, d, some b, some f, ia ++ b :: ic, ie ++ f :: ig, rfl, hD,
    own_mk hB (own_frame hoa fun j hj => ?_) (own_retop hoc ndc (fun j hj hne => ?_) hC),
    own_mk hF (own_retop hoe nde (fun j hj hne => ?_) hE) (own_frame hog fun j hj => ?_), by simp⟩
  · simp only [List.mem_append, List.mem_cons, not_or] at hn
    exact fr n hn.1.2.1 hn.1.2.2.2.1 hn.2.1 (own_ne hoc hn.1.2.2.1) (own_ne hoe hn.1.2.2.2.2)
  · exact fr j (dar j hj).2 (dar j hj).1.2.1 (ne_of_mem_of_not_mem hj hf_a)
      (own_ne hoc (dar j hj).1.1) (own_ne hoe (dar j hj).1.2.2)
  · exact fr j (ne_of_mem_of_not_mem hj hb_c) (ne_of_mem_of_not_mem hj hd_c)
      (ne_of_mem_of_not_mem hj hf_c) hne (own_ne hoe (dce j hj).1)
  · exact fr j (ne_of_mem_of_not_mem hj hb_e) (ne_of_mem_of_not_mem hj hd_e)
      (ne_of_mem_of_not_mem hj hf_e) (own_ne hoc fun h => (dce j h).1 hj) hne
  · exact fr j (ne_of_mem_of_not_mem hj hb_g) (ne_of_mem_of_not_mem hj hd_g)
      (ne_of_mem_of_not_mem hj hf_g) (own_ne hoc fun h => (dlg j (.inr (.inr (.inl h)))).1 hj)
      (own_ne hoe fun h => (dlg j (.inr (.inr (.inr (.inr h))))).1 hj)

theorem rotateLeftRight_spec {m : Mem} {root gp : Option Nat} {ref : Ref} {f : Nat}
    {a c e g : Tree} {kb kd kf : Int} {hb hd hf : Nat} {I : List Nat}
    (ho : Own m (some f) gp (node (node a kb hb (node c kd hd e)) kf hf g) I) (nd : I.Nodup)
    (hr : deref ⟨m, root⟩ ref = some (some f)) :
    ∃ d m2, rotateLeftRight ⟨m, root⟩ ref = store ⟨m2, root⟩ ref (some d) ∧
      (∀ n, n ∉ I → m2 n = m n) ∧
      Own m2 (some d) gp (Avl.mk (Avl.mk a kb c) kd (Avl.mk e kf g)) I := by
  obtain ⟨_, gq, _, ig, hmf, ⟨b, ap, _, ia, _, rfl, hmb, hoa,
    ⟨d, cp, ep, ic, ie, rfl, hmd, hoc, hoe, rfl⟩, rfl⟩, hog, rfl⟩ := own_some_node.1 ho
  obtain ⟨m2, e, fr, ho⟩ := rotate3_spec (root := root) (ref := ref) (top := f) hmb hmd hmf
    (.inr ⟨rfl, rfl⟩) hoa hoc hoe hog nd
  exact ⟨d, m2, by simpa [rotateLeftRight, rotate3, hr, hmf, hmb] using e, fr, ho⟩

theorem rotateRightLeft_spec {m : Mem} {root gp : Option Nat} {ref : Ref} {b : Nat}
    {a c e g : Tree} {kb kd kf : Int} {hb hd hf : Nat} {I : List Nat}
    (ho : Own m (some b) gp (node a kb hb (node (node c kd hd e) kf hf g)) I) (nd : I.Nodup)
    (hr : deref ⟨m, root⟩ ref = some (some b)) :
    ∃ d m2, rotateRightLeft ⟨m, root⟩ ref = store ⟨m2, root⟩ ref (some d) ∧
      (∀ n, n ∉ I → m2 n = m n) ∧
      Own m2 (some d) gp (Avl.mk (Avl.mk a kb c) kd (Avl.mk e kf g)) I := by
  obtain ⟨ap, _, ia, _, hmb, hoa, ⟨f, _, gq, _, ig, rfl, hmf,
    ⟨d, cp, ep, ic, ie, rfl, hmd, hoc, hoe, rfl⟩, hog, rfl⟩, rfl⟩ := own_some_node.1 ho
  obtain ⟨m2, e, fr, ho⟩ := rotate3_spec (root := root) (ref := ref) (top := b) hmb hmd hmf
    (.inl ⟨rfl, rfl⟩) hoa hoc hoe hog (by simpa using nd)
  exact ⟨d, m2, by simpa [rotateRightLeft, rotate3, hr, hmf, hmb] using e,
    fun n hn => fr n (by simpa using hn), by simpa using ho⟩

end Ivy.AvlPtr
