import Ivy.L0.AvlPtrRepr
/-!
Traversal through parent pointers: `iv_avl_tree_next`, `iv_avl_tree_prev`,
`iv_avl_tree_min`, `iv_avl_tree_max` return the in-order neighbour / ends, and iterating
them visits exactly the in-order address list (hence `toList`) and terminates.
-/
namespace Ivy.AvlPtr
open Ivy.Avl (Tree toList size)
open Ivy.Avl.Tree

theorem climbRight_spec {m : Mem} {root : Option Nat} : ∀ (c : List Frame) {an : Nat}
    {hp : Option Nat} {pre post ids : List Nat} {t : Tree} (fuel : Nat),
    OwnCtx m root none c (some an) hp pre post → Own m (some an) hp t ids →
    (pre ++ ids ++ post).Nodup → c.length ≤ fuel →
    climbRight fuel ⟨m, root⟩ an hp = some post.head? := by
  intro c
  induction c with
  | nil =>
    intro an hp pre post ids t fuel hc ht nd hf
    obtain ⟨_, rfl, _, rfl⟩ := hc
    cases fuel <;> rfl
  | cons f c ih =>
    intro an hp pre post ids t fuel hc ht nd hf
    cases fuel with
    | zero => simp at hf
    | succ fuel =>
    simp only [List.length_cons, Nat.add_le_add_iff_right] at hf
    have han := own_root_mem ht
    cases f with
    | L k h sib =>
      obtain ⟨g, rp, gp, sids, post', rfl, hg, hs, hc', rfl⟩ := hc
      have : rp ≠ some an := own_ne hs fun h =>
        (nodup_ctx.1 nd).2.2 an han (by simp [h])
      simp [climbRight, hg, this]
    | R k h sib =>
      obtain ⟨g, lp, gp, sids, pre', rfl, hg, hs, hc', rfl⟩ := hc
      have := ih fuel hc' (own_mk hg hs ht) (by simpa using nd) hf
      simp [climbRight, hg, this]

theorem climbLeft_spec {m : Mem} {root : Option Nat} : ∀ (c : List Frame) {an : Nat}
    {hp : Option Nat} {pre post ids : List Nat} {t : Tree} (fuel : Nat),
    OwnCtx m root none c (some an) hp pre post → Own m (some an) hp t ids →
    (pre ++ ids ++ post).Nodup → c.length ≤ fuel →
    climbLeft fuel ⟨m, root⟩ an hp = some pre.getLast? := by
  intro c
  induction c with
  | nil =>
    intro an hp pre post ids t fuel hc ht nd hf
    obtain ⟨_, rfl, rfl, _⟩ := hc
    cases fuel <;> rfl
  | cons f c ih =>
    intro an hp pre post ids t fuel hc ht nd hf
    cases fuel with
    | zero => simp at hf
    | succ fuel =>
    simp only [List.length_cons, Nat.add_le_add_iff_right] at hf
    have han := own_root_mem ht
    cases f with
    | R k h sib =>
      obtain ⟨g, lp, gp, sids, pre', rfl, hg, hs, hc', rfl⟩ := hc
      have : lp ≠ some an := own_ne hs fun h =>
        (nodup_ctx.1 nd).2.2 an han (by simp [h])
      simp [climbLeft, hg, this]
    | L k h sib =>
      obtain ⟨g, rp, gp, sids, post', rfl, hg, hs, hc', rfl⟩ := hc
      have := ih fuel hc' (own_mk hg ht hs) (by simpa using nd) hf
      simp [climbLeft, hg, this]

/-- `iv_avl_tree_next` returns the in-order successor (NULL after the last node). -/
theorem next_spec {h : Heap} {t : Tree} {ids A B : List Nat} {i : Nat} {fuel : Nat}
    (hR : Repr h t ids) (hi : ids = A ++ i :: B) (hf : size t ≤ fuel) :
    next fuel h i = some B.head? := by
  obtain ⟨m, root⟩ := h
  obtain ⟨ho, nd⟩ := hR
  simp only at ho
  obtain ⟨c, l, k, hh, r, par, pre, post, il, ir, lp, rp, rfl, hc, hm, hl, hr, e⟩ :=
    own_find ho (a := i) (by simp [hi])
  have hsz := size_plug c (node l k hh r)
  simp only [size] at hsz
  obtain ⟨rfl, rfl⟩ : A = pre ++ il ∧ B = ir ++ post :=
    nodup_split_unique (i := i) (hi ▸ nd) (by rw [← hi, e]; simp)
  cases rp with
  | none =>
    obtain ⟨_, rfl⟩ := own_none hr
    have := climbRight_spec (root := root) c fuel hc (own_mk hm hl hr) (e ▸ nd) (by omega)
    simp [next, hm, this]
  | some j =>
    obtain ⟨v, rest, rfl, e3⟩ := descendLeft_spec (root := root) r fuel hr (by omega)
    simp [next, hm, e3]

/-- `iv_avl_tree_prev` returns the in-order predecessor (NULL before the first node). -/
theorem prev_spec {h : Heap} {t : Tree} {ids A B : List Nat} {i : Nat} {fuel : Nat}
    (hR : Repr h t ids) (hi : ids = A ++ i :: B) (hf : size t ≤ fuel) :
    prev fuel h i = some A.getLast? := by
  obtain ⟨m, root⟩ := h
  obtain ⟨ho, nd⟩ := hR
  simp only at ho
  obtain ⟨c, l, k, hh, r, par, pre, post, il, ir, lp, rp, rfl, hc, hm, hl, hr, e⟩ :=
    own_find ho (a := i) (by simp [hi])
  have hsz := size_plug c (node l k hh r)
  simp only [size] at hsz
  obtain ⟨rfl, rfl⟩ : A = pre ++ il ∧ B = ir ++ post :=
    nodup_split_unique (i := i) (hi ▸ nd) (by rw [← hi, e]; simp)
  cases lp with
  | none =>
    obtain ⟨_, rfl⟩ := own_none hl
    have := climbLeft_spec (root := root) c fuel hc (own_mk hm hl hr) (e ▸ nd) (by omega)
    simp [prev, hm, this]
  | some j =>
    obtain ⟨v, init, rfl, e3⟩ := descendRight_spec (root := root) l fuel hl (by omega)
    simp [prev, hm, e3]

theorem min_spec {h : Heap} {t : Tree} {ids : List Nat} {fuel : Nat}
    (hR : Repr h t ids) (hf : size t ≤ fuel) : min fuel h = some ids.head? := by
  obtain ⟨m, root⟩ := h
  obtain ⟨ho, nd⟩ := hR
  simp only at ho
  cases root with
  | none => obtain ⟨_, rfl⟩ := own_none ho; rfl
  | some i =>
    obtain ⟨v, rest, rfl, e⟩ := descendLeft_spec (root := some i) t fuel ho hf
    simp [min, e]

theorem max_spec {h : Heap} {t : Tree} {ids : List Nat} {fuel : Nat}
    (hR : Repr h t ids) (hf : size t ≤ fuel) : max fuel h = some ids.getLast? := by
  obtain ⟨m, root⟩ := h
  obtain ⟨ho, nd⟩ := hR
  simp only at ho
  cases root with
  | none => obtain ⟨_, rfl⟩ := own_none ho; rfl
  | some i =>
    obtain ⟨v, init, rfl, e⟩ := descendRight_spec (root := some i) t fuel ho hf
    simp [max, e]

theorem iterNext_spec {h : Heap} {t : Tree} {ids : List Nat} {fuel : Nat}
    (hR : Repr h t ids) (hf : size t ≤ fuel) : ∀ (B A : List Nat) (n : Nat),
    ids = A ++ B → B.length ≤ n → iterNext fuel h n B.head? = some B := by
  intro B
  induction B with
  | nil => intro A n _ _; cases n <;> rfl
  | cons b B ih =>
    intro A n e hn
    cases n with
    | zero => simp at hn
    | succ n =>
      have h1 := next_spec hR e hf
      have h2 := ih (A ++ [b]) n (by simp [e]) (by simpa using hn)
      simp [iterNext, h1, h2]

theorem iterPrev_spec {h : Heap} {t : Tree} {ids : List Nat} {fuel : Nat}
    (hR : Repr h t ids) (hf : size t ≤ fuel) : ∀ (R B : List Nat) (n : Nat),
    ids = R.reverse ++ B → R.length ≤ n → iterPrev fuel h n R.head? = some R := by
  intro R
  induction R with
  | nil => intro B n _ _; cases n <;> rfl
  | cons a R ih =>
    intro B n e hn
    cases n with
    | zero => simp at hn
    | succ n =>
      have e' : ids = R.reverse ++ a :: B := by simp [e]
      have h1 := prev_spec hR e' hf
      rw [List.getLast?_reverse] at h1
      have h2 := ih (a :: B) n e' (by simpa using hn)
      simp [iterPrev, h1, h2]

/-- `iv_avl_tree_for_each` visits exactly the nodes of the tree, in order, and terminates. -/
theorem forEach_spec {h : Heap} {t : Tree} {ids : List Nat} {fuel : Nat}
    (hR : Repr h t ids) (hf : size t ≤ fuel) : forEach fuel h = some ids := by
  have hlen := own_length hR.1
  simp [forEach, min_spec hR hf, iterNext_spec hR hf ids [] fuel rfl (by omega)]

/-- walking back from `iv_avl_tree_max` with `iv_avl_tree_prev` visits them in reverse. -/
theorem forEachRev_spec {h : Heap} {t : Tree} {ids : List Nat} {fuel : Nat}
    (hR : Repr h t ids) (hf : size t ≤ fuel) : forEachRev fuel h = some ids.reverse := by
  have hlen := own_length hR.1
  have := iterPrev_spec hR hf ids.reverse [] fuel (by simp) (by simp; omega)
  rw [List.head?_reverse] at this
  simp [forEachRev, max_spec hR hf, this]

theorem keysOf_reverse (h : Heap) (l : List Nat) : keysOf h l.reverse = (keysOf h l).reverse := by
  simp [keysOf]

end Ivy.AvlPtr
