import Lean.Meta.Tactic.Simp.RegisterCommand

/-- The equations that run the primitive heap operations of `Ivy/L0/AvlPtr.lean` on an explicit
memory: the field setters and `recalc_height` unfolded, lookups and `height()` after a write
(`AvlPtrHeap.lean`), `reparent` as the closed form of `if (p) p->parent = q`
(`AvlPtrRepr.lean`), and the few `Option`/`max` lemmas that sequence the steps.
The lookups rewrite only under side conditions: the addresses involved are distinct
(`j ≠ i`, `p ≠ some i`) and, for `setParentIf_eq`, `height` of the pointer is defined.  A call
`simp only [heap_run, …]` therefore lists these facts (`own_ne …`, `own_height …`). -/
register_simp_attr heap_run
