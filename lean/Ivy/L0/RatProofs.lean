import Ivy.L0.HeapProofs
/-!
# The radix tree of iv_timer.c behaves as the flat array assumed by `Ivy/L0/Heap.lean`

Model: `Ivy/L0/Rat.lean`.  All tree statements are for an arbitrary `bits` (hence for every
`bits ≥ 1`; the few that need `1 ≤ bits` say so), every depth and every index.

The statements are about `flat s i`, the slot heap index `i` denotes (`none` = NULL / unallocated /
beyond the capacity), under `Shape` (uniform height, fan-out `2^bits`, leftmost path allocated: it
ends in the embedded `first_leaf`):
(a) `iv_timer_get_node` returns the slot of its index and changes no slot; (b) a write through the
returned pointer changes that slot only; (c) removing a level changes no slot and frees exactly the
nodes it discards; (d) the slot operations of the heap model, as its operations issue them
(`Heap.Proofs.Moves`), read the same on the tree as on the array; (e) no leak: under `Dense` (nodes
allocated left to right up to a high-water mark, which is what the `break`-at-first-NULL free loops
rely on) `allocated + 1` is the number of reachable nodes and `iv_timer_deinit` frees them all.

The descent of `iv_timer_get_node` and the write through the pointer it returns are one recursion on
the tree, `upd`, with the edit of the leaf as a parameter (`descend_tree`, `write_descend`); what concerns
the shape of the tree (`WF`, `Spine`, `reach`, `Filled`) is proved for `upd`, and at the state level for
`after` (`getNode_eq`, `store_eq`).
-/
namespace Ivy.Rat.Proofs
open Ivy.Rat

def WF (bits : Nat) : Nat → Rat → Prop
  | 0, .leaf sl => sl.length = fan bits
  | h + 1, .node cs => cs.length = fan bits ∧ ∀ c, some c ∈ cs → WF bits h c
  | _, _ => False

/-- the leftmost path is allocated (its end is the embedded `first_leaf`) -/
def Spine : Nat → Rat → Prop
  | 0, _ => True
  | h + 1, .node cs => ∃ c, child cs 0 = some c ∧ Spine h c
  | _ + 1, .leaf _ => False

theorem child_set_self {cs : List (Option Rat)} {d : Nat} (x : Rat) (hd : d < cs.length) :
    child (cs.set d (some x)) d = some x := by
  simp [child, hd]

theorem child_set_ne {cs : List (Option Rat)} {d k : Nat} (x : Option Rat) (h : d ≠ k) :
    child (cs.set d x) k = child cs k := by
  simp [child, h]

theorem child_mem {cs : List (Option Rat)} {d : Nat} {c : Rat} (h : child cs d = some c) : some c ∈ cs := by
  unfold child at h
  cases h' : cs[d]? with
  | none => simp [h'] at h
  | some o =>
    simp [h'] at h
    subst h
    exact List.mem_of_getElem? h'

theorem child_replicate (n d : Nat) : child (List.replicate n (none : Option Rat)) d = none := by
  simp only [child, List.getElem?_replicate]
  split <;> rfl

theorem child_cons_succ (x : Option Rat) (cs : List (Option Rat)) (k : Nat) :
    child (x :: cs) (k + 1) = child cs k := by
  simp [child]

theorem child_none_of_ge {cs : List (Option Rat)} {k : Nat} (h : cs.length ≤ k) : child cs k = none := by
  simp [child, List.getElem?_eq_none h]

theorem mem_set_some {cs : List (Option Rat)} {d : Nat} {x c : Rat} (h : some c ∈ cs.set d (some x)) :
    c = x ∨ some c ∈ cs := by
  rcases List.mem_or_eq_of_mem_set h with h | h
  · exact Or.inr h
  · exact Or.inl (by simpa using h)

theorem wf_alloc (bits h : Nat) : WF bits h (alloc bits h) := by
  cases h with
  | zero => simp [alloc, WF]
  | succ h =>
    simp only [alloc, WF, List.length_replicate, true_and]
    intro c hc
    simp [List.mem_replicate] at hc

theorem lookup_alloc (bits h j : Nat) : lookup bits h (alloc bits h) j = none := by
  cases h with
  | zero => simp only [alloc, lookup, List.getElem?_replicate]; split <;> rfl
  | succ h => simp [alloc, lookup, child_replicate]

theorem wf_child {bits h : Nat} {cs : List (Option Rat)} (hw : WF bits (h + 1) (.node cs)) {d : Nat} {c : Rat}
    (hc : child cs d = some c) : WF bits h c := hw.2 c (child_mem hc)

theorem wf_getD {bits h : Nat} {cs : List (Option Rat)} (hw : WF bits (h + 1) (.node cs)) (d : Nat) :
    WF bits h ((child cs d).getD (alloc bits h)) := by
  cases hc : child cs d with
  | none => exact wf_alloc bits h
  | some c => exact wf_child hw hc

theorem lookup_node_eq (bits h : Nat) (cs : List (Option Rat)) (j : Nat) :
    lookup bits (h + 1) (.node cs) j =
      lookup bits h ((child cs (digit bits (h + 1) j)).getD (alloc bits h)) j := by
  simp only [lookup]
  cases hc : child cs (digit bits (h + 1) j) with
  | none => simp [lookup_alloc]
  | some c => simp

/-- below `child[0]` of a node the indices are those of the node: what growing by a level and
`iv_timer_radix_tree_remove_level` rely on -/
theorem lookup_first {bits d : Nat} {c : Rat} {rest : List (Option Rat)} {j : Nat} (hj : j < span bits d) :
    lookup bits (d + 1) (.node (some c :: rest)) j = lookup bits d c j := by
  have hd : digit bits (d + 1) j = 0 := by
    rw [digit_succ, Nat.mod_eq_of_lt (Nat.lt_of_lt_of_le hj (span_le_succ ..))]; exact Nat.div_eq_of_lt hj
  simp [lookup, hd, child]

/-- induction along a descent: the hypothesis at a node is for every child the descent may continue in, a
freshly allocated one standing for NULL -/
theorem wf_induct {bits : Nat} {P : (h : Nat) → (t : Rat) → WF bits h t → Prop}
    (leaf : ∀ sl (hw : WF bits 0 (.leaf sl)), P 0 (.leaf sl) hw)
    (node : ∀ h cs (hw : WF bits (h + 1) (.node cs)), (∀ i, digit bits (h + 1) i < cs.length) →
      (∀ d, P h ((child cs d).getD (alloc bits h)) (wf_getD hw d)) → P (h + 1) (.node cs) hw) :
    ∀ h t (hw : WF bits h t), P h t hw := by
  intro h
  induction h with
  | zero =>
    intro t hw
    cases t with
    | node cs => simp [WF] at hw
    | leaf sl => exact leaf sl hw
  | succ h ih =>
    intro t hw
    cases t with
    | leaf sl => simp [WF] at hw
    | node cs => exact node h cs hw (fun i => by rw [hw.1]; exact digit_lt ..) fun d => ih _ (wf_getD hw d)

/-- `iv_timer_get_node` followed by an edit `f` of the leaf it arrives at: the descent with lazy allocation
as a function of the tree alone.  `f = id` is the descent itself, `f = (·.set d v)` the write through the
returned pointer. -/
def upd (bits : Nat) (f : List (Option Nat) → List (Option Nat)) : Nat → Rat → Nat → Rat
  | 0, .leaf sl, _ => .leaf (f sl)
  | h + 1, .node cs, i =>
    .node (cs.set (digit bits (h + 1) i)
      (some (upd bits f h ((child cs (digit bits (h + 1) i)).getD (alloc bits h)) i)))
  | _, t, _ => t

theorem descend_tree (bits : Nat) : ∀ (h : Nat) (t : Rat) (i : Nat), WF bits h t →
    (descend bits h t i).tree = upd bits id h t i := by
  intro h t i hw
  induction h, t, hw using wf_induct with
  | leaf sl hw => rfl
  | node h cs hw hd ih => simp only [descend, upd, ih _]

theorem write_descend (bits : Nat) (v : Option Nat) : ∀ (h : Nat) (t : Rat) (i : Nat), WF bits h t →
    writePath v (descend bits h t i).ptr (descend bits h t i).tree =
      upd bits (fun sl => sl.set (digit bits 0 i) v) h t i := by
  intro h t i hw
  induction h, t, hw using wf_induct with
  | leaf sl hw => rfl
  | node h cs hw hd ih =>
    simp only [descend, writePath, child_set_self _ (hd i), List.set_set, upd, ih _]

theorem upd_wf {bits : Nat} {f : List (Option Nat) → List (Option Nat)} (hf : ∀ sl, (f sl).length = sl.length) :
    ∀ (h : Nat) (t : Rat) (i : Nat), WF bits h t → WF bits h (upd bits f h t i) := by
  intro h t i hw
  induction h, t, hw using wf_induct with
  | leaf sl hw => simpa [upd, WF, hf] using hw
  | node h cs hw hd ih =>
    simp only [upd, WF, List.length_set]
    refine ⟨hw.1, fun c hc => ?_⟩
    rcases mem_set_some hc with rfl | hc
    · exact ih _
    · exact hw.2 c hc

theorem descend_lookup (bits : Nat) : ∀ (h : Nat) (t : Rat) (i j : Nat), WF bits h t →
    lookup bits h (descend bits h t i).tree j = lookup bits h t j := by
  intro h t i j hw
  induction h, t, hw using wf_induct with
  | leaf sl hw => simp [descend]
  | node h cs hw hd ih =>
    simp only [descend, lookup]
    by_cases hk : digit bits (h + 1) i = digit bits (h + 1) j
    · rw [← hk, child_set_self _ (hd i)]
      simp only [ih _]
      rw [hk, ← lookup_node_eq]; simp only [lookup]
    · rw [child_set_ne _ hk]

theorem descend_read (bits : Nat) : ∀ (h : Nat) (t : Rat) (i : Nat), WF bits h t →
    readPath (descend bits h t i).ptr (descend bits h t i).tree = some (lookup bits h t i) := by
  intro h t i hw
  induction h, t, hw using wf_induct with
  | leaf sl hw =>
    simp only [WF] at hw
    have : digit bits 0 i < sl.length := by rw [hw]; exact digit_lt ..
    simp [descend, readPath, lookup, this]
  | node h cs hw hd ih =>
    simp only [descend, readPath, child_set_self _ (hd i)]
    rw [ih _, ← lookup_node_eq]

theorem write_lookup (bits : Nat) (v : Option Nat) : ∀ (h : Nat) (t : Rat) (i j : Nat), WF bits h t →
    lookup bits h (writePath v (descend bits h t i).ptr (descend bits h t i).tree) j =
      if j % span bits h = i % span bits h then v else lookup bits h t j := by
  intro h t i j hw
  induction h, t, hw using wf_induct with
  | leaf sl hw =>
    simp only [WF] at hw
    have hi : digit bits 0 i < sl.length := by rw [hw]; exact digit_lt ..
    simp only [descend, writePath, lookup, List.getElem?_set, ← digit_zero]
    by_cases hk : digit bits 0 j = digit bits 0 i
    · simp [hk, hi]
    · have hk' : ¬ digit bits 0 i = digit bits 0 j := fun h => hk h.symm
      simp [hk, hk']
  | node h cs hw hd ih =>
    simp only [descend, writePath, child_set_self _ (hd i), List.set_set, local_eq_iff]
    by_cases hk : digit bits (h + 1) j = digit bits (h + 1) i
    · simp only [lookup, hk, child_set_self _ (hd i), true_and]
      rw [ih _, ← hk, ← lookup_node_eq]
      simp only [lookup]
    · have hk' : ¬ digit bits (h + 1) i = digit bits (h + 1) j := fun h => hk h.symm
      simp only [lookup, hk, false_and, if_false, child_set_ne _ hk']

theorem write_read (bits : Nat) (v : Option Nat) : ∀ (h : Nat) (t : Rat) (i : Nat), WF bits h t →
    readPath (descend bits h t i).ptr (writePath v (descend bits h t i).ptr (descend bits h t i).tree) = some v := by
  intro h t i hw
  induction h, t, hw using wf_induct with
  | leaf sl hw =>
    simp only [WF] at hw
    have hi : digit bits 0 i < sl.length := by rw [hw]; exact digit_lt ..
    simp [descend, writePath, readPath, hi]
  | node h cs hw hd ih =>
    simp only [descend, writePath, child_set_self _ (hd i), List.set_set, readPath]
    exact ih _


theorem upd_spine {bits : Nat} {f : List (Option Nat) → List (Option Nat)} : ∀ (h : Nat) (t : Rat) (i : Nat),
    WF bits h t → Spine h t → Spine h (upd bits f h t i) := by
  intro h t i hw
  induction h, t, hw using wf_induct with
  | leaf sl hw => intro _; trivial
  | node h cs hw hd ih =>
    intro hs
    obtain ⟨c, hc, hsc⟩ := hs
    simp only [upd, Spine]
    by_cases hk : digit bits (h + 1) i = 0
    · have h0 := ih 0
      rw [hc] at h0
      rw [hk, child_set_self _ (hk ▸ hd i), hc]
      exact ⟨_, rfl, h0 hsc⟩
    · rw [child_set_ne _ hk]; exact ⟨c, hc, hsc⟩

structure Shape (bits : Nat) (s : RatState) : Prop where
  wf    : WF bits s.depth s.root
  spine : Spine s.depth s.root

/-- the slot that heap index `i` denotes; `none` = NULL, not allocated, or beyond the capacity -/
def flat (bits : Nat) (s : RatState) (i : Nat) : Option Nat :=
  if i < span bits s.depth then lookup bits s.depth s.root i else none

theorem flat_of_lt {bits : Nat} {s : RatState} {i : Nat} (h : i < span bits s.depth) :
    flat bits s i = lookup bits s.depth s.root i := by simp [flat, h]

theorem flat_of_ge {bits : Nat} {s : RatState} {i : Nat} (h : span bits s.depth ≤ i) :
    flat bits s i = none := by simp [flat]; omega

theorem init_shape (bits : Nat) : Shape bits (RatState.init bits) :=
  ⟨wf_alloc bits 0, trivial⟩

theorem init_flat (bits i : Nat) : flat bits (RatState.init bits) i = none := by
  simp [flat, RatState.init, lookup_alloc]

theorem growRoot_depth (bits : Nat) (s : RatState) (i : Nat) :
    (growRoot bits s i).depth = if span bits s.depth ≤ i then s.depth + 1 else s.depth := by
  simp only [growRoot, grow_test, decide_eq_true_eq]
  split <;> rfl

theorem growRoot_shape {bits : Nat} {s : RatState} (i : Nat) (h : Shape bits s) : Shape bits (growRoot bits s i) := by
  simp only [growRoot, grow_test, decide_eq_true_eq]
  split
  · refine ⟨?_, ?_⟩
    · simp only [WF, List.length_cons, List.length_replicate, List.mem_cons, List.mem_replicate]
      refine ⟨by have := fan_pos bits; omega, fun c hc => ?_⟩
      rcases hc with hc | hc
      · cases hc; exact h.wf
      · simp at hc
    · exact ⟨s.root, by simp [child], h.spine⟩
  · exact h

theorem growRoot_flat {bits : Nat} (s : RatState) (i j : Nat) :
    flat bits (growRoot bits s i) j = flat bits s j := by
  simp only [growRoot, grow_test, decide_eq_true_eq]
  split
  · have hle := span_le_succ bits s.depth
    -- `s := ⟨_, _, _⟩`: left to unification, the grown state in `flat_of_lt` is slow to find
    by_cases hj' : j < span bits s.depth
    · rw [flat_of_lt hj', flat_of_lt (s := ⟨_, _, _⟩) (Nat.lt_of_lt_of_le hj' hle)]; exact lookup_first hj'
    · rw [flat_of_ge (Nat.le_of_not_lt hj')]
      by_cases hj : j < span bits (s.depth + 1)
      · -- a digit from 1 on leads to a NULL child of the new root
        obtain ⟨k, hk⟩ := Nat.exists_eq_succ_of_ne_zero
          (Nat.ne_of_gt (Nat.div_pos (Nat.le_of_not_lt hj') (span_pos bits s.depth)))
        rw [flat_of_lt (s := ⟨_, _, _⟩) hj]
        simp only [lookup, digit_succ, Nat.mod_eq_of_lt hj, hk, Nat.succ_eq_add_one, child_cons_succ, child_replicate]
      · exact flat_of_ge (s := ⟨_, _, _⟩) (Nat.le_of_not_lt hj)
  · rfl

theorem growRoot_lt {bits : Nat} {s : RatState} {i : Nat} (hi : i < span bits (s.depth + 1)) :
    i < span bits (growRoot bits s i).depth := by
  rw [growRoot_depth]; split <;> omega

theorem getNode_depth (bits : Nat) (s : RatState) (i : Nat) :
    (getNode bits s i).1.depth = if span bits s.depth ≤ i then s.depth + 1 else s.depth := by
  simp only [getNode, growRoot_depth]

/-- the state after `iv_timer_get_node(st, i)` (`f = id`) and after `*iv_timer_get_node(st, i) = v`
(`f = (·.set d v)`), in closed form -/
def after (bits : Nat) (f : List (Option Nat) → List (Option Nat)) (s : RatState) (i : Nat) : RatState :=
  { root := upd bits f (growRoot bits s i).depth (growRoot bits s i).root i,
    depth := (growRoot bits s i).depth,
    allocated := (growRoot bits s i).allocated + (descend bits (growRoot bits s i).depth (growRoot bits s i).root i).allocs }

theorem getNode_eq {bits : Nat} {s : RatState} (i : Nat) (hs : Shape bits s) :
    (getNode bits s i).1 = after bits id s i := by
  simp only [getNode, after, descend_tree _ _ _ _ (growRoot_shape i hs).wf]

theorem store_eq {bits : Nat} {s : RatState} (i : Nat) (v : Option Nat) (hs : Shape bits s) :
    store bits s i v = after bits (fun sl => sl.set (digit bits 0 i) v) s i := by
  simp only [store, writeSlot, getNode, after, write_descend _ _ _ _ _ (growRoot_shape i hs).wf]

theorem after_shape {bits : Nat} {f : List (Option Nat) → List (Option Nat)} (hf : ∀ sl, (f sl).length = sl.length)
    {s : RatState} (i : Nat) (hs : Shape bits s) : Shape bits (after bits f s i) :=
  have hg := growRoot_shape i hs
  { wf := upd_wf hf (growRoot bits s i).depth (growRoot bits s i).root i hg.wf
    spine := upd_spine (growRoot bits s i).depth (growRoot bits s i).root i hg.wf hg.spine }

/-- **(a)** `iv_timer_get_node(st, i)` for an index at most one level beyond the current capacity:
the tree stays well shaped, afterwards `i` is within the capacity (the depth grew by one iff `i` was
beyond it), the returned pointer is valid and points at the slot of `i`, and no slot changes: growth
and lazy allocation keep every stored slot, and new slots read NULL. -/
theorem getNode_spec {bits : Nat} {s : RatState} (i : Nat) (hs : Shape bits s)
    (hi : i < span bits (s.depth + 1)) :
    Shape bits (getNode bits s i).1 ∧
    (getNode bits s i).1.depth = (if span bits s.depth ≤ i then s.depth + 1 else s.depth) ∧
    i < span bits (getNode bits s i).1.depth ∧
    readSlot (getNode bits s i).1 (getNode bits s i).2 = some (flat bits s i) ∧
    ∀ j, flat bits (getNode bits s i).1 j = flat bits s j := by
  have hg := growRoot_shape i hs
  have hlt := growRoot_lt hi
  refine ⟨getNode_eq i hs ▸ after_shape (fun _ => rfl) i hs, getNode_depth .., hlt, ?_, ?_⟩
  · simp only [readSlot, getNode]
    rw [descend_read _ _ _ _ hg.wf, ← growRoot_flat s i i, flat_of_lt hlt]
  · intro j
    rw [← growRoot_flat s i j]
    simp only [flat, getNode, descend_lookup _ _ _ _ _ hg.wf]

/-- **(b)** write-then-read: `*iv_timer_get_node(st, i) = v` updates slot `i` and nothing else
(also when the call grows the tree). -/
theorem store_spec {bits : Nat} {s : RatState} (i : Nat) (v : Option Nat) (hs : Shape bits s)
    (hi : i < span bits (s.depth + 1)) :
    Shape bits (store bits s i v) ∧
    (store bits s i v).depth = (if span bits s.depth ≤ i then s.depth + 1 else s.depth) ∧
    (store bits s i v).allocated = (getNode bits s i).1.allocated ∧
    readSlot (store bits s i v) (getNode bits s i).2 = some v ∧
    ∀ j, flat bits (store bits s i v) j = if j = i then v else flat bits s j := by
  have hg := growRoot_shape i hs
  have hlt := growRoot_lt hi
  refine ⟨store_eq i v hs ▸ after_shape (fun _ => List.length_set ..) i hs, getNode_depth .., rfl, ?_, ?_⟩
  · simp only [readSlot, store, writeSlot, getNode]
    exact write_read _ _ _ _ _ hg.wf
  · intro j
    rw [← growRoot_flat s i j]
    simp only [flat, store, writeSlot, getNode]
    by_cases hj : j < span bits (growRoot bits s i).depth
    · simp only [hj, if_true]
      rw [write_lookup _ _ _ _ _ _ hg.wf, Nat.mod_eq_of_lt hj, Nat.mod_eq_of_lt hlt]
    · have : j ≠ i := by omega
      simp [hj, this]

theorem store_flat {bits : Nat} {s : RatState} (i : Nat) (v : Option Nat) (hs : Shape bits s)
    (hi : i < span bits s.depth) :
    (store bits s i v).depth = s.depth ∧
    ∀ j, flat bits (store bits s i v) j = if j = i then v else flat bits s j := by
  obtain ⟨_, hd, _, _, hf⟩ := store_spec i v hs (Nat.lt_of_lt_of_le hi (span_le_succ ..))
  refine ⟨?_, hf⟩
  rw [hd, if_neg (by omega)]

theorem descend_ptr_zero (bits : Nat) : ∀ (h : Nat) (t : Rat) (i : Nat), WF bits h t →
    ((descend bits h t i).ptr = List.replicate (h + 1) 0 ↔ i % span bits h = 0) := by
  intro h t i hw
  induction h, t, hw using wf_induct with
  | leaf sl hw => simp [descend, digit_zero]
  | node h cs hw hd ih =>
    simp only [descend, List.replicate_succ (n := h + 1), List.cons.injEq, ih _]
    rw [digit_succ, ← mod_span_succ bits h i]
    generalize i % span bits (h + 1) = x
    have hS := span_pos bits h
    constructor
    · rintro ⟨h1, h2⟩
      rw [← Nat.div_add_mod x (span bits h), h1, h2]; simp
    · intro h0; subst h0; simp

/-- The cell that overlays `st->ratnode.timer_root` (cell 0 of the leftmost leaf, i.e. the all-zero
path) is addressed by `iv_timer_get_node` only for index 0, which the heap never uses. -/
theorem ptr_zero_iff {bits : Nat} {s : RatState} (i : Nat) (hs : Shape bits s) (hi : i < span bits (s.depth + 1)) :
    (getNode bits s i).2 = List.replicate ((getNode bits s i).1.depth + 1) 0 ↔ i = 0 := by
  have hg := growRoot_shape i hs
  have hlt := growRoot_lt hi
  simp only [getNode]
  rw [descend_ptr_zero _ _ _ _ hg.wf, Nat.mod_eq_of_lt hlt]


/-- the form of state `removeLevel` matches on -/
theorem spine_root {s : RatState} (hsp : Spine s.depth s.root) (hd : 0 < s.depth) :
    ∃ d c0 rest al, s = ⟨.node (some c0 :: rest), d + 1, al⟩ ∧ Spine d c0 := by
  obtain ⟨root, depth, al⟩ := s
  cases depth with
  | zero => exact absurd hd (Nat.lt_irrefl 0)
  | succ d =>
    cases root with
    | leaf sl => simp [Spine] at hsp
    | node cs =>
      obtain ⟨c0, hc0, hs0⟩ := hsp
      cases cs with
      | nil => simp [child] at hc0
      | cons x rest =>
        have hx : x = some c0 := by simpa [child] using hc0
        exact ⟨d, c0, rest, al, by rw [hx], hs0⟩

/-- **(c)**, slots: `iv_timer_radix_tree_remove_level` under the C's shrink condition (every index from
`2^(rat_depth*bits)` on reads NULL) changes no slot; the depth drops by one. -/
theorem removeLevel_flat {bits : Nat} {s : RatState} (hs : Shape bits s) (hd : 0 < s.depth) :
    Shape bits (removeLevel s) ∧ (removeLevel s).depth = s.depth - 1 ∧
    ((∀ j, span bits (s.depth - 1) ≤ j → flat bits s j = none) →
      ∀ j, flat bits (removeLevel s) j = flat bits s j) := by
  obtain ⟨d, c0, rest, al, rfl, hs0⟩ := spine_root hs.spine hd
  refine ⟨⟨hs.wf.2 c0 (by simp), hs0⟩, rfl, fun hnull j => ?_⟩
  by_cases hj : j < span bits d
  · rw [flat_of_lt (s := removeLevel _) hj, flat_of_lt (s := ⟨_, _, _⟩) (Nat.lt_of_lt_of_le hj (span_le_succ ..))]
    exact (lookup_first hj).symm
  · rw [hnull j (Nat.le_of_not_lt hj)]; exact flat_of_ge (s := removeLevel _) (Nat.le_of_not_lt hj)

theorem sumChildren_set (f : Rat → Nat) (x : Rat) : ∀ (cs : List (Option Rat)) (d : Nat), d < cs.length →
    sumChildren f (cs.set d (some x)) + (child cs d).elim 0 f = sumChildren f cs + f x := by
  intro cs
  induction cs with
  | nil => intro d hd; simp at hd
  | cons y cs ih =>
    intro d hd
    cases d with
    | zero =>
      cases y <;> simp [sumChildren, child] <;> omega
    | succ d =>
      have := ih d (by simpa using hd)
      rw [child_cons_succ]
      cases y <;> simp only [List.set_cons_succ, sumChildren] <;> omega

theorem sumChildren_replicate (f : Rat → Nat) (n : Nat) : sumChildren f (List.replicate n none) = 0 := by
  induction n with
  | zero => rfl
  | succ n ih => simpa [List.replicate_succ, sumChildren] using ih

theorem reach_alloc (bits h : Nat) : reach h (alloc bits h) = 1 := by
  cases h with
  | zero => rfl
  | succ h => simp [alloc, reach, sumChildren_replicate]

theorem upd_reach {bits : Nat} {f : List (Option Nat) → List (Option Nat)} : ∀ (h : Nat) (t : Rat) (i : Nat),
    WF bits h t → reach h (upd bits f h t i) = reach h t + (descend bits h t i).allocs := by
  intro h t i hw
  induction h, t, hw using wf_induct with
  | leaf sl hw => rfl
  | node h cs hw hd ih =>
    simp only [descend, upd, reach]
    have h1 := sumChildren_set (reach h) (upd bits f h ((child cs (digit bits (h + 1) i)).getD (alloc bits h)) i) cs _ (hd i)
    have h2 := ih (digit bits (h + 1) i)
    cases hc : child cs (digit bits (h + 1) i) with
    | none =>
      simp only [hc, Option.getD_none, Option.elim_none, Option.isSome_none] at h1 h2 ⊢
      rw [reach_alloc] at h2
      simp; omega
    | some c =>
      simp only [hc, Option.getD_some, Option.elim_some, Option.isSome_some] at h1 h2 ⊢
      simp; omega

/-- `Filled h m t`: below `t` (height `h`) exactly the nodes whose index range meets `[0, m]` are
allocated.  This is what the `break` at the first NULL child in `iv_timer_free_ratnode` and
`iv_timer_radix_tree_remove_level` relies on; it holds because heap indices grow by one. -/
def Filled (bits : Nat) : Nat → Nat → Rat → Prop
  | 0, _, .leaf sl => sl.length = fan bits
  | h + 1, m, .node cs => cs.length = fan bits ∧ ∀ k, k < fan bits →
      (k < m / span bits h → ∃ c, child cs k = some c ∧ Filled bits h (span bits h - 1) c) ∧
      (k = m / span bits h → ∃ c, child cs k = some c ∧ Filled bits h (m % span bits h) c) ∧
      (m / span bits h < k → child cs k = none)
  | _, _, _ => False

theorem filled_children {bits h m : Nat} {cs : List (Option Rat)} (hf : Filled bits (h + 1) m (.node cs)) :
    (∀ k, child cs k = none → child cs (k + 1) = none) ∧
    ∀ c, some c ∈ cs → ∃ m', m' < span bits h ∧ Filled bits h m' c := by
  obtain ⟨hlen, hk⟩ := hf
  have hS := span_pos bits h
  refine ⟨fun k hn => ?_, fun c hc => ?_⟩
  · rcases Nat.lt_or_ge (k + 1) (fan bits) with h1 | h1
    · refine (hk _ h1).2.2 (Nat.lt_succ_of_le (Nat.le_of_not_lt fun hlt => ?_))
      obtain ⟨c, hc, _⟩ := (hk k (by omega)).1 hlt
      rw [hn] at hc; cases hc
    · exact child_none_of_ge (by omega)
  · obtain ⟨k, hk'⟩ := List.mem_iff_getElem?.mp hc
    have hlt : k < fan bits := by rw [← hlen]; exact (List.getElem?_eq_some_iff.mp hk').1
    have hck : child cs k = some c := by simp [child, hk']
    rcases Nat.lt_trichotomy k (m / span bits h) with h1 | h1 | h1
    · obtain ⟨c', hc', hf'⟩ := (hk k hlt).1 h1
      rw [hck] at hc'; cases hc'; exact ⟨_, by omega, hf'⟩
    · obtain ⟨c', hc', hf'⟩ := (hk k hlt).2.1 h1
      rw [hck] at hc'; cases hc'; exact ⟨_, Nat.mod_lt _ hS, hf'⟩
    · have := (hk k hlt).2.2 h1
      rw [hck] at this; cases this

theorem filled_wf (bits : Nat) : ∀ (h m : Nat) (t : Rat), Filled bits h m t → WF bits h t := by
  intro h
  induction h with
  | zero =>
    intro m t hf
    cases t with
    | node cs => simp [Filled] at hf
    | leaf sl => simpa [Filled, WF] using hf
  | succ h ih =>
    intro m t hf
    cases t with
    | leaf sl => simp [Filled] at hf
    | node cs =>
      refine ⟨hf.1, fun c hc => ?_⟩
      obtain ⟨m', _, hf'⟩ := (filled_children hf).2 c hc
      exact ih _ _ hf'

theorem filled_spine (bits : Nat) : ∀ (h m : Nat) (t : Rat), Filled bits h m t → Spine h t := by
  intro h
  induction h with
  | zero => intro m t _; trivial
  | succ h ih =>
    intro m t hf
    cases t with
    | leaf sl => simp [Filled] at hf
    | node cs =>
      obtain ⟨_, hk⟩ := hf
      rcases Nat.eq_zero_or_pos (m / span bits h) with h0 | h0
      · obtain ⟨c, hc, hf'⟩ := (hk 0 (fan_pos bits)).2.1 h0.symm
        exact ⟨c, hc, ih _ _ hf'⟩
      · obtain ⟨c, hc, hf'⟩ := (hk 0 (fan_pos bits)).1 h0
        exact ⟨c, hc, ih _ _ hf'⟩


theorem filled_alloc_upd {bits : Nat} {f : List (Option Nat) → List (Option Nat)}
    (hf : ∀ sl, (f sl).length = sl.length) : ∀ (h i : Nat), i % span bits h = 0 →
    Filled bits h 0 (upd bits f h (alloc bits h) i) := by
  intro h
  induction h with
  | zero => intro i _; simp [upd, alloc, Filled, hf]
  | succ h ih =>
    intro i hi
    have hd : digit bits (h + 1) i = 0 := by rw [digit_succ, hi]; simp
    have hi' : i % span bits h = 0 := by rw [← mod_span_succ, hi]; simp
    have hfan := fan_pos bits
    simp only [alloc, upd, hd, child_replicate, Option.getD_none, Filled, List.length_set,
      List.length_replicate, Nat.zero_div, Nat.zero_mod, true_and]
    intro k hk
    refine ⟨fun h => by omega, fun h0 => ?_, fun h0 => ?_⟩
    · subst h0
      rw [child_set_self _ (by simpa using hfan)]
      exact ⟨_, rfl, ih i hi'⟩
    · rw [child_set_ne _ (by omega), child_replicate]

theorem upd_filled {bits : Nat} {f : List (Option Nat) → List (Option Nat)}
    (hf : ∀ sl, (f sl).length = sl.length) : ∀ (h m : Nat) (t : Rat) (i : Nat), Filled bits h m t → m < span bits h →
    i % span bits h ≤ m + 1 → Filled bits h (max m (i % span bits h)) (upd bits f h t i) := by
  intro h
  induction h with
  | zero =>
    intro m t i hF _ _
    cases t with
    | node cs => simp [Filled] at hF
    | leaf sl => simpa [upd, Filled, hf] using hF
  | succ h ih =>
    intro m t i hF hm hxm
    cases t with
    | leaf sl => simp [Filled] at hF
    | node cs =>
      obtain ⟨hlen, hk⟩ := hF
      have hS := span_pos bits h
      have hx : i % span bits (h + 1) < span bits (h + 1) := Nat.mod_lt _ (span_pos ..)
      have hiS : i % span bits h = i % span bits (h + 1) % span bits h := (mod_span_succ ..).symm
      have hdig : digit bits (h + 1) i = i % span bits (h + 1) / span bits h := digit_succ ..
      have hdlt : digit bits (h + 1) i < cs.length := by rw [hlen]; exact digit_lt ..
      simp only [upd, Filled, List.length_set]
      refine ⟨hlen, ?_⟩
      rw [span_succ] at hm hx
      generalize i % span bits (h + 1) = x at *
      generalize hSdef : span bits h = S at *
      generalize digit bits (h + 1) i = d at *
      subst hdig
      have ex := Nat.div_add_mod x S
      have em := Nat.div_add_mod m S
      have lx := Nat.mod_lt x hS
      have lm := Nat.mod_lt m hS
      rcases Nat.lt_trichotomy (x / S) (m / S) with hc | hc | hc
      · -- into a full child
        have h1 : S * (x / S + 1) ≤ S * (m / S) := Nat.mul_le_mul_left S hc
        rw [Nat.mul_add] at h1
        have hmax : max m x = m := Nat.max_eq_left (by omega)
        rw [hmax]
        intro k hkf
        by_cases hkd : k = x / S
        · subst hkd
          obtain ⟨c, hcc, hfc⟩ := (hk _ hkf).1 hc
          refine ⟨fun _ => ?_, fun h0 => by omega, fun h0 => by omega⟩
          rw [child_set_self _ hdlt, hcc]
          refine ⟨_, rfl, ?_⟩
          have := ih (S - 1) c i hfc (by omega) (by omega)
          rwa [Nat.max_eq_left (by omega)] at this
        · rw [child_set_ne _ (fun h => hkd h.symm)]; exact hk k hkf
      · -- into the child holding the high-water mark
        have hq : max m x / S = m / S := by
          rw [Nat.max_def]; split
          · exact hc
          · rfl
        rw [hc] at ex
        have hr : max m x % S = max (m % S) (x % S) := by
          rcases Nat.le_total m x with h | h
          · rw [Nat.max_eq_right h, Nat.max_eq_right (by omega)]
          · rw [Nat.max_eq_left h, Nat.max_eq_left (by omega)]
        rw [hq, hr]
        intro k hkf
        by_cases hkd : k = x / S
        · subst hkd
          obtain ⟨c, hcc, hfc⟩ := (hk _ hkf).2.1 hc
          refine ⟨fun h0 => by omega, fun _ => ?_, fun h0 => by omega⟩
          rw [child_set_self _ hdlt, hcc]
          refine ⟨_, rfl, ?_⟩
          have := ih (m % S) c i hfc lm (by omega)
          rwa [hiS] at this
        · rw [child_set_ne _ (fun h => hkd h.symm)]
          exact ⟨(hk k hkf).1, fun h0 => by omega, (hk k hkf).2.2⟩
      · -- one past the high-water mark, into a NULL child
        have h1 : S * (m / S + 1) ≤ S * (x / S) := Nat.mul_le_mul_left S hc
        rw [Nat.mul_add] at h1
        have h2 : S * (x / S) = S * (m / S + 1) := by rw [Nat.mul_add]; omega
        have hd1 : x / S = m / S + 1 := Nat.eq_of_mul_eq_mul_left hS h2
        have hx0 : x % S = 0 := by omega
        have hmS : m % S = S - 1 := by omega
        have hmax : max m x = x := Nat.max_eq_right (by omega)
        rw [hmax, hx0]
        intro k hkf
        by_cases hkd : k = x / S
        · subst hkd
          have hnone := (hk _ hkf).2.2 hc
          refine ⟨fun h0 => by omega, fun _ => ?_, fun h0 => by omega⟩
          rw [child_set_self _ hdlt, hnone]
          exact ⟨_, rfl, filled_alloc_upd hf h i (by rw [hSdef]; omega)⟩
        · rw [child_set_ne _ (fun h => hkd h.symm)]
          refine ⟨fun h0 => ?_, fun h0 => by omega, fun h0 => (hk k hkf).2.2 (by omega)⟩
          rcases Nat.lt_or_ge k (m / S) with h3 | h3
          · exact (hk k hkf).1 h3
          · have := (hk k hkf).2.1 (by omega)
            rwa [hmS] at this


theorem sumChildren_all_none (f : Rat → Nat) : ∀ (cs : List (Option Rat)), (∀ x, x ∈ cs → x = none) →
    sumChildren f cs = 0 := by
  intro cs
  induction cs with
  | nil => intro _; rfl
  | cons y cs ih =>
    intro h
    have hy : y = none := h y (by simp)
    subst hy
    simpa [sumChildren] using ih (fun x hx => h x (by simp [hx]))

/-- on a child array whose allocated children are a prefix the C's `break`-at-NULL loop visits every child -/
theorem freeLoop_eq_sum (f g : Rat → Nat) : ∀ (cs : List (Option Rat)),
    (∀ k, child cs k = none → child cs (k + 1) = none) → (∀ c, some c ∈ cs → f c = g c) →
    freeLoop f cs = sumChildren g cs := by
  intro cs
  induction cs with
  | nil => intro _ _; rfl
  | cons y cs ih =>
    intro hmono hfg
    have hmono' : ∀ k, child cs k = none → child cs (k + 1) = none := fun k hk => by
      rw [← child_cons_succ y] at hk ⊢; exact hmono _ hk
    cases y with
    | some c =>
      simp only [freeLoop, sumChildren, hfg c (by simp), ih hmono' (fun c hc => hfg c (by simp [hc]))]
    | none =>
      have hall : ∀ k, child cs k = none := fun k => by
        induction k with
        | zero => rw [← child_cons_succ none]; exact hmono 0 rfl
        | succ k ihk => exact hmono' k ihk
      simp only [freeLoop, sumChildren]
      refine (sumChildren_all_none g cs fun x hx => ?_).symm
      obtain ⟨k, hk⟩ := List.mem_iff_getElem?.mp hx
      cases x with
      | none => rfl
      | some c => have := hall k; simp [child, hk] at this

theorem free_eq_reach (bits : Nat) : ∀ (h m : Nat) (t : Rat), m < span bits h → Filled bits h m t →
    freeNode h t = reach h t := by
  intro h
  induction h with
  | zero => intro m t _ _; rfl
  | succ h ih =>
    intro m t hm hf
    cases t with
    | leaf sl => simp [Filled] at hf
    | node cs =>
      simp only [freeNode, reach]
      obtain ⟨h1, h2⟩ := filled_children hf
      rw [freeLoop_eq_sum (freeNode h) (reach h) cs h1 fun c hc => let ⟨m', hm', hc'⟩ := h2 c hc; ih m' c hm' hc']
      omega


structure Dense (bits : Nat) (s : RatState) (m : Nat) : Prop where
  lt     : m < span bits s.depth
  filled : Filled bits s.depth m s.root

/-- the ledger: `allocated` counts every reachable node except the embedded first leaf -/
def Ledger (s : RatState) : Prop := s.allocated + 1 = reach s.depth s.root

theorem Dense.shape {bits : Nat} {s : RatState} {m : Nat} (h : Dense bits s m) : Shape bits s :=
  ⟨filled_wf _ _ _ _ h.filled, filled_spine _ _ _ _ h.filled⟩

theorem init_dense (bits : Nat) : Dense bits (RatState.init bits) 0 :=
  ⟨span_pos .., by simp [RatState.init, alloc, Filled]⟩

theorem init_ledger (bits : Nat) : Ledger (RatState.init bits) := rfl

theorem growRoot_dense {bits : Nat} {s : RatState} {m : Nat} (i : Nat) (h : Dense bits s m) :
    Dense bits (growRoot bits s i) m := by
  simp only [growRoot, grow_test, decide_eq_true_eq]
  split
  · refine ⟨Nat.lt_of_lt_of_le h.lt (span_le_succ ..), ?_⟩
    have hf := fan_pos bits
    simp only [Filled, List.length_cons, List.length_replicate, Nat.div_eq_of_lt h.lt, Nat.mod_eq_of_lt h.lt]
    refine ⟨by omega, fun k hk => ⟨fun h0 => by omega, fun h0 => ?_, fun h0 => ?_⟩⟩
    · subst h0; exact ⟨s.root, by simp [child], h.filled⟩
    · obtain ⟨k', rfl⟩ := Nat.exists_eq_succ_of_ne_zero (Nat.ne_of_gt h0)
      exact (child_cons_succ ..).trans (child_replicate ..)
  · exact h

theorem growRoot_ledger {bits : Nat} {s : RatState} (i : Nat) (h : Ledger s) : Ledger (growRoot bits s i) := by
  simp only [growRoot]
  split
  · simp only [Ledger, reach, sumChildren, sumChildren_replicate] at h ⊢; omega
  · exact h

/-- **(e)**, density: `iv_timer_get_node` at an index at most one past the high-water mark, with or without
a write through the pointer, keeps the tree dense (the only way the C calls it: `index ≤ num_timers`, and
`num_timers` grows by one). -/
theorem after_dense {bits : Nat} {f : List (Option Nat) → List (Option Nat)} (hf : ∀ sl, (f sl).length = sl.length)
    {s : RatState} {m : Nat} (i : Nat) (h : Dense bits s m) (him : i ≤ m + 1) (hi : i < span bits (s.depth + 1)) :
    Dense bits (after bits f s i) (max m i) := by
  have hg := growRoot_dense i h
  have hlt := growRoot_lt hi
  refine ⟨?_, ?_⟩
  · have := hg.lt
    simp only [after]
    rw [Nat.max_def]; split <;> assumption
  · have := upd_filled hf _ m _ i hg.filled hg.lt (by rw [Nat.mod_eq_of_lt hlt]; exact him)
    rwa [Nat.mod_eq_of_lt hlt] at this

/-- **(e)**, ledger: growth and lazy allocation count exactly the nodes they make reachable. -/
theorem after_ledger {bits : Nat} {f : List (Option Nat) → List (Option Nat)} {s : RatState} (i : Nat)
    (hs : Shape bits s) (h : Ledger s) : Ledger (after bits f s i) := by
  have hl := growRoot_ledger (bits := bits) i h
  simp only [Ledger, after] at hl ⊢
  rw [upd_reach _ _ _ (growRoot_shape i hs).wf]; omega

theorem getNode_dense {bits : Nat} {s : RatState} {m : Nat} (i : Nat) (h : Dense bits s m)
    (him : i ≤ m + 1) (hi : i < span bits (s.depth + 1)) : Dense bits (getNode bits s i).1 (max m i) :=
  getNode_eq i h.shape ▸ after_dense (fun _ => rfl) i h him hi

theorem getNode_ledger {bits : Nat} {s : RatState} (i : Nat) (hs : Shape bits s) (h : Ledger s) :
    Ledger (getNode bits s i).1 :=
  getNode_eq i hs ▸ after_ledger i hs h

theorem store_dense {bits : Nat} {s : RatState} {m : Nat} (i : Nat) (v : Option Nat) (h : Dense bits s m)
    (him : i ≤ m + 1) (hi : i < span bits (s.depth + 1)) : Dense bits (store bits s i v) (max m i) :=
  store_eq i v h.shape ▸ after_dense (fun _ => List.length_set ..) i h him hi

theorem store_ledger {bits : Nat} {s : RatState} (i : Nat) (v : Option Nat) (hs : Shape bits s) (h : Ledger s) :
    Ledger (store bits s i v) :=
  store_eq i v hs ▸ after_ledger i hs h

/-- the nodes `iv_timer_radix_tree_remove_level` discards: the old root and everything reachable
from its `child[1..]` -/
def discarded (s : RatState) : Nat :=
  match s.depth, s.root with
  | d + 1, .node (_ :: rest) => 1 + sumChildren (reach d) rest
  | _, _ => 0

theorem reach_pos (h : Nat) (t : Rat) : 0 < reach h t := by
  cases h with
  | zero => simp [reach]
  | succ h => cases t <;> simp [reach] <;> omega

/-- **(c)**, ledger: on a dense tree `iv_timer_radix_tree_remove_level` frees exactly the discarded
nodes (no more, no fewer), the ledger stays exact and the tree stays dense. -/
theorem removeLevel_ledger {bits : Nat} {s : RatState} {m : Nat} (h : Dense bits s m) (hl : Ledger s)
    (hd : 0 < s.depth) :
    removeLevelFreed s = discarded s ∧
    s.allocated = (removeLevel s).allocated + discarded s ∧
    Ledger (removeLevel s) ∧
    Dense bits (removeLevel s) (min m (span bits (s.depth - 1) - 1)) := by
  obtain ⟨d, c0, rest, al, rfl, _⟩ := spine_root h.shape.spine hd
  obtain ⟨hm, hf⟩ := h
  simp only at hm hf
  obtain ⟨h1, h2⟩ := filled_children hf
  have hfree : freeLoop (freeNode d) rest = sumChildren (reach d) rest :=
    freeLoop_eq_sum _ _ _ (fun k hk => by rw [← child_cons_succ (some c0)] at hk ⊢; exact h1 _ hk)
      fun c hc => let ⟨m', hm', hc'⟩ := h2 c (by simp [hc]); free_eq_reach bits d m' c hm' hc'
  have hS := span_pos bits d
  have hr := reach_pos d c0
  simp only [Ledger, reach, sumChildren] at hl
  simp only [removeLevelFreed, discarded, removeLevel, hfree, Ledger, Nat.add_sub_cancel]
  refine ⟨by omega, by omega, by omega, ?_, ?_⟩
  · show min m (span bits d - 1) < span bits d
    rw [Nat.min_def]; split <;> omega
  · show Filled bits d (min m (span bits d - 1)) c0
    obtain ⟨_, hk⟩ := hf
    rcases Nat.lt_or_ge m (span bits d) with h1 | h1
    · obtain ⟨c, hc, hfc⟩ := (hk 0 (fan_pos bits)).2.1 (Nat.div_eq_of_lt h1).symm
      cases hc
      rw [Nat.mod_eq_of_lt h1] at hfc
      rwa [Nat.min_eq_left (by omega)]
    · obtain ⟨c, hc, hfc⟩ := (hk 0 (fan_pos bits)).1 (Nat.div_pos h1 hS)
      cases hc
      rwa [Nat.min_eq_right (by omega)]

theorem removeLevel_depth {bits : Nat} {s : RatState} (hs : Shape bits s) (hd : 0 < s.depth) :
    (removeLevel s).depth = s.depth - 1 := (removeLevel_flat hs hd).2.1

/-- **(e)** `iv_timer_deinit` frees every malloc'ed node: nothing stays allocated. -/
theorem freeAll_allocated {bits : Nat} {s : RatState} {m : Nat} (h : Dense bits s m) (hl : Ledger s) :
    (freeAll s).allocated = 0 ∧ (freeAll s).depth = 0 := by
  unfold freeAll
  generalize hn : s.depth = n
  induction n generalizing s m with
  | zero =>
    simp only [freeAllN]
    simp only [Ledger, hn, reach] at hl
    exact ⟨by omega, hn⟩
  | succ n ih =>
    simp only [freeAllN, hn, Nat.add_one_ne_zero, if_false]
    obtain ⟨_, _, hl', hd'⟩ := removeLevel_ledger h hl (by omega)
    exact ih hd' hl' (by rw [removeLevel_depth h.shape (by omega), hn]; rfl)


/-- `p + 1` -/
def bump : Ptr → Ptr
  | [] => []
  | [d] => [d + 1]
  | d :: e :: p => d :: bump (e :: p)

theorem succ_div_fan {bits i : Nat} (h : i % fan bits + 1 < fan bits) :
    (i + 1) / fan bits = i / fan bits ∧ (i + 1) % fan bits = i % fan bits + 1 := by
  have hf := fan_pos bits
  constructor
  · rw [Nat.add_div hf, Nat.div_eq_of_lt (show 1 < fan bits by omega),
      Nat.mod_eq_of_lt (show 1 < fan bits by omega), if_neg (by omega)]
    rfl
  · rw [Nat.add_mod, Nat.mod_eq_of_lt (show 1 < fan bits by omega), Nat.mod_eq_of_lt h]

theorem digit_succ_index {bits i : Nat} (k : Nat) (h : i % fan bits + 1 < fan bits) :
    digit bits (k + 1) (i + 1) = digit bits (k + 1) i := by
  rw [digit_eq, digit_eq]
  have : 2 ^ ((k + 1) * bits) = fan bits * 2 ^ (k * bits) := by
    rw [fan, ← Nat.pow_add]; congr 1; rw [Nat.add_mul]; omega
  rw [this, ← Nat.div_div_eq_div_mul, ← Nat.div_div_eq_div_mul, (succ_div_fan h).1]

theorem descend_ptr_length (bits : Nat) : ∀ (h : Nat) (t : Rat) (i : Nat), WF bits h t →
    (descend bits h t i).ptr.length = h + 1 := by
  intro h t i hw
  induction h, t, hw using wf_induct with
  | leaf sl hw => simp [descend]
  | node h cs hw hd ih => simp [descend, ih _]

theorem descend_bump (bits : Nat) : ∀ (h : Nat) (t : Rat) (i : Nat), WF bits h t →
    i % fan bits + 1 < fan bits →
    readPath (bump (descend bits h t i).ptr) (descend bits h t i).tree = some (lookup bits h t (i + 1)) := by
  intro h t i hw hi
  induction h, t, hw using wf_induct with
  | leaf sl hw =>
    simp only [WF] at hw
    have h0 : digit bits 0 i = i % fan bits := by rw [digit_zero, span_zero]
    have h1 : digit bits 0 (i + 1) = i % fan bits + 1 := by rw [digit_zero, span_zero, (succ_div_fan hi).2]
    simp [descend, bump, readPath, lookup, h0, h1, show i % fan bits + 1 < sl.length by omega]
  | node h cs hw hd ih =>
    have hlen := descend_ptr_length bits h _ i (wf_getD hw (digit bits (h + 1) i))
    rw [lookup_node_eq, digit_succ_index h hi, ← ih _]
    simp only [descend]
    generalize (descend bits h ((child cs (digit bits (h + 1) i)).getD (alloc bits h)) i) = w at *
    match hp : w.ptr with
    | [] => simp [hp] at hlen
    | e :: q => simp only [bump, readPath, child_set_self _ (hd i)]

/-- `push_down` reads the right child as `p[1]`, where `p = iv_timer_get_node(st, 2*index)`: the
pointer next to the one returned for an index that is not the last of its leaf is the slot of the
next index. -/
theorem sibling_spec {bits : Nat} {s : RatState} (i : Nat) (hs : Shape bits s) (hi : i < span bits (s.depth + 1))
    (hl : i % fan bits + 1 < fan bits) :
    readSlot (getNode bits s i).1 (bump (getNode bits s i).2) = some (flat bits s (i + 1)) := by
  have hg := growRoot_shape i hs
  have hlt := growRoot_lt hi
  have hlt' : i + 1 < span bits (growRoot bits s i).depth := by
    generalize (growRoot bits s i).depth = d at hlt
    have hsp : span bits d = fan bits * 2 ^ (d * bits) := by
      rw [span, fan, ← Nat.pow_add]; congr 1; rw [Nat.add_mul]; omega
    rw [hsp] at hlt ⊢
    have hq : i / fan bits < 2 ^ (d * bits) := Nat.div_lt_of_lt_mul hlt
    have := Nat.div_add_mod i (fan bits)
    have h2 : fan bits * (i / fan bits + 1) ≤ fan bits * 2 ^ (d * bits) := Nat.mul_le_mul_left _ hq
    rw [Nat.mul_add] at h2
    omega
  simp only [readSlot, getNode]
  rw [descend_bump _ _ _ _ hg.wf hl, ← growRoot_flat s i (i + 1), flat_of_lt hlt']

/-- an even index (the left child `2*index` of a heap node) meets the condition of `sibling_spec` when `bits ≥ 1` -/
theorem even_not_last {bits : Nat} (hb : 1 ≤ bits) (k : Nat) : (2 * k) % fan bits + 1 < fan bits := by
  obtain ⟨b, rfl⟩ : ∃ b, bits = b + 1 := ⟨bits - 1, by omega⟩
  have : fan (b + 1) = 2 * 2 ^ b := by rw [fan, Nat.pow_succ, Nat.mul_comm]
  rw [this, Nat.mul_mod_mul_left]
  have := Nat.mod_lt k (Nat.pow_pos (n := b) (show 0 < 2 by omega))
  omega


/-- the part of `Ivy.Heap.Store` that stands for the radix tree: the slot array and `rat_depth` -/
structure Arr where
  slot  : Array (Option Nat)
  depth : Nat

/-- `Ivy.Heap.grow` on the tree part, for an arbitrary `bits` (the refinement is proved for every `bits`,
`Ivy.Heap.grow` is fixed to the generated one; `ofStore_grow`) -/
def Arr.grow (bits : Nat) (a : Arr) (index : Nat) : Arr :=
  if index >>> ((a.depth + 1) * bits) != 0 then
    { depth := a.depth + 1,
      slot := a.slot ++ Array.replicate (span bits (a.depth + 1) - span bits a.depth) none }
  else a

def Arr.set (a : Arr) (i : Nat) (v : Option Nat) : Arr := { a with slot := a.slot.setIfInBounds i v }

/-- `Ivy.Heap.removeLevel` on the tree part, likewise (`ofStore_removeLevel`) -/
def Arr.removeLevel (bits : Nat) (a : Arr) : Arr :=
  { depth := a.depth - 1, slot := a.slot.extract 0 (span bits (a.depth - 1)) }

def Arr.ofStore (s : Ivy.Heap.Store) : Arr := ⟨s.slot, s.depth⟩

/-- the slot operations of the heap model -/
inductive SlotOp where
  | grow (index : Nat)               -- `Heap.grow`: the growth test of `iv_timer_get_node`
  | get (i : Nat)                    -- `Heap.getSlot`: read `*iv_timer_get_node(i)`
  | set (i : Nat) (v : Option Nat)   -- `slot.setIfInBounds i v`: `*iv_timer_get_node(i) = v`
  | removeLevel                      -- `Heap.removeLevel`

abbrev Obs := List (Option (Option Nat))

/-- one slot operation on the flat array; the observation is what a `get` reads -/
def stepA (bits : Nat) (a : Arr) : SlotOp → Arr × Obs
  | .grow i => (a.grow bits i, [])
  | .get i => (a, [a.slot[i]?])
  | .set i v => (a.set i v, [])
  | .removeLevel => (a.removeLevel bits, [])

/-- the same operation on the radix tree, by the model of the C functions -/
def stepR (bits : Nat) (r : RatState) : SlotOp → RatState × Obs
  | .grow i => ((getNode bits r i).1, [])
  | .get i => ((load bits r i).1, [(load bits r i).2])
  | .set i v => (store bits r i v, [])
  | .removeLevel => (Ivy.Rat.removeLevel r, [])

/-- how `Ivy.Heap.register` / `removeAt` use the operations: growth by at most one level, accesses
within the capacity, shrinking only when the upper part of the array is all NULL -/
def Legal (bits : Nat) (a : Arr) : SlotOp → Prop
  | .grow i => i < span bits (a.depth + 1)
  | .get i => i < span bits a.depth
  | .set i _ => i < span bits a.depth
  | .removeLevel => 0 < a.depth ∧
      ∀ j, j < a.slot.size → span bits (a.depth - 1) ≤ j → a.slot[j]? = some none

def runA (bits : Nat) : Arr → List SlotOp → Arr × Obs
  | a, [] => (a, [])
  | a, op :: ops => ((runA bits (stepA bits a op).1 ops).1, (stepA bits a op).2 ++ (runA bits (stepA bits a op).1 ops).2)

def runR (bits : Nat) : RatState → List SlotOp → RatState × Obs
  | r, [] => (r, [])
  | r, op :: ops => ((runR bits (stepR bits r op).1 ops).1, (stepR bits r op).2 ++ (runR bits (stepR bits r op).1 ops).2)

def LegalRun (bits : Nat) : Arr → List SlotOp → Prop
  | _, [] => True
  | a, op :: ops => Legal bits a op ∧ LegalRun bits (stepA bits a op).1 ops

instance (bits : Nat) (a : Arr) (op : SlotOp) : Decidable (Legal bits a op) := by
  cases op <;> simp only [Legal] <;> infer_instance

instance (bits : Nat) : ∀ (ops : List SlotOp) (a : Arr), Decidable (LegalRun bits a ops)
  | [], _ => isTrue trivial
  | op :: ops, a =>
    have := instDecidableLegalRun bits ops (stepA bits a op).1
    by simp only [LegalRun]; infer_instance

structure Sim (bits : Nat) (a : Arr) (r : RatState) : Prop where
  shape : Shape bits r
  depth : r.depth = a.depth
  size  : a.slot.size = span bits a.depth
  slots : ∀ i, flat bits r i = a.slot[i]?.join

theorem init_sim (bits : Nat) : Sim bits ⟨Array.replicate (span bits 0) none, 0⟩ (RatState.init bits) := by
  refine ⟨init_shape bits, rfl, by simp, fun i => ?_⟩
  rw [init_flat]
  simp only [Array.getElem?_replicate]
  split <;> rfl

theorem step_sim {bits : Nat} {a : Arr} {r : RatState} (op : SlotOp) (h : Sim bits a r) (hl : Legal bits a op) :
    Sim bits (stepA bits a op).1 (stepR bits r op).1 ∧ (stepA bits a op).2 = (stepR bits r op).2 := by
  obtain ⟨hs, hd, hsz, hf⟩ := h
  cases op with
  | grow i =>
    simp only [Legal] at hl
    rw [← hd] at hl
    obtain ⟨hs', hd', _, _, hf'⟩ := getNode_spec i hs hl
    refine ⟨⟨hs', ?_, ?_, fun j => ?_⟩, rfl⟩
    · simp only [stepA, stepR, Arr.grow, grow_test, decide_eq_true_eq, hd', hd]
      split <;> rfl
    · have := span_le_succ bits a.depth
      simp only [stepA, Arr.grow, grow_test, decide_eq_true_eq]
      split
      · simp only [Array.size_append, Array.size_replicate]; omega
      · exact hsz
    · simp only [stepA, stepR, hf', hf, Arr.grow, grow_test, decide_eq_true_eq]
      split
      · by_cases hj : j < a.slot.size
        · rw [Array.getElem?_append_left hj]
        · rw [Array.getElem?_append_right (by omega), Array.getElem?_replicate,
            Array.getElem?_eq_none (by omega)]
          split <;> rfl
      · rfl
  | get i =>
    simp only [Legal] at hl
    have hl' : i < span bits (r.depth + 1) := by
      rw [hd]; exact Nat.lt_of_lt_of_le hl (span_le_succ ..)
    obtain ⟨hs', hd', _, hrd, hf'⟩ := getNode_spec i hs hl'
    rw [if_neg (by rw [hd]; exact Nat.not_le_of_lt hl)] at hd'
    refine ⟨⟨hs', hd'.trans hd, hsz, fun j => (hf' j).trans (hf j)⟩, ?_⟩
    simp only [stepA, stepR, load, hrd, hf]
    rw [Array.getElem?_eq_getElem (by omega)]; rfl
  | set i v =>
    simp only [Legal] at hl
    obtain ⟨hd', hf'⟩ := store_flat i v hs (by rw [hd]; exact hl)
    have hn := (store_spec i v hs (by rw [hd]; exact Nat.lt_of_lt_of_le hl (span_le_succ ..))).1
    refine ⟨⟨hn, hd'.trans hd, by simpa [stepA, Arr.set] using hsz, fun j => ?_⟩, rfl⟩
    simp only [stepA, stepR, hf', hf, Arr.set, Array.getElem?_setIfInBounds]
    by_cases hji : j = i
    · subst hji; simp [show j < a.slot.size by omega]
    · have hij : ¬ i = j := fun h => hji h.symm
      simp [hji, hij]
  | removeLevel =>
    obtain ⟨hpos, hnull⟩ := hl
    have hnull' : ∀ j, span bits (r.depth - 1) ≤ j → flat bits r j = none := by
      intro j hj
      rw [hf]
      by_cases hjs : j < a.slot.size
      · rw [hnull j hjs (by rw [← hd]; exact hj)]; rfl
      · rw [Array.getElem?_eq_none (by omega)]; rfl
    obtain ⟨hs', hd', hf'⟩ := removeLevel_flat hs (by omega)
    replace hf' := hf' hnull'
    have hle := span_le_succ bits (a.depth - 1)
    rw [show a.depth - 1 + 1 = a.depth by omega] at hle
    refine ⟨⟨hs', by simp [stepA, stepR, Arr.removeLevel, hd', hd], ?_, fun j => ?_⟩, rfl⟩
    · simp only [stepA, Arr.removeLevel, Array.size_extract]; omega
    · simp only [stepA, stepR, hf', hf, Arr.removeLevel, Array.getElem?_extract]
      by_cases hj : j < span bits (a.depth - 1)
      · rw [if_pos (by omega)]; simp
      · rw [if_neg (by omega)]
        by_cases hjs : j < a.slot.size
        · rw [hnull j hjs (by omega)]; rfl
        · rw [Array.getElem?_eq_none (by omega)]

/-- **(d)** any sequence of the heap model's slot operations, used as
`Ivy.Heap.register` / `removeAt` use them (`Legal`), run on the radix tree by the models of
`iv_timer_get_node` / `iv_timer_radix_tree_remove_level`, reads exactly what the flat array reads,
and ends in a tree that still denotes the array. -/
theorem rat_refines_array (bits : Nat) : ∀ (ops : List SlotOp) (a : Arr) (r : RatState), Sim bits a r →
    LegalRun bits a ops →
    Sim bits (runA bits a ops).1 (runR bits r ops).1 ∧ (runA bits a ops).2 = (runR bits r ops).2 := by
  intro ops
  induction ops with
  | nil => intro a r h _; exact ⟨h, rfl⟩
  | cons op ops ih =>
    intro a r h hl
    obtain ⟨h1, o1⟩ := step_sim op h hl.1
    obtain ⟨h2, o2⟩ := ih _ _ h1 hl.2
    exact ⟨h2, by simp only [runA, runR, o1, o2]⟩


inductive Steps (bits : Nat) : Arr → Arr → Prop where
  | refl (a : Arr) : Steps bits a a
  | step {a c : Arr} (op : SlotOp) : Legal bits a op → Steps bits (stepA bits a op).1 c → Steps bits a c

theorem Steps.trans {bits : Nat} {a b c : Arr} (h1 : Steps bits a b) (h2 : Steps bits b c) : Steps bits a c := by
  induction h1 with
  | refl => exact h2
  | step op hl _ ih => exact .step op hl (ih h2)

theorem Steps.one {bits : Nat} {a : Arr} (op : SlotOp) (hl : Legal bits a op) : Steps bits a (stepA bits a op).1 :=
  .step op hl (.refl _)

theorem Steps.exists_ops {bits : Nat} {a c : Arr} (h : Steps bits a c) :
    ∃ ops, LegalRun bits a ops ∧ (runA bits a ops).1 = c := by
  induction h with
  | refl a => exact ⟨[], trivial, rfl⟩
  | step op hl _ ih =>
    obtain ⟨ops, h1, h2⟩ := ih
    exact ⟨op :: ops, ⟨hl, h1⟩, h2⟩

theorem Steps.sim {bits : Nat} {a c : Arr} {r : RatState} (h : Steps bits a c) (hs : Sim bits a r) :
    ∃ ops, LegalRun bits a ops ∧ (runA bits a ops).1 = c ∧ Sim bits c (runR bits r ops).1 ∧
      (runA bits a ops).2 = (runR bits r ops).2 := by
  obtain ⟨ops, h1, h2⟩ := h.exists_ops
  obtain ⟨h3, h4⟩ := rat_refines_array bits ops a r hs h1
  exact ⟨ops, h1, h2, h2 ▸ h3, h4⟩

open Ivy.Heap in
theorem ofStore_grow (s : Store) (i : Nat) :
    Arr.ofStore (Heap.grow s i) = Arr.grow Heap.bits (Arr.ofStore s) i := by
  by_cases h : (i >>> ((s.depth + 1) * Heap.bits) != 0) = true
  · rw [Heap.grow, Arr.grow, if_pos h, if_pos (by exact h)]; rfl
  · rw [Heap.grow, Arr.grow, if_neg h, if_neg (by exact h)]

theorem ofStore_removeLevel (s : Heap.Store) :
    Arr.ofStore (Heap.removeLevel s) = Arr.removeLevel Heap.bits (Arr.ofStore s) := rfl

theorem ofStore_swap (s : Heap.Store) (i j a b : Nat) :
    Arr.ofStore (Heap.swapSlots s i j a b) = ((Arr.ofStore s).set i (some b)).set j (some a) := rfl

theorem getSlot_eq (s : Heap.Store) (i : Nat) : Heap.getSlot s i = (Arr.ofStore s).slot[i]? := rfl

/-- `HeapInv.size_eq` alone: all that the stores between two slot operations keep of `HeapInv` -/
def Sized (s : Heap.Store) : Prop := s.slot.size = Heap.cap s.depth

/-- a swap of two in-tree slots is two legal writes (after the two reads that found them) -/
theorem swap_steps {s : Heap.Store} (hsz : Sized s) {i j : Nat} (a b : Nat) (hi : i < s.slot.size)
    (hj : j < s.slot.size) :
    Steps Heap.bits (Arr.ofStore s) (Arr.ofStore (Heap.swapSlots s i j a b)) ∧ Sized (Heap.swapSlots s i j a b) := by
  refine ⟨?_, by simpa [Sized, Heap.swapSlots] using hsz⟩
  have hsz' : s.slot.size = span Heap.bits s.depth := hsz
  have hi' : i < span Heap.bits s.depth := hsz' ▸ hi
  have hj' : j < span Heap.bits s.depth := hsz' ▸ hj
  rw [ofStore_swap]
  exact .step (.get j) hj' (.step (.get i) hi' (.step (.set i (some b)) hi' (.step (.set j (some a)) hj' (.refl _))))

/-- `register` up to `pull_up` (`Heap.Proofs.placed`): `grow num` and `set num t`, with `num_timers`
already incremented -/
theorem placed_steps {s0 : Heap.Store} (t : Nat) (hsz0 : Sized s0) (hn : s0.num ≤ s0.slot.size)
    (hg : Sized (Heap.grow s0 s0.num)) (hlt : s0.num < (Heap.grow s0 s0.num).slot.size) :
    Steps Heap.bits (Arr.ofStore s0) (Arr.ofStore (Heap.Proofs.placed s0 t)) ∧ Sized (Heap.Proofs.placed s0 t) := by
  refine ⟨.step (.grow s0.num) ?_ (.step (.set s0.num (some t)) ?_ ?_), by simpa [Sized, Heap.Proofs.placed] using hg⟩
  · have := two_span_le Heap.bits s0.depth Heap.Proofs.bits_pos
    have hc : s0.slot.size = span Heap.bits s0.depth := hsz0
    have := span_pos Heap.bits s0.depth
    show s0.num < span Heap.bits (s0.depth + 1)
    omega
  · show s0.num < span Heap.bits (Arr.grow Heap.bits (Arr.ofStore s0) s0.num).depth
    rw [← ofStore_grow, ← Heap.Proofs.cap_eq_span]
    exact hg ▸ hlt
  · simp only [stepA, ← ofStore_grow, Heap.Proofs.placed]
    generalize Heap.grow s0 s0.num = g
    exact .refl _

/-- the slot part of `removeAt` up to `pull_up` (`Heap.Proofs.cut`): two reads, `*p = *m`, `*m = NULL`, and
the shrink exactly when `num_timers == 1 << (rat_depth*bits)`, at which point the upper part of the
array is all NULL (`HeapInv.tail_null` and the slot just cleared) -/
theorem cut_steps {s : Heap.Store} {i : Nat} (mt : Nat) (hinv : Heap.HeapInv s) (hi : i ≤ s.num) :
    Steps Heap.bits (Arr.ofStore s) (Arr.ofStore (Heap.Proofs.cut s i mt)) ∧ Sized (Heap.Proofs.cut s i mt) := by
  have hsz : s.slot.size = span Heap.bits s.depth := hinv.size_eq
  have hn := hinv.num_lt
  obtain ⟨_, _, _, hsize, _⟩ := Heap.Proofs.cut_spec s i mt hinv hi
  refine ⟨?_, hsize⟩
  have hi' : i < span Heap.bits s.depth := hsz ▸ Nat.lt_of_le_of_lt hi hn
  have hn' : s.num < span Heap.bits s.depth := hsz ▸ hn
  have h4 : Steps Heap.bits (Arr.ofStore s) (((Arr.ofStore s).set i (some mt)).set s.num none) :=
    .step (.get i) hi' (.step (.get s.num) hn' (.step (.set i (some mt)) hi' (.step (.set s.num none) hn' (.refl _))))
  unfold Heap.Proofs.cut
  dsimp only
  by_cases hc : s.depth > 0 ∧ s.num = 1 <<< (s.depth * Heap.bits)
  · rw [if_pos hc]
    obtain ⟨hpos, hnum⟩ := hc
    rw [one_shiftLeft_eq_span _ _ hpos] at hnum
    refine h4.trans (.step .removeLevel ⟨hpos, fun j hj2 hj1 => ?_⟩ (.refl _))
    dsimp only [Arr.set, Arr.ofStore] at hj2 hj1 ⊢
    rw [Array.size_setIfInBounds, Array.size_setIfInBounds] at hj2
    rw [← hnum] at hj1
    rw [Heap.Proofs.getElem?_set (by rw [Array.size_setIfInBounds]; exact hn),
      Heap.Proofs.getElem?_set (Nat.lt_of_le_of_lt hi hn)]
    by_cases hjn : j = s.num
    · rw [if_pos hjn]
    have hlt : s.num < j := Nat.lt_of_le_of_ne hj1 (Ne.symm hjn)
    rw [if_neg hjn, if_neg (Nat.ne_of_gt (Nat.lt_of_le_of_lt hi hlt))]
    exact hinv.tail_null j hlt hj2
  · rw [if_neg hc]
    exact h4

theorem moves_steps {s s' : Heap.Store} (h : Heap.Proofs.Moves s s') (hsz : Sized s) :
    Steps Heap.bits (Arr.ofStore s) (Arr.ofStore s') ∧ Sized s' := by
  induction h with
  | refl => exact ⟨.refl _, hsz⟩
  | swap i j a b hi hj _ ih =>
    obtain ⟨h1, h2⟩ := swap_steps hsz a b hi hj
    exact ⟨h1.trans (ih h2).1, (ih h2).2⟩
  | @place s _ t e hinv _ ih =>
    obtain ⟨g1, g2, _⟩ := Heap.Proofs.grow_spec { s with exp := s.exp.setIfInBounds t e, num := s.num + 1 }
      (s.num + 1) hinv.size_eq (hinv.size_eq ▸ hinv.num_lt) (fun hd => Nat.le_succ_of_le (hinv.shrunk hd))
    obtain ⟨h1, h2⟩ := placed_steps (s0 := { s with exp := s.exp.setIfInBounds t e, num := s.num + 1 }) t
      hinv.size_eq hinv.num_lt g1 g2
    exact ⟨h1.trans (ih h2).1, (ih h2).2⟩
  | cut i mt hinv hi _ ih =>
    obtain ⟨h1, h2⟩ := cut_steps mt hinv hi
    exact ⟨h1.trans (ih h2).1, (ih h2).2⟩
  | @fields s s1 _ e1 e2 _ ih =>
    have e : Arr.ofStore s1 = Arr.ofStore s := by rw [Arr.ofStore, e1, e2]; rfl
    have h2 : Sized s1 := by rw [Sized, e1, e2]; exact hsz
    exact ⟨e ▸ (ih h2).1, (ih h2).2⟩

theorem popExpired_slots {s s' : Heap.Store} {batch rest : List Nat} {t : Nat}
    (h : Heap.popExpired s batch = some (s', t, rest)) : Arr.ofStore s' = Arr.ofStore s := by
  cases batch with
  | nil => simp [Heap.popExpired] at h
  | cons x xs =>
    simp only [Heap.popExpired, Option.some.injEq, Prod.mk.injEq] at h
    obtain ⟨h1, _, _⟩ := h
    subst h1; rfl


theorem init_store_sim (n : Nat) : Sim Heap.bits (Arr.ofStore (Heap.Store.init n)) (RatState.init Heap.bits) :=
  init_sim Heap.bits


theorem runR_append (bits : Nat) : ∀ (a b : List SlotOp) (r : RatState),
    (runR bits r (a ++ b)).1 = (runR bits (runR bits r a).1 b).1 := by
  intro a
  induction a with
  | nil => intro b r; rfl
  | cons op a ih => intro b r; simp only [List.cons_append, runR, ih]

inductive HeapOp where
  | register (t : Nat) (e : Heap.TS)
  | unregister (t : Nat)
  | runTimers (now : Heap.TS)       -- the first loop of `iv_run_timers`

/-- the precondition of the C05 theorems: register an unregistered timer, unregister one that is on the heap -/
def HeapOp.Valid (s : Heap.Store) : HeapOp → Prop
  | .register t _ => s.idx[t]? = some (-1)
  | .unregister t => Heap.onHeap s t
  | .runTimers _ => True

def HeapOp.apply (s : Heap.Store) : HeapOp → Heap.Res
  | .register t e => Heap.register s t e
  | .unregister t => (Heap.unregister s [] t).1
  | .runTimers now => (Heap.runCollect s now).1

/-- `s'` is reached from `s` by valid client operations, all of which return `.ok` -/
inductive History : Heap.Store → Heap.Store → Prop where
  | refl (s : Heap.Store) : History s s
  | step {s s1 s' : Heap.Store} (op : HeapOp) : op.Valid s → op.apply s = .ok s1 → History s1 s' → History s s'

theorem History.trans {a b c : Heap.Store} (h1 : History a b) (h2 : History b c) : History a c := by
  induction h1 with
  | refl _ => exact h2
  | step op hv ha _ ih => exact .step op hv ha (ih h2)

/-- **(d)** at the level of the heap model: a valid client operation that succeeds keeps `HeapInv`
and touches the slot array only by a legal sequence of slot operations, which `Steps.sim` then
matches on any tree that denotes the array. -/
theorem HeapOp.steps {s s1 : Heap.Store} (op : HeapOp) (hinv : Heap.HeapInv s) (hv : op.Valid s)
    (ha : op.apply s = .ok s1) :
    Heap.HeapInv s1 ∧ Steps Heap.bits (Arr.ofStore s) (Arr.ofStore s1) := by
  suffices h : Heap.HeapInv s1 ∧ Heap.Proofs.Moves s s1 from ⟨h.1, (moves_steps h.2 hinv.size_eq).1⟩
  cases op with
  | register t e =>
    obtain ⟨s1', e1, hm, hinv1, _⟩ := Heap.Proofs.register_ok s t e hinv hv
    have ha' : Heap.register s t e = .ok s1 := ha
    rw [ha'] at e1; cases e1
    exact ⟨hinv1, hm⟩
  | unregister t =>
    obtain ⟨s1', e1, hm, hinv1, _⟩ := Heap.Proofs.unregister_ok s [] t hinv hv
    have ha' : (Heap.unregister s [] t).1 = .ok s1 := ha
    rw [e1] at ha'; cases ha'
    exact ⟨hinv1, hm⟩
  | runTimers now =>
    obtain ⟨s1', batch, e1, hm, _, hinv1, _⟩ := Heap.Proofs.collect_spec now s.num s [] hinv (Nat.le_refl _)
    have ha' : (Heap.collect s now s.num []).1 = .ok s1 := ha
    rw [e1] at ha'; cases ha'
    exact ⟨hinv1, hm⟩

/-- **(d)**, end to end: along any history of valid `register` / `unregister` / `iv_run_timers` calls on the heap model
(any population: growth, shrinking and regrowth of the tree included), running the models of the C
tree functions on a tree that denotes the initial slot array yields a tree that denotes the final
slot array. -/
theorem history_refines {s s' : Heap.Store} (hh : History s s') : ∀ {r : RatState}, Heap.HeapInv s →
    Sim Heap.bits (Arr.ofStore s) r →
    Heap.HeapInv s' ∧ ∃ ops, Sim Heap.bits (Arr.ofStore s') (runR Heap.bits r ops).1 := by
  induction hh with
  | refl s => intro r hinv hs; exact ⟨hinv, [], hs⟩
  | @step s0 s1 s2 op hv ha _ ih =>
    intro r hinv hs
    obtain ⟨hinv1, st⟩ := op.steps hinv hv ha
    obtain ⟨ops1, _, _, hs1, _⟩ := st.sim hs
    obtain ⟨hinv2, ops2, hs2⟩ := ih hinv1 hs1
    exact ⟨hinv2, ops1 ++ ops2, by rw [runR_append]; exact hs2⟩

/-- the tree calls of `iv_timer_register` / `iv_timer_unregister`, with `num_timers` -/
inductive Call where
  | register (v : Nat)                  -- `index = ++num_timers; *iv_timer_get_node(index) = t`
  | access (i : Nat) (v : Option Nat)   -- `*iv_timer_get_node(i) = v` with `i ≤ num_timers` (`*p = *m`, swaps)
  | peek (i : Nat)                      -- `iv_timer_get_node(i)` with `i ≤ num_timers`, no write
  | unregisterLast                      -- `*m = NULL`; the shrink test; `num_timers--`

structure TState where
  rat : RatState
  num : Nat

def call (bits : Nat) (s : TState) : Call → TState
  | .register v => ⟨store bits s.rat (s.num + 1) (some v), s.num + 1⟩
  | .access i v => ⟨store bits s.rat i v, s.num⟩
  | .peek i => ⟨(getNode bits s.rat i).1, s.num⟩
  | .unregisterLast =>
    let r := store bits s.rat s.num none
    ⟨if r.depth > 0 ∧ s.num = 1 <<< (r.depth * bits) then removeLevel r else r, s.num - 1⟩

def CallOk (s : TState) : Call → Prop
  | .register _ => True
  | .access i _ => i ≤ s.num
  | .peek i => i ≤ s.num
  | .unregisterLast => 1 ≤ s.num

def calls (bits : Nat) : TState → List Call → TState
  | s, [] => s
  | s, c :: cs => calls bits (call bits s c) cs

def CallsOk (bits : Nat) : TState → List Call → Prop
  | _, [] => True
  | s, c :: cs => CallOk s c ∧ CallsOk bits (call bits s c) cs

instance (s : TState) (c : Call) : Decidable (CallOk s c) := by
  cases c <;> simp only [CallOk] <;> infer_instance

instance (bits : Nat) : ∀ (cs : List Call) (s : TState), Decidable (CallsOk bits s cs)
  | [], _ => isTrue trivial
  | c :: cs, s =>
    have := instDecidableCallsOk bits cs (call bits s c)
    by simp only [CallsOk]; infer_instance

structure Track (bits : Nat) (s : TState) : Prop where
  num_lt : s.num < span bits s.rat.depth
  dense  : ∃ m, s.num ≤ m ∧ Dense bits s.rat m
  ledger : Ledger s.rat

theorem init_track (bits : Nat) : Track bits ⟨RatState.init bits, 0⟩ :=
  ⟨span_pos .., ⟨0, Nat.le_refl _, init_dense bits⟩, init_ledger bits⟩

theorem call_track {bits : Nat} (hb : 1 ≤ bits) {s : TState} (c : Call) (h : Track bits s) (hc : CallOk s c) :
    Track bits (call bits s c) := by
  obtain ⟨hn, ⟨m, hm, hd⟩, hl⟩ := h
  have h2 := two_span_le bits s.rat.depth hb
  have hS := span_pos bits s.rat.depth
  have hlt : ∀ {i}, i ≤ s.num → i < span bits s.rat.depth := fun h => Nat.lt_of_le_of_lt h hn
  have hlt' : ∀ {i}, i ≤ s.num → i < span bits (s.rat.depth + 1) := fun h =>
    Nat.lt_of_lt_of_le (hlt h) (span_le_succ ..)
  have hle : ∀ {i}, i ≤ s.num → i ≤ m := fun h => Nat.le_trans h hm
  cases c with
  | register v =>
    have hi : s.num + 1 < span bits (s.rat.depth + 1) := by omega
    obtain ⟨_, _, hlt, _, _⟩ := getNode_spec (s.num + 1) hd.shape hi
    refine ⟨?_, ⟨max m (s.num + 1), Nat.le_max_right .., store_dense _ _ hd (Nat.succ_le_succ hm) hi⟩,
      store_ledger _ _ hd.shape hl⟩
    obtain ⟨_, hdep, _⟩ := store_spec (s.num + 1) (some v) hd.shape hi
    simpa [call, hdep, getNode_depth] using hlt
  | access i v =>
    replace hc : i ≤ s.num := hc
    have hd' := store_dense i v hd (Nat.le_succ_of_le (hle hc)) (hlt' hc)
    rw [Nat.max_eq_left (hle hc)] at hd'
    refine ⟨?_, ⟨m, hm, hd'⟩, store_ledger _ _ hd.shape hl⟩
    simp only [call, (store_flat i v hd.shape (hlt hc)).1]; exact hn
  | peek i =>
    replace hc : i ≤ s.num := hc
    have hd' := getNode_dense i hd (Nat.le_succ_of_le (hle hc)) (hlt' hc)
    rw [Nat.max_eq_left (hle hc)] at hd'
    refine ⟨?_, ⟨m, hm, hd'⟩, getNode_ledger _ hd.shape hl⟩
    simp only [call, getNode_depth, if_neg (Nat.not_le_of_lt (hlt hc))]; exact hn
  | unregisterLast =>
    replace hc : 1 ≤ s.num := hc
    have hd' := store_dense s.num none hd (Nat.le_succ_of_le hm) (hlt' (Nat.le_refl _))
    rw [Nat.max_eq_left hm] at hd'
    have hl' := store_ledger (bits := bits) s.num none hd.shape hl
    have hdep := (store_flat s.num none hd.shape hn).1
    simp only [call]
    split
    · rename_i hsh
      obtain ⟨hpos, hnum⟩ := hsh
      rw [one_shiftLeft_eq_span _ _ hpos] at hnum
      obtain ⟨_, _, hl'', hd''⟩ := removeLevel_ledger hd' hl' hpos
      have hdd := removeLevel_depth hd'.shape hpos
      have hS' := span_pos bits ((store bits s.rat s.num none).depth - 1)
      rw [Nat.min_eq_right (by omega)] at hd''
      exact ⟨by simp only [hdd]; omega, ⟨_, by simp only; omega, hd''⟩, hl''⟩
    · exact ⟨by simp only [hdep]; omega, ⟨m, by simp only; omega, hd'⟩, hl'⟩

theorem calls_track {bits : Nat} (hb : 1 ≤ bits) : ∀ (cs : List Call) (s : TState), Track bits s →
    CallsOk bits s cs → Track bits (calls bits s cs) := by
  intro cs
  induction cs with
  | nil => intro s h _; exact h
  | cons c cs ih => intro s h hc; exact ih _ (call_track hb c h hc.1) hc.2


end Ivy.Rat.Proofs
