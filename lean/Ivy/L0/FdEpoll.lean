/-!
# Registration bookkeeping of the epoll back end (`/repo/src/iv_fd_epoll.c`) and the way
`/repo/src/iv_fd.c` drives it

Executable model, statement by statement.  Nothing here is proved; the theorems are in
`Ivy/L0/FdEpollProofs.lean` (helpers) and `Ivy/Props/C15epoll.lean` (properties).

* An `iv_fd` object is identified by a small number `o` (its address in C).  `Obj` holds the fields
  the epoll code reads or writes: `fd` (the descriptor number), the three handler pointers (only
  NULL / non-NULL matters), `registered` (the flag of iv_fd.c, here `reg`), `wanted_bands`,
  `registered_bands` and whether `list_notify` is linked in a list (`queued` =
  `!iv_list_empty(&fd->list_notify)`).
* `notify` is `st->u.epoll.notify`, in queue order.
* `kernel` is the interest list of the epoll instance: descriptor number ↦ `(events, data.ptr)`.
  `kernelCtl` is the ASSUMED semantics of epoll_ctl(2): ADD fails with EEXIST when the descriptor
  is present, MOD / DEL fail with ENOENT when it is absent, every op fails with EBADF when the
  descriptor is closed.  `closed` is the environment's set of closed descriptor numbers: an input.
* `live` is ghost state: the objects whose `reg` flag is set (so that "descriptor number already
  used by a registered object" is decidable).  No C statement corresponds to it.
* `fatal` records that `iv_fatal` was reached in `iv_fd_epoll_flush_one`.
-/
namespace Ivy.L0.FdEpoll

abbrev MASKIN : Nat := 1
abbrev MASKOUT : Nat := 2
abbrev MASKERR : Nat := 4
abbrev EPOLLIN : Nat := 1
abbrev EPOLLOUT : Nat := 4
abbrev EPOLLERR : Nat := 8
abbrev EPOLLHUP : Nat := 16
abbrev ENOENT : Nat := 2
abbrev EBADF : Nat := 9
abbrev EEXIST : Nat := 17

structure Obj where
  fd : Nat := 0
  hin : Bool := false
  hout : Bool := false
  herr : Bool := false
  reg : Bool := false
  wanted : Nat := 0
  registered : Nat := 0
  queued : Bool := false
deriving DecidableEq, Repr

inductive CtlOp | add | mod | del
deriving DecidableEq, Repr

/-- one epoll_ctl call: `err = 0` is return value 0, otherwise return value -1 with that errno -/
structure Ctl where
  op : CtlOp
  fd : Nat
  mask : Nat
  data : Nat
  err : Nat
deriving DecidableEq, Repr

abbrev Kernel := Nat → Option (Nat × Nat)

structure State where
  objs : Nat → Obj
  notify : List Nat
  kernel : Kernel
  closed : Nat → Bool
  live : List Nat
  fatal : Bool

def init : State := ⟨fun _ => {}, [], fun _ => none, fun _ => false, [], false⟩

def upd {α : Type} (f : Nat → α) (k : Nat) (v : α) : Nat → α := fun i => if i = k then v else f i

/-- unlink `o` from a list in which it occurs at most once (no-op when it is not there) -/
def lrem (l : List Nat) (o : Nat) : List Nat := l.filter (fun x => x != o)

/-! ## the kernel (assumption) -/

def kernelCtl (k : Kernel) (closed : Nat → Bool) (op : CtlOp) (fd mask data : Nat) : Kernel × Nat :=
  if closed fd then (k, EBADF) else
  match op, k fd with
  | .add, some _ => (k, EEXIST)
  | .add, none => (upd k fd (some (mask, data)), 0)
  | .mod, none => (k, ENOENT)
  | .mod, some _ => (upd k fd (some (mask, data)), 0)
  | .del, none => (k, ENOENT)
  | .del, some _ => (upd k fd none, 0)

/-! ## iv_fd_epoll.c -/

/-- `bits_to_poll_mask` -/
def bitsToPollMask (bits : Nat) : Nat :=
  (if bits &&& MASKIN ≠ 0 then EPOLLIN else 0) ||| (if bits &&& MASKOUT ≠ 0 then EPOLLOUT else 0)

/-- `iv_list_del_init(&fd->list_notify)` -/
def delInitNotify (s : State) (o : Nat) : State :=
  { s with notify := lrem s.notify o, objs := upd s.objs o { s.objs o with queued := false } }

/-- the choice of `op` in `__iv_fd_epoll_flush_one` -/
def chooseOp (registered wanted : Nat) : CtlOp :=
  if registered = 0 ∧ wanted ≠ 0 then .add
  else if registered ≠ 0 ∧ wanted = 0 then .del
  else .mod

def ctlErr : Option Ctl → Nat
  | none => 0
  | some c => c.err

/-- `__iv_fd_epoll_flush_one`; the C return value is `0` when `ctlErr` of the second component is
0 and `-1` (errno = that number) otherwise -/
def flushOneRaw (s : State) (o : Nat) : State × Option Ctl :=
  let s := delInitNotify s o
  let f := s.objs o
  if f.registered = f.wanted then (s, none) else
  let op := chooseOp f.registered f.wanted
  let mask := bitsToPollMask f.wanted
  let r := kernelCtl s.kernel s.closed op f.fd mask o
  let s := { s with kernel := r.1 }
  let s := if r.2 = 0 then { s with objs := upd s.objs o { f with registered := f.wanted } } else s
  (s, some ⟨op, f.fd, mask, o, r.2⟩)

/-- `iv_fd_epoll_flush_one` -/
def flushOne (s : State) (o : Nat) : State × Option Ctl :=
  let r := flushOneRaw s o
  if ctlErr r.2 ≠ 0 then ({ r.1 with fatal := true }, r.2) else r

/-- the loop of `iv_fd_epoll_flush_pending` with fuel (every round unlinks the first entry, so
`notify.length` rounds are enough: `flushPending_spec`) -/
def flushLoop : Nat → State → State × List Ctl
  | 0, s => (s, [])
  | n + 1, s =>
    match s.notify with
    | [] => (s, [])
    | o :: _ =>
      let r := flushOne s o
      if r.1.fatal then (r.1, r.2.toList) else
      let r' := flushLoop n r.1
      (r'.1, r.2.toList ++ r'.2)

/-- `iv_fd_epoll_flush_pending` -/
def flushPending (s : State) : State × List Ctl := flushLoop s.notify.length s

/-- `iv_fd_epoll_notify_fd` -/
def notifyFd (s : State) (o : Nat) : State :=
  let s := delInitNotify s o
  let f := s.objs o
  if f.registered ≠ f.wanted then
    { s with notify := s.notify ++ [o], objs := upd s.objs o { f with queued := true } }
  else s

/-- `iv_fd_epoll_notify_fd_sync` -/
def notifySync (s : State) (o : Nat) : State × Option Ctl := flushOneRaw s o

/-- `iv_fd_epoll_unregister_fd` -/
def unregisterFd (s : State) (o : Nat) : State × Option Ctl :=
  if (s.objs o).queued then flushOne s o else (s, none)

/-! ## iv_fd.c -/

/-- the value computed by `recompute_wanted_flags` -/
def wantedOf (f : Obj) : Nat :=
  if f.reg then
    (if f.hin then MASKIN else 0) ||| (if f.hout then MASKOUT else 0) ||| (if f.herr then MASKERR else 0)
  else 0

def setObj (s : State) (o : Nat) (g : Obj → Obj) : State := { s with objs := upd s.objs o (g (s.objs o)) }

/-- `recompute_wanted_flags` -/
def recompute (s : State) (o : Nat) : State := setObj s o fun f => { f with wanted := wantedOf f }

/-- the static `notify_fd` of iv_fd.c -/
def coreNotifyFd (s : State) (o : Nat) : State := notifyFd (recompute s o) o

/-- the user stores `d` in `fd->fd`, then `iv_fd_register_prologue` (with `method->register_fd ==
NULL` for epoll).  `INIT_IV_LIST_HEAD(&fd->list_notify)` overwrites the node without unlinking
it: `notify` is not touched. -/
def prologue (s : State) (o d : Nat) : State :=
  { s with objs := upd s.objs o { s.objs o with fd := d, reg := true, registered := 0, queued := false },
           live := o :: s.live }

/-- `fd->registered = 0` -/
def clearReg (s : State) (o : Nat) : State :=
  { s with objs := upd s.objs o { s.objs o with reg := false }, live := lrem s.live o }

/-- `iv_fd_register` -/
def register (s : State) (o d : Nat) : State := coreNotifyFd (prologue s o d) o

/-- `iv_fd_register_try`: state, the epoll_ctl calls made, and 0 / the errno behind `ret` -/
def registerTry (s : State) (o d : Nat) : State × List Ctl × Nat :=
  let s := prologue s o d
  let s := recompute s o
  let orig := (s.objs o).wanted
  let s := if orig = 0 then setObj s o fun f => { f with wanted := MASKIN ||| MASKOUT } else s
  let r := notifySync s o
  if ctlErr r.2 ≠ 0 then
    let s := clearReg r.1 o
    let u := unregisterFd s o
    (u.1, r.2.toList ++ u.2.toList, ctlErr r.2)
  else
    let s := if orig = 0 then notifyFd (setObj r.1 o fun f => { f with wanted := 0 }) o else r.1
    (s, r.2.toList, 0)

/-- `iv_fd_unregister` -/
def unregister (s : State) (o : Nat) : State × List Ctl :=
  let s := clearReg s o
  let s := coreNotifyFd s o
  let u := unregisterFd s o
  (u.1, u.2.toList)

/-- the field assignment of `iv_fd_set_handler_in / _out / _err` -/
def setH (f : Obj) (band : Nat) (b : Bool) : Obj :=
  if band = MASKIN then { f with hin := b } else if band = MASKOUT then { f with hout := b }
  else { f with herr := b }

/-- `iv_fd_set_handler_in / _out / _err` on a registered object; on an object that is not
registered it is the user's plain assignment to the field before `iv_fd_register` -/
def setHandler (s : State) (o band : Nat) (b : Bool) : State :=
  let s := setObj s o fun f => setH f band b
  if (s.objs o).reg then coreNotifyFd s o else s

/-! ## the dispatch part of `iv_fd_epoll_poll` and the handler loop of `iv_fd_poll_and_run` -/

/-- `iv_fd_make_ready` on the `active` list, kept as (object, ready_bands) in list order -/
def makeReady (active : List (Nat × Nat)) (o bands : Nat) : List (Nat × Nat) :=
  if active.any (fun p => p.1 == o) then
    active.map fun p => if p.1 = o then (p.1, p.2 ||| bands) else p
  else active ++ [(o, bands)]

/-- the body of the `for` loop for one `struct epoll_event` with `data.ptr = o` -/
def dispatchOne (active : List (Nat × Nat)) (o ev : Nat) : List (Nat × Nat) :=
  let a := if ev &&& (EPOLLIN ||| EPOLLERR ||| EPOLLHUP) ≠ 0 then makeReady active o MASKIN else active
  let a := if ev &&& (EPOLLOUT ||| EPOLLERR ||| EPOLLHUP) ≠ 0 then makeReady a o MASKOUT else a
  if ev &&& (EPOLLERR ||| EPOLLHUP) ≠ 0 then makeReady a o MASKERR else a

/-- events `(data.ptr, events)` in batch order ↦ the active list -/
def dispatch (evs : List (Nat × Nat)) : List (Nat × Nat) :=
  evs.foldl (fun a e => dispatchOne a e.1 e.2) []

/-- the bands one event makes ready (closed form of `dispatchOne`, see `dispatch_eq`) -/
def readyBands (ev : Nat) : Nat :=
  (if ev &&& (EPOLLIN ||| EPOLLERR ||| EPOLLHUP) ≠ 0 then MASKIN else 0) |||
  (if ev &&& (EPOLLOUT ||| EPOLLERR ||| EPOLLHUP) ≠ 0 then MASKOUT else 0) |||
  (if ev &&& (EPOLLERR ||| EPOLLHUP) ≠ 0 then MASKERR else 0)

/-- what the kernel hands back for ready descriptors `(fdnum, events)`: the `data` stored in the
interest list; a descriptor that is not in the interest list cannot be reported -/
def kernelEvents (k : Kernel) (kev : List (Nat × Nat)) : List (Nat × Nat) :=
  kev.filterMap fun e => (k e.1).map fun md => (md.2, e.2)

/-- handler calls of `iv_fd_poll_and_run` for passive handlers (handlers that do not call back
into the library): err, in, out per object, in active-list order -/
def runHandlers (s : State) (active : List (Nat × Nat)) : List (Nat × Nat) :=
  active.flatMap fun p =>
    let f := s.objs p.1
    (if p.2 &&& MASKERR ≠ 0 ∧ f.herr then [(p.1, MASKERR)] else []) ++
    (if p.2 &&& MASKIN ≠ 0 ∧ f.hin then [(p.1, MASKIN)] else []) ++
    (if p.2 &&& MASKOUT ≠ 0 ∧ f.hout then [(p.1, MASKOUT)] else [])

/-! ## operation sequences -/

inductive Op
  | reg (o d : Nat)
  | regtry (o d : Nat)
  | unreg (o : Nat)
  | set (o band : Nat) (b : Bool)
  | flush (kev : List (Nat × Nat))
  | closefd (d : Nat)
  | openfd (d : Nat)
deriving DecidableEq, Repr

structure Out where
  ctls : List Ctl := []
  ret : Nat := 0
  ready : List (Nat × Nat) := []
  calls : List (Nat × Nat) := []
  skipped : Bool := false
deriving DecidableEq, Repr

/-- descriptor number `d` is not the `fd` of any registered object -/
def fdFree (s : State) (d : Nat) : Bool := s.live.all fun o => (s.objs o).fd != d

/-- events a kernel with interest list `k` can report: descriptor present, events non-zero and
within the requested mask plus ERR / HUP (always reported), each descriptor at most once -/
def eventsOk (k : Kernel) : List (Nat × Nat) → Bool
  | [] => true
  | e :: rest =>
    (match k e.1 with
     | none => false
     | some md => e.2 != 0 && (e.2 &&& (md.1 ||| EPOLLERR ||| EPOLLHUP)) == e.2) &&
    rest.all (fun e' => e'.1 != e.1) && eventsOk k rest

/-- The environment / API-contract hypothesis, decidable, per operation:
* `reg`: the object is not registered (else iv_fatal in the prologue), its descriptor is open and
  no other registered object uses the same descriptor number;
* `regtry`: the object is not registered, and either its descriptor number is free (open or
  closed: a closed one makes the call fail with EBADF) or the kernel has an entry for it (the call
  fails with EEXIST);
* `unreg`: the object is registered (else iv_fatal);
* `closefd`: descriptors stay open while registered;
* `flush`: the reported events are events the kernel can report after the flush. -/
def pre (s : State) : Op → Bool
  | .reg o d => !(s.objs o).reg && !s.closed d && fdFree s d
  | .regtry o d => !(s.objs o).reg && (fdFree s d || (s.kernel d).isSome)
  | .unreg o => (s.objs o).reg
  | .set _ band _ => band == MASKIN || band == MASKOUT || band == MASKERR
  | .flush kev => eventsOk (flushPending s).1.kernel kev
  | .closefd d => !s.closed d && fdFree s d
  | .openfd d => s.closed d

/-- the stricter hypothesis under which no epoll_ctl fails: `regtry` only on an open, free
descriptor number -/
def strict (s : State) : Op → Bool
  | .regtry _ d => !s.closed d && fdFree s d
  | _ => true

def step (s : State) : Op → State × Out
  | .reg o d => (register s o d, {})
  | .regtry o d => let r := registerTry s o d; (r.1, { ctls := r.2.1, ret := r.2.2 })
  | .unreg o => let r := unregister s o; (r.1, { ctls := r.2 })
  | .set o band b => (setHandler s o band b, {})
  | .flush kev =>
    let r := flushPending s
    let act := dispatch (kernelEvents r.1.kernel kev)
    (r.1, { ctls := r.2, ready := act, calls := runHandlers r.1 act })
  | .closefd d => ({ s with closed := upd s.closed d true, kernel := upd s.kernel d none }, {})
  | .openfd d => ({ s with closed := upd s.closed d false }, {})

/-- an operation outside the hypothesis is not executed (the harness prints `skip`) -/
def exec (s : State) (op : Op) : State × Out :=
  if s.fatal then (s, { skipped := true }) else
  if pre s op then step s op else (s, { skipped := true })

def run (s : State) : List Op → State
  | [] => s
  | op :: ops => run (exec s op).1 ops

/-- all epoll_ctl calls of a run -/
def runCtls (s : State) : List Op → List Ctl
  | [] => []
  | op :: ops => (exec s op).2.ctls ++ runCtls (exec s op).1 ops

/-! ## mutants (for the negative theorems) -/

/-- mutant 1: `registered_bands` is updated even when epoll_ctl failed -/
def flushOneRawM1 (s : State) (o : Nat) : State × Option Ctl :=
  let s := delInitNotify s o
  let f := s.objs o
  if f.registered = f.wanted then (s, none) else
  let op := chooseOp f.registered f.wanted
  let mask := bitsToPollMask f.wanted
  let r := kernelCtl s.kernel s.closed op f.fd mask o
  let s := { s with kernel := r.1, objs := upd s.objs o { f with registered := f.wanted } }
  (s, some ⟨op, f.fd, mask, o, r.2⟩)

/-- mutant 2: `iv_fd_unregister` without the flush in `iv_fd_epoll_unregister_fd` -/
def unregisterM2 (s : State) (o : Nat) : State × List Ctl :=
  let s := clearReg s o
  (coreNotifyFd s o, [])

end Ivy.L0.FdEpoll
