import Ivy.L0.HeapSpec
import Ivy.L0.RatArith
/-!
Proofs of the C05 statements about the timer heap model (`Ivy/L0/Heap.lean`).  `HeapInv` is split as `Struct g ∧ Order`
(slots against back indices, with an optional ghost timer `g` being moved; heap order), with `OrderUp`/`OrderDown`/`OrderEx`
for order with a hole.  The one step of sifting is `swapSlots` (`swap_slot`, `swap_idx`, `swap_struct`, `swap_frame`); `pullUp_ok`
and `pushDown_ok` are single inductions.  An operation is its intermediate store plus a loop (`removeAt_eq`, `cut_*`,
`register_ok`, `remove_ok`).  The loop machine uses the case forms `register_cases`, `unregister_cases`, `collect_sorted` (what
happens to the other timers is `Others`) and `nonneg_*` (which timers are registered afterwards).
-/
namespace Ivy.Heap.Proofs
open Ivy.Heap

theorem gt_iff (a b : TS) : a.gt b = true ↔ a.sec > b.sec ∨ (a.sec = b.sec ∧ a.nsec > b.nsec) := by
  simp [TS.gt]

theorem le_iff (a b : TS) : a.le b ↔ ¬ (a.sec > b.sec ∨ (a.sec = b.sec ∧ a.nsec > b.nsec)) := by
  rw [TS.le, ← gt_iff, Bool.not_eq_true]

theorem le_refl (a : TS) : a.le a := by
  rw [le_iff]; omega

theorem le_trans {a b c : TS} (h1 : a.le b) (h2 : b.le c) : a.le c := by
  rw [le_iff] at *; omega

theorem le_of_gt {a b : TS} (h : a.gt b = true) : b.le a := by
  rw [gt_iff] at h; rw [le_iff]; omega

theorem gt_of_gt_of_le {a b c : TS} (h1 : a.gt c = true) (h2 : a.le b) : b.gt c = true := by
  rw [gt_iff] at *; rw [le_iff] at h2; omega

theorem bits_pos : 0 < bits := by
  unfold bits Ivy.Generated.IV_TIMER_SPLIT_BITS; omega

theorem cap_eq_span (d : Nat) : cap d = Rat.span bits d := rfl

theorem cap_succ (d : Nat) : cap (d + 1) = cap d * 2 ^ bits := Rat.Proofs.span_succ bits d

theorem cap_pos (d : Nat) : 0 < cap d := Rat.Proofs.span_pos bits d

theorem cap_double (d : Nat) : 2 * cap d ≤ cap (d + 1) := Rat.Proofs.two_span_le bits d bits_pos

theorem cap_even (d : Nat) : ∃ k, cap d = 2 * k := by
  refine ⟨2 ^ ((d + 1) * bits - 1), ?_⟩
  unfold cap
  have := bits_pos
  have h : (d + 1) * bits = ((d + 1) * bits - 1) + 1 := by
    have : 1 ≤ (d + 1) * bits := Nat.mul_pos (by omega) this
    omega
  rw [h, Nat.pow_succ, Nat.mul_comm]
  simp

theorem grow_test (d index : Nat) : (index >>> ((d + 1) * bits) != 0) = decide (cap d ≤ index) :=
  Rat.Proofs.grow_test bits d index

theorem shrink_test (d : Nat) (hd : 0 < d) : 1 <<< (d * bits) = cap (d - 1) :=
  Rat.Proofs.one_shiftLeft_eq_span bits d hd

theorem div_two_eq {j k : Nat} : k / 2 = j ↔ k = 2 * j ∨ k = 2 * j + 1 := by omega

theorem lt_child {j c : Nat} (hj : 1 ≤ j) (hc : c / 2 = j) : j < c := by omega

theorem parent_lt {j : Nat} (hj : 2 ≤ j) : 1 ≤ j / 2 ∧ j / 2 < j := by omega

def leT (s : Store) (a b : Tid) : Prop := (expOf s a).le (expOf s b)

/-- `HeapInv` without heap order; `g` is an optional "ghost" timer (the one being removed) whose
index field is stale and which sits in no slot.  The stores inside `register` and `removeAt` satisfy
only this, with the order broken around one slot; `HeapInv s ↔ Struct none s ∧ Order s` (`heapInv_iff`). -/
structure Struct (g : Option Tid) (s : Store) : Prop where
  size_eq   : s.slot.size = cap s.depth
  num_lt    : s.num < s.slot.size
  shrunk    : s.depth > 0 → cap (s.depth - 1) ≤ s.num
  exp_idx   : s.exp.size = s.idx.size
  occupied  : ∀ i, 1 ≤ i → i ≤ s.num → ∃ t, s.slot[i]? = some (some t) ∧ s.idx[t]? = some (i : Int)
  tail_null : ∀ i, s.num < i → i < s.slot.size → s.slot[i]? = some none
  back      : ∀ (t : Nat) (i : Nat), some t ≠ g → 1 ≤ i → s.idx[t]? = some (i : Int) →
                i ≤ s.num ∧ s.slot[i]? = some (some t)
  notin     : ∀ (k : Nat) (t : Nat), 1 ≤ k → s.slot[k]? = some (some t) → some t ≠ g
  idx_ge    : ∀ (t : Nat) (v : Int), s.idx[t]? = some v → -1 ≤ v

def Order (s : Store) : Prop :=
  ∀ i a b, 2 ≤ i → i ≤ s.num → s.slot[i / 2]? = some (some a) → s.slot[i]? = some (some b) → leT s a b

/-- the parent of `j` is ≤ the children of `j` (their grandparent: the order across slot `j`, whatever sits in it) -/
def Grand (s : Store) (j : Nat) : Prop :=
  ∀ k a b, 2 ≤ j → k ≤ s.num → k / 2 = j → s.slot[j / 2]? = some (some a) → s.slot[k]? = some (some b) → leT s a b

/-- order may fail only between `j` and its parent -/
def OrderUp (s : Store) (j : Nat) : Prop :=
  (∀ i a b, 2 ≤ i → i ≤ s.num → i ≠ j → s.slot[i / 2]? = some (some a) → s.slot[i]? = some (some b) → leT s a b)
  ∧ Grand s j

/-- order may fail only between `j` and its children -/
def OrderDown (s : Store) (j : Nat) : Prop :=
  (∀ i a b, 2 ≤ i → i ≤ s.num → i / 2 ≠ j → s.slot[i / 2]? = some (some a) → s.slot[i]? = some (some b) → leT s a b)
  ∧ Grand s j

/-- order may fail between `j` and its parent and between `j` and its children -/
def OrderEx (s : Store) (j : Nat) : Prop :=
  (∀ i a b, 2 ≤ i → i ≤ s.num → i ≠ j → i / 2 ≠ j → s.slot[i / 2]? = some (some a) → s.slot[i]? = some (some b) → leT s a b)
  ∧ Grand s j

structure Frame (s s' : Store) : Prop where
  exp  : s'.exp = s.exp
  size : s'.idx.size = s.idx.size
  idx  : ∀ u, s'.idx[u]? = s.idx[u]? ∨ (onHeap s u ∧ onHeap s' u)

theorem Frame.refl (s : Store) : Frame s s := ⟨rfl, rfl, fun _ => Or.inl rfl⟩

theorem Frame.trans {a b c : Store} (h1 : Frame a b) (h2 : Frame b c) : Frame a c := by
  refine ⟨h2.exp.trans h1.exp, h2.size.trans h1.size, fun u => ?_⟩
  rcases h1.idx u with e1 | ⟨p1, q1⟩ <;> rcases h2.idx u with e2 | ⟨p2, q2⟩
  · exact Or.inl (e2.trans e1)
  · refine Or.inr ⟨?_, q2⟩
    unfold onHeap at *; rw [← e1]; exact p2
  · refine Or.inr ⟨p1, ?_⟩
    unfold onHeap at *; rw [e2]; exact q1
  · exact Or.inr ⟨p1, q2⟩

theorem heapInv_iff (s : Store) : HeapInv s ↔ Struct none s ∧ Order s := by
  constructor
  · intro h
    exact ⟨⟨h.size_eq, h.num_lt, h.shrunk, h.exp_idx, h.occupied, h.tail_null,
      fun t i _ => h.back t i, fun _ _ _ _ => by simp, h.idx_ge⟩, h.order⟩
  · rintro ⟨h, ho⟩
    exact ⟨h.size_eq, h.num_lt, h.shrunk, h.exp_idx, h.occupied, h.tail_null,
      fun t i => h.back t i (by simp), h.idx_ge, ho⟩

theorem lt_of_getElem? {α} {xs : Array α} {i : Nat} {v : α} (h : xs[i]? = some v) : i < xs.size :=
  (Array.getElem?_eq_some_iff.mp h).1

theorem getElem?_set {α} {xs : Array α} {i : Nat} (h : i < xs.size) (v : α) (k : Nat) :
    (xs.setIfInBounds i v)[k]? = if k = i then some v else xs[k]? := by
  rw [Array.getElem?_setIfInBounds, if_pos h]
  by_cases e : k = i
  · rw [if_pos e, if_pos e.symm]
  · rw [if_neg e, if_neg (Ne.symm e)]

theorem neg_one_le_cast (n : Nat) : (-1 : Int) ≤ n := by omega

theorem getD_idx {s : Store} {t : Tid} {v : Int} (h : s.idx[t]? = some v) : s.idx.getD t (-1) = v := by
  rw [Array.getD_eq_getD_getElem?, h]; rfl

theorem getElem?_of_lt_getD {a : Array Int} {t : Nat} (h : t < a.size) : a[t]? = some (a.getD t (-1)) := by
  simp [Array.getD_eq_getD_getElem?, h]

theorem swap_slot (s : Store) (i j a b k : Nat) (hi : i < s.slot.size) (hj : j < s.slot.size) :
    (swapSlots s i j a b).slot[k]? =
      if k = j then some (some a) else if k = i then some (some b) else s.slot[k]? := by
  dsimp only [swapSlots]
  rw [getElem?_set (by rwa [Array.size_setIfInBounds]), getElem?_set hi]

theorem swap_idx (s : Store) (i j a b u : Nat) (ha : a < s.idx.size) (hb : b < s.idx.size) :
    (swapSlots s i j a b).idx[u]? =
      if u = a then some (j : Int) else if u = b then some (i : Int) else s.idx[u]? := by
  dsimp only [swapSlots]
  rw [getElem?_set (by rwa [Array.size_setIfInBounds]), getElem?_set hb]

theorem swap_rest (s : Store) (i j a b : Nat) :
    (swapSlots s i j a b).num = s.num ∧ (swapSlots s i j a b).depth = s.depth ∧
    (swapSlots s i j a b).exp = s.exp ∧ (swapSlots s i j a b).slot.size = s.slot.size ∧
    (swapSlots s i j a b).idx.size = s.idx.size := by
  dsimp only [swapSlots]
  exact ⟨rfl, rfl, rfl, Array.size_setIfInBounds.trans Array.size_setIfInBounds,
    Array.size_setIfInBounds.trans Array.size_setIfInBounds⟩

theorem Struct.le_num {g s} (h : Struct g s) {i a : Nat} (ha : s.slot[i]? = some (some a)) : i ≤ s.num :=
  Nat.le_of_not_lt fun hgt => by
    have := h.tail_null i hgt (lt_of_getElem? ha)
    rw [ha] at this; cases this

theorem Struct.idx_of_slot {g s} (h : Struct g s) {i a : Nat} (h1 : 1 ≤ i)
    (ha : s.slot[i]? = some (some a)) : s.idx[a]? = some (i : Int) := by
  obtain ⟨t, ht, hi⟩ := h.occupied i h1 (h.le_num ha)
  rw [ht] at ha
  cases ha
  exact hi

theorem Struct.lt_size {g s} (h : Struct g s) {i : Nat} (h2 : i ≤ s.num) : i < s.slot.size :=
  Nat.lt_of_le_of_lt h2 h.num_lt

theorem Struct.slot_inj {g s} (h : Struct g s) {k k' t : Nat} (hk1 : 1 ≤ k) (hk1' : 1 ≤ k')
    (e : s.slot[k]? = some (some t)) (e' : s.slot[k']? = some (some t)) : k = k' :=
  Int.ofNat.inj (Option.some.inj ((h.idx_of_slot hk1 e).symm.trans (h.idx_of_slot hk1' e')))

theorem swap_struct {g s} (h : Struct g s) {i j a b : Nat} (hi1 : 1 ≤ i) (hi2 : i ≤ s.num)
    (hj1 : 1 ≤ j) (hj2 : j ≤ s.num) (hij : i ≠ j)
    (ha : s.slot[i]? = some (some a)) (hb : s.slot[j]? = some (some b)) :
    Struct g (swapSlots s i j a b) := by
  have hia := h.idx_of_slot hi1 ha
  have hib := h.idx_of_slot hj1 hb
  have hs := fun k => swap_slot s i j a b k (h.lt_size hi2) (h.lt_size hj2)
  have hx := fun u => swap_idx s i j a b u (lt_of_getElem? hia) (lt_of_getElem? hib)
  have hab : a ≠ b := fun e => hij (h.slot_inj hi1 hj1 ha (e ▸ hb))
  obtain ⟨hnum, hdepth, hexp, hss, his⟩ := swap_rest s i j a b
  generalize swapSlots s i j a b = s' at hs hx hnum hdepth hexp hss his ⊢
  constructor
  · rw [hss, hdepth]; exact h.size_eq
  · rw [hss, hnum]; exact h.num_lt
  · rw [hnum, hdepth]; exact h.shrunk
  · rw [hexp, his]; exact h.exp_idx
  · intro k hk1 hk2
    rw [hnum] at hk2
    rw [hs]
    by_cases hkj : k = j
    · exact ⟨a, if_pos hkj, by rw [hx, if_pos rfl, hkj]⟩
    by_cases hki : k = i
    · exact ⟨b, by rw [if_neg hkj, if_pos hki], by rw [hx, if_neg hab.symm, if_pos rfl, hki]⟩
    obtain ⟨t, ht, hit⟩ := h.occupied k hk1 hk2
    have hta : t ≠ a := fun e => hki (h.slot_inj hk1 hi1 ht (e ▸ ha))
    have htb : t ≠ b := fun e => hkj (h.slot_inj hk1 hj1 ht (e ▸ hb))
    exact ⟨t, by rw [if_neg hkj, if_neg hki, ht], by rw [hx, if_neg hta, if_neg htb, hit]⟩
  · intro k hk1 hk2
    rw [hnum] at hk1
    rw [hss] at hk2
    rw [hs, if_neg (Nat.ne_of_gt (Nat.lt_of_le_of_lt hj2 hk1)),
      if_neg (Nat.ne_of_gt (Nat.lt_of_le_of_lt hi2 hk1))]
    exact h.tail_null k hk1 hk2
  · intro t k hg hk1 hit
    rw [hx] at hit
    rw [hs, hnum]
    by_cases hta : t = a
    · rw [if_pos hta] at hit
      cases Int.ofNat.inj (Option.some.inj hit)
      exact ⟨hj2, by rw [if_pos rfl, hta]⟩
    rw [if_neg hta] at hit
    by_cases htb : t = b
    · rw [if_pos htb] at hit
      cases Int.ofNat.inj (Option.some.inj hit)
      exact ⟨hi2, by rw [if_neg hij, if_pos rfl, htb]⟩
    rw [if_neg htb] at hit
    obtain ⟨q1, q2⟩ := h.back t k hg hk1 hit
    have hkj : k ≠ j := fun e => htb (by rw [e, hb] at q2; cases q2; rfl)
    have hki : k ≠ i := fun e => hta (by rw [e, ha] at q2; cases q2; rfl)
    exact ⟨q1, by rw [if_neg hkj, if_neg hki, q2]⟩
  · intro k t hk1 hkt
    rw [hs] at hkt
    by_cases hkj : k = j
    · rw [if_pos hkj] at hkt; cases hkt; exact h.notin i a hi1 ha
    rw [if_neg hkj] at hkt
    by_cases hki : k = i
    · rw [if_pos hki] at hkt; cases hkt; exact h.notin j b hj1 hb
    rw [if_neg hki] at hkt
    exact h.notin k t hk1 hkt
  · intro t v hv
    rw [hx] at hv
    by_cases hta : t = a
    · rw [if_pos hta] at hv; cases hv; exact neg_one_le_cast j
    rw [if_neg hta] at hv
    by_cases htb : t = b
    · rw [if_pos htb] at hv; cases hv; exact neg_one_le_cast i
    rw [if_neg htb] at hv
    exact h.idx_ge t v hv

theorem swap_frame {g s} (h : Struct g s) {i j a b : Nat} (hi1 : 1 ≤ i) (hj1 : 1 ≤ j)
    (ha : s.slot[i]? = some (some a)) (hb : s.slot[j]? = some (some b)) :
    Frame s (swapSlots s i j a b) := by
  have hia := h.idx_of_slot hi1 ha
  have hib := h.idx_of_slot hj1 hb
  have hx := fun u => swap_idx s i j a b u (lt_of_getElem? hia) (lt_of_getElem? hib)
  refine ⟨(swap_rest ..).2.2.1, (swap_rest ..).2.2.2.2, fun u => ?_⟩
  rw [hx]
  by_cases hua : u = a
  · exact .inr ⟨⟨i, hi1, hua ▸ hia⟩, j, hj1, by rw [hx, if_pos hua]⟩
  by_cases hub : u = b
  · exact .inr ⟨⟨j, hj1, hub ▸ hib⟩, i, hi1, by rw [hx, if_neg hua, if_pos hub]⟩
  exact .inl (by rw [if_neg hua, if_neg hub])

theorem swap_leT (s : Store) (i j a b x y : Nat) : leT (swapSlots s i j a b) x y ↔ leT s x y := Iff.rfl

structure Fixed (g : Option Tid) (s s' : Store) : Prop where
  struct : Struct g s'
  order  : Order s'
  frame  : Frame s s'
  num    : s'.num = s.num
  depth  : s'.depth = s.depth

/-- `register` after `num_timers` was incremented: the tree grown for the new last slot and the timer `t`
put there, just before `pull_up` -/
def placed (s : Store) (t : Tid) : Store :=
  let g := grow s s.num
  { g with slot := g.slot.setIfInBounds s.num (some t), idx := g.idx.setIfInBounds t (s.num : Int) }

/-- the store after the last timer `mt` was moved into slot `i`, just before `pull_up`/`push_down` -/
def cut (s : Store) (i : Nat) (mt : Tid) : Store :=
  let s1 : Store := { s with slot := (s.slot.setIfInBounds i (some mt)).setIfInBounds s.num none,
                             idx := s.idx.setIfInBounds mt (i : Int) }
  let s2 := if s1.depth > 0 ∧ s1.num = 1 <<< (s1.depth * bits) then removeLevel s1 else s1
  { s2 with num := s2.num - 1 }

/-- The steps by which the heap operations change the slot array (`slot`, `depth`); `RatProofs` replays
them on the radix tree.  `swap`: two slots inside the array, as `pull_up` / `push_down` do.
`place`: `register` up to `pull_up`; `cut`: `unregister` up to the sifting.  These two grow and shrink
the tree, which is legal on the tree only from a store satisfying `HeapInv` (the new last slot is at most
one level beyond the capacity; on a shrink the upper half is all NULL): hence the premise.
`fields`: any change that leaves `slot` and `depth` alone (`num`, index and expiry fields). -/
inductive Moves : Store → Store → Prop where
  | refl (s : Store) : Moves s s
  | swap {s s' : Store} (i j a b : Nat) : i < s.slot.size → j < s.slot.size →
      Moves (swapSlots s i j a b) s' → Moves s s'
  | place {s s' : Store} (t : Tid) (e : TS) : HeapInv s →
      Moves (placed { s with exp := s.exp.setIfInBounds t e, num := s.num + 1 } t) s' → Moves s s'
  | cut {s s' : Store} (i : Nat) (mt : Tid) : HeapInv s → i ≤ s.num → Moves (cut s i mt) s' → Moves s s'
  | fields {s s1 s' : Store} : s1.slot = s.slot → s1.depth = s.depth → Moves s1 s' → Moves s s'

theorem Moves.trans {a b c : Store} (h1 : Moves a b) (h2 : Moves b c) : Moves a c := by
  induction h1 with
  | refl => exact h2
  | swap i j x y hi hj _ ih => exact .swap i j x y hi hj (ih h2)
  | place t e hinv _ ih => exact .place t e hinv (ih h2)
  | cut i mt hinv hi _ ih => exact .cut i mt hinv hi (ih h2)
  | fields e1 e2 _ ih => exact .fields e1 e2 (ih h2)

theorem leT_trans {s a b c} (h1 : leT s a b) (h2 : leT s b c) : leT s a c := le_trans h1 h2

theorem leT_of_gtT {s a b} (h : gtT s a b = true) : leT s b a := le_of_gt h

theorem pullUp_step {g s} (h : Struct g s) {j p c : Nat} (ho : OrderUp s j) (hj1 : 2 ≤ j) (hj2 : j ≤ s.num)
    (hp : s.slot[j / 2]? = some (some p)) (hgt : gtT s p c = true) :
    OrderUp (swapSlots s j (j / 2) c p) (j / 2) := by
  have hcp : leT s c p := leT_of_gtT hgt
  have hq := (parent_lt hj1).2
  have hq2 : j / 2 ≤ s.num := Nat.le_trans (Nat.le_of_lt hq) hj2
  have hs : ∀ k, (swapSlots s j (j / 2) c p).slot[k]? =
      if k = j / 2 then some (some c) else if k = j then some (some p) else s.slot[k]? :=
    fun k => swap_slot s j (j / 2) c p k (h.lt_size hj2) (h.lt_size hq2)
  obtain ⟨ho1, ho2⟩ := ho
  constructor
  · intro i a b hi1 hi2 hine h1 h2
    refine (swap_leT s j (j / 2) c p a b).2 ?_
    rw [(swap_rest s j (j / 2) c p).1] at hi2
    rw [hs] at h1 h2
    rw [if_neg hine] at h2
    by_cases hij : i = j
    · rw [if_pos hij] at h2
      rw [hij, if_pos rfl] at h1
      cases h1; cases h2; exact hcp
    rw [if_neg hij] at h2
    by_cases hc1 : i / 2 = j
    · rw [hc1, if_neg (Nat.ne_of_gt hq), if_pos rfl] at h1
      cases h1
      exact ho2 i p b hj1 hi2 hc1 hp h2
    rw [if_neg hc1] at h1
    by_cases hc2 : i / 2 = j / 2
    · rw [if_pos hc2] at h1
      cases h1
      exact leT_trans hcp (ho1 i p b hi1 hi2 hij (hc2 ▸ hp) h2)
    rw [if_neg hc2] at h1
    exact ho1 i a b hi1 hi2 hij h1 h2
  · intro k a b hk1 hk2 hk3 h1 h2
    refine (swap_leT s j (j / 2) c p a b).2 ?_
    rw [(swap_rest s j (j / 2) c p).1] at hk2
    have hqq := (parent_lt hk1).2
    have hkq : k ≠ j / 2 := fun e => by rw [e] at hk3; exact Nat.ne_of_lt hqq hk3
    rw [hs] at h1 h2
    rw [if_neg (Nat.ne_of_lt hqq), if_neg (Nat.ne_of_lt (Nat.lt_trans hqq hq))] at h1
    rw [if_neg hkq] at h2
    have hap : leT s a p := ho1 (j / 2) a p hk1 hq2 (Nat.ne_of_lt hq) h1 hp
    by_cases hkj : k = j
    · rw [if_pos hkj] at h2
      cases h2; exact hap
    rw [if_neg hkj] at h2
    exact leT_trans hap (ho1 k p b (Nat.le_trans hk1 (hk3 ▸ Nat.div_le_self k 2)) hk2 hkj (hk3 ▸ hp) h2)

theorem order_of_orderUp_le {s j} (ho : OrderUp s j) (hj : j ≤ 1) : Order s := by
  intro i a b h1 h2 ha hb
  exact ho.1 i a b h1 h2 (fun e => Nat.not_le_of_lt (e ▸ h1) hj) ha hb

theorem order_of_orderUp_ok {s j p c} (ho : OrderUp s j)
    (hp : s.slot[j / 2]? = some (some p)) (hc : s.slot[j]? = some (some c)) (hle : leT s p c) : Order s := by
  intro i a b h1 h2 ha hb
  by_cases hij : i = j
  · subst hij
    rw [hp] at ha; rw [hc] at hb; cases ha; cases hb; exact hle
  · exact ho.1 i a b h1 h2 hij ha hb

theorem pullUp_ok {g} {j : Nat} {s : Store} (h : Struct g s) (ho : OrderUp s j) (hj2 : j ≤ s.num) :
    ∃ s', pullUp s j = some s' ∧ Fixed g s s' ∧ Moves s s' := by
  induction j using Nat.strongRecOn generalizing s with
  | _ j ih =>
    rw [pullUp]
    by_cases hj : j ≤ 1
    · rw [dif_pos hj]
      exact ⟨s, rfl, ⟨h, order_of_orderUp_le ho hj, Frame.refl s, rfl, rfl⟩, .refl s⟩
    · rw [dif_neg hj]
      have hj1 : 2 ≤ j := Nat.lt_of_not_le hj
      obtain ⟨hq1, hq⟩ := parent_lt hj1
      have hq2 : j / 2 ≤ s.num := Nat.le_trans (Nat.le_of_lt hq) hj2
      have hj0 : 1 ≤ j := Nat.le_of_succ_le hj1
      obtain ⟨p, hp, _⟩ := h.occupied (j / 2) hq1 hq2
      obtain ⟨c, hc, _⟩ := h.occupied j hj0 hj2
      simp only [getSlot, hp, hc]
      cases hgt : gtT s p c
      · simp only [Bool.not_false, if_true]
        exact ⟨s, rfl, ⟨h, order_of_orderUp_ok ho hp hc hgt, Frame.refl s, rfl, rfl⟩, .refl s⟩
      · simp only [Bool.not_true, Bool.false_eq_true, if_false]
        have hnum := (swap_rest s j (j / 2) c p).1
        obtain ⟨s', e, hfx, hsw⟩ := ih (j / 2) hq (swap_struct h hj0 hj2 hq1 hq2 (Nat.ne_of_gt hq) hc hp)
          (pullUp_step h ho hj1 hj2 hp hgt) (hnum.symm ▸ hq2)
        exact ⟨s', e, ⟨hfx.struct, hfx.order, (swap_frame h hj0 hq1 hc hp).trans hfx.frame,
          hfx.num.trans hnum, hfx.depth.trans (swap_rest ..).2.1⟩,
          .swap j (j / 2) c p (h.lt_size hj2) (h.lt_size hq2) hsw⟩

theorem pushDown_step {g s} (h : Struct g s) {j c cur tmin : Nat} (ho : OrderDown s j) (hj1 : 1 ≤ j)
    (hc2 : c ≤ s.num) (hcj : c / 2 = j)
    (hmin : s.slot[c]? = some (some tmin)) (hle : leT s tmin cur)
    (hall : ∀ k b, k ≤ s.num → k / 2 = j → s.slot[k]? = some (some b) → leT s tmin b) :
    OrderDown (swapSlots s j c cur tmin) c := by
  have hjc : j < c := lt_child hj1 hcj
  have hs : ∀ k, (swapSlots s j c cur tmin).slot[k]? =
      if k = c then some (some cur) else if k = j then some (some tmin) else s.slot[k]? :=
    fun k => swap_slot s j c cur tmin k (h.lt_size (Nat.le_trans (Nat.le_of_lt hjc) hc2)) (h.lt_size hc2)
  obtain ⟨ho1, ho2⟩ := ho
  constructor
  · intro i a b hi1 hi2 hine h1 h2
    refine (swap_leT s j c cur tmin a b).2 ?_
    rw [(swap_rest s j c cur tmin).1] at hi2
    rw [hs] at h1 h2
    rw [if_neg hine] at h1
    by_cases hic : i = c
    · rw [hic, hcj, if_pos rfl] at h1
      rw [if_pos hic] at h2
      cases h1; cases h2; exact hle
    rw [if_neg hic] at h2
    by_cases hij : i = j
    · rw [if_pos hij] at h2
      rw [hij, if_neg (Nat.ne_of_lt (Nat.div_lt_self hj1 (Nat.le_refl 2)))] at h1
      cases h2
      exact ho2 c a tmin (hij ▸ hi1) hc2 hcj h1 hmin
    rw [if_neg hij] at h2
    by_cases hc1 : i / 2 = j
    · rw [if_pos hc1] at h1
      cases h1
      exact hall i b hi2 hc1 h2
    rw [if_neg hc1] at h1
    exact ho1 i a b hi1 hi2 hc1 h1 h2
  · intro k a b hk1 hk2 hk3 h1 h2
    refine (swap_leT s j c cur tmin a b).2 ?_
    rw [(swap_rest s j c cur tmin).1] at hk2
    have hck : c < k := lt_child (Nat.le_of_succ_le hk1) hk3
    rw [hs, hcj, if_neg (Nat.ne_of_lt hjc), if_pos rfl] at h1
    rw [hs, if_neg (Nat.ne_of_gt hck), if_neg (Nat.ne_of_gt (Nat.lt_trans hjc hck))] at h2
    cases h1
    exact ho1 k tmin b (Nat.le_trans hk1 (Nat.le_of_lt hck)) hk2 (by rw [hk3]; exact Nat.ne_of_gt hjc)
      (hk3 ▸ hmin) h2

theorem order_of_orderDown {s j cur} (ho : OrderDown s j) (hcur : s.slot[j]? = some (some cur))
    (hall : ∀ k b, k ≤ s.num → k / 2 = j → s.slot[k]? = some (some b) → leT s cur b) : Order s := by
  intro i a b h1 h2 ha hb
  by_cases hij : i / 2 = j
  · rw [hij, hcur] at ha; cases ha
    exact hall i b h2 hij hb
  · exact ho.1 i a b h1 h2 hij ha hb

theorem pushDown_choice {s : Store} {j cur l : Nat} {r? : Option Tid} (hj : j ≠ 0)
    (hcur : s.slot[j]? = some (some cur)) (h2 : 2 * j ≤ s.num)
    (hl : s.slot[2 * j]? = some (some l)) (hr : s.slot[2 * j + 1]? = some r?) :
    ∃ c tmin, s.slot[c]? = some (some tmin) ∧ (c = j ∨ c = 2 * j ∨ c = 2 * j + 1) ∧
      leT s tmin cur ∧ leT s tmin l ∧ (∀ r, r? = some r → leT s tmin r) ∧
      pushDown s j = if c = j then some s else pushDown (swapSlots s j c cur tmin) c := by
  have n1 : ¬ 2 * j = j := by omega
  have n2 : ¬ 2 * j ≤ j := by omega
  have n3 : ¬ 2 * j + 1 = j := by omega
  have n4 : ¬ 2 * j + 1 ≤ j := by omega
  rw [pushDown, dif_neg hj]
  simp only [getSlot, hcur]
  rw [if_pos h2]
  simp only [hl, hr]
  cases hg1 : gtT s cur l
  · have hcl : leT s cur l := hg1
    cases r? with
    | none =>
      exact ⟨j, cur, hcur, .inl rfl, le_refl _, hcl, nofun, by simp only [Bool.false_eq_true, ↓reduceIte]⟩
    | some r =>
      cases hg2 : gtT s cur r
      · refine ⟨j, cur, hcur, .inl rfl, le_refl _, hcl, fun r' e => ?_, by simp only [hg2, Bool.false_eq_true, ↓reduceIte]⟩
        cases e; exact hg2
      · have hrc : leT s r cur := leT_of_gtT hg2
        refine ⟨2 * j + 1, r, hr, .inr (.inr rfl), hrc, leT_trans hrc hcl, fun r' e => ?_, by simp only [hg2, Bool.false_eq_true, ↓reduceIte, n3, n4]⟩
        cases e; exact le_refl _
  · have hlc : leT s l cur := leT_of_gtT hg1
    cases r? with
    | none =>
      exact ⟨2 * j, l, hl, .inr (.inl rfl), hlc, le_refl _, nofun, by simp only [↓reduceIte, n1, n2]⟩
    | some r =>
      cases hg2 : gtT s l r
      · refine ⟨2 * j, l, hl, .inr (.inl rfl), hlc, le_refl _, fun r' e => ?_, by simp only [hg2, Bool.false_eq_true, ↓reduceIte, n1, n2]⟩
        cases e; exact hg2
      · have hrl : leT s r l := leT_of_gtT hg2
        refine ⟨2 * j + 1, r, hr, .inr (.inr rfl), leT_trans hrl hlc, hrl, fun r' e => ?_, by simp only [hg2, ↓reduceIte, n3, n4]⟩
        cases e; exact le_refl _

theorem pushDown_ok {g} {j : Nat} {s : Store} (h : Struct g s) (ho : OrderDown s j) (hj1 : 1 ≤ j)
    (hj2 : j ≤ s.num) : ∃ s', pushDown s j = some s' ∧ Fixed g s s' ∧ Moves s s' := by
  induction hd : s.num - j using Nat.strongRecOn generalizing j s with
  | _ d ih =>
    obtain ⟨cur, hcur, _⟩ := h.occupied j hj1 hj2
    by_cases h2j : 2 * j ≤ s.num
    · obtain ⟨l, hl, _⟩ := h.occupied (2 * j) (Nat.le_trans hj1 (Nat.le_mul_of_pos_left j Nat.two_pos)) h2j
      have hlt : 2 * j + 1 < s.slot.size := by
        obtain ⟨k, hk⟩ := cap_even s.depth
        have := h.size_eq
        have := h.num_lt
        omega
      obtain ⟨c, tmin, hmin, hc, hle, hlel, hler, e⟩ :=
        pushDown_choice (Nat.ne_of_gt hj1) hcur h2j hl (Array.getElem?_eq_getElem hlt)
      rw [e]
      have hall : ∀ k b, k ≤ s.num → k / 2 = j → s.slot[k]? = some (some b) → leT s tmin b := by
        intro k b _ hk hb
        rcases div_two_eq.1 hk with e | e
        · rw [e, hl] at hb; cases hb; exact hlel
        · rw [e, Array.getElem?_eq_getElem hlt] at hb
          exact hler b (Option.some.inj hb)
      by_cases hcj : c = j
      · rw [if_pos hcj]
        rw [hcj, hcur] at hmin; cases hmin
        exact ⟨s, rfl, ⟨h, order_of_orderDown ho hcur hall, Frame.refl s, rfl, rfl⟩, .refl s⟩
      · rw [if_neg hcj]
        have hcc := hc.resolve_left hcj
        have hc2 : c ≤ s.num := h.le_num hmin
        have hcj2 := div_two_eq.2 hcc
        have hjc := lt_child hj1 hcj2
        have hc1 : 1 ≤ c := Nat.le_of_lt (Nat.lt_of_le_of_lt hj1 hjc)
        have hnum := (swap_rest s j c cur tmin).1
        obtain ⟨s', e, hfx, hsw⟩ := ih _ (by rw [hnum, ← hd]; exact Nat.sub_lt_sub_left (Nat.lt_of_lt_of_le hjc hc2) hjc)
          (swap_struct h hj1 hj2 hc1 hc2 (Ne.symm hcj) hcur hmin)
          (pushDown_step h ho hj1 hc2 hcj2 hmin hle hall) hc1 (hnum.symm ▸ hc2) rfl
        exact ⟨s', e, ⟨hfx.struct, hfx.order, (swap_frame h hj1 hc1 hcur hmin).trans hfx.frame,
          hfx.num.trans hnum, hfx.depth.trans (swap_rest ..).2.1⟩,
          .swap j c cur tmin (h.lt_size hj2) (h.lt_size hc2) hsw⟩
    · rw [pushDown, dif_neg (Nat.ne_of_gt hj1)]
      simp only [getSlot, hcur]
      rw [if_neg h2j]
      refine ⟨s, rfl, ⟨h, order_of_orderDown ho hcur ?_, Frame.refl s, rfl, rfl⟩, .refl s⟩
      intro k b hk1 hk2
      rcases div_two_eq.1 hk2 with e | e
      · exact absurd (e ▸ hk1) h2j
      · exact absurd (Nat.le_of_succ_le (show 2 * j + 1 ≤ s.num from e ▸ hk1)) h2j

theorem init_inv (n : Nat) : HeapInv (Store.init n) := by
  constructor <;> simp only [Store.init, Array.size_replicate, Array.getElem?_replicate]
  · exact cap_pos 0
  · exact nofun
  · intro i h1 h2; exact absurd (Nat.le_trans h1 h2) (by decide)
  · intro i _ h2; rw [if_pos h2]
  · intro t i _ h; split at h <;> cases h
  · intro t v h; split at h <;> cases h; decide
  · intro i a b h1 h2; exact absurd (Nat.le_trans h1 h2) (by decide)

theorem init_idx {n : Nat} {t : Tid} {v : Int} (h : (Store.init n).idx[t]? = some v) : v = -1 := by
  simp only [Store.init, Array.getElem?_replicate] at h
  split at h <;> cases h
  rfl

theorem grow_spec (s : Store) (ix : Nat) (hsz : s.slot.size = cap s.depth) (hix : ix ≤ cap s.depth)
    (hsh : s.depth > 0 → cap (s.depth - 1) ≤ ix) :
    (grow s ix).slot.size = cap (grow s ix).depth ∧ ix < (grow s ix).slot.size ∧
    ((grow s ix).depth > 0 → cap ((grow s ix).depth - 1) ≤ ix) ∧
    (grow s ix).exp = s.exp ∧ (grow s ix).idx = s.idx ∧ (grow s ix).num = s.num ∧
    (∀ k, k < s.slot.size → (grow s ix).slot[k]? = s.slot[k]?) ∧
    (∀ k, s.slot.size ≤ k → k < (grow s ix).slot.size → (grow s ix).slot[k]? = some none) := by
  unfold grow
  rw [grow_test]
  by_cases hc : cap s.depth ≤ ix
  · have hlt : cap s.depth < cap (s.depth + 1) := by
      have := cap_double s.depth
      have := cap_pos s.depth
      omega
    have e : s.slot.size + (cap (s.depth + 1) - cap s.depth) = cap (s.depth + 1) := by
      rw [hsz]; exact Nat.add_sub_cancel' (Nat.le_of_lt hlt)
    simp only [hc, decide_true, if_true, Array.size_append, Array.size_replicate]
    refine ⟨e, by rw [e]; exact Nat.lt_of_le_of_lt hix hlt, fun _ => by simpa using hc,
      trivial, trivial, trivial, ?_, ?_⟩
    · intro k hk
      rw [Array.getElem?_append_left hk]
    · intro k hk1 hk2
      rw [Array.getElem?_append_right hk1, Array.getElem?_replicate,
        if_pos (Nat.sub_lt_left_of_lt_add hk1 hk2)]
  · simp only [hc, decide_false, Bool.false_eq_true, if_false]
    refine ⟨hsz, hsz ▸ Nat.lt_of_not_le hc, hsh, trivial, trivial, trivial,
      fun _ _ => trivial, ?_⟩
    intro k hk1 hk2; exact absurd hk2 (Nat.not_lt_of_le hk1)

/-- no timer other than `t` changes its state or its expiry -/
def Others (s s' : Store) (t : Tid) : Prop :=
  ∀ u, u ≠ t → (s'.idx[u]? = some (-1) ↔ s.idx[u]? = some (-1)) ∧ (s'.idx[u]? = some 0 ↔ s.idx[u]? = some 0) ∧
    (onHeap s' u ↔ onHeap s u) ∧ expOf s' u = expOf s u

theorem frame_iffs {s s' : Store} {u : Nat}
    (h : s'.idx[u]? = s.idx[u]? ∨ (onHeap s u ∧ onHeap s' u)) :
    (s'.idx[u]? = some (-1) ↔ s.idx[u]? = some (-1)) ∧ (s'.idx[u]? = some 0 ↔ s.idx[u]? = some 0) ∧
      (onHeap s' u ↔ onHeap s u) := by
  rcases h with e | ⟨⟨i, hi1, hi⟩, ⟨i', hi1', hi'⟩⟩
  · unfold onHeap; rw [e]; simp
  · refine ⟨?_, ?_, ?_⟩
    · rw [hi, hi']; simp
    · rw [hi, hi']; simp; omega
    · exact ⟨fun _ => ⟨i, hi1, hi⟩, fun _ => ⟨i', hi1', hi'⟩⟩

theorem register_ok (s : Store) (t : Tid) (e : TS) (h : HeapInv s)
    (ht : s.idx[t]? = some (-1)) :
    ∃ s', register s t e = .ok s' ∧ Moves s s' ∧ HeapInv s' ∧ onHeap s' t ∧ expOf s' t = e ∧
      s'.num = s.num + 1 ∧ s'.idx.size = s.idx.size ∧ Others s s' t := by
  have hts := lt_of_getElem? ht
  have hgetD := getD_idx ht
  -- `s4` is the store handed to `pull_up`, under the name `Moves.place` uses; `hs4` is its unfolded
  -- form, which is how it appears once `register` is unfolded
  obtain ⟨s4, hpl⟩ : ∃ s4, placed { s with exp := s.exp.setIfInBounds t e, num := s.num + 1 } t = s4 := ⟨_, rfl⟩
  have hs4 := hpl
  unfold placed at hs4
  dsimp only at hs4
  unfold register
  simp only [hgetD, bne_self_eq_false, Bool.false_eq_true, if_false]
  obtain ⟨g1, g2, g4, g5, g6, g7, g8, g9⟩ :=
    grow_spec { s with exp := s.exp.setIfInBounds t e, num := s.num + 1 } (s.num + 1) h.size_eq
      (h.size_eq ▸ h.num_lt) (fun hd => Nat.le_succ_of_le (h.shrunk hd))
  generalize grow { s with exp := s.exp.setIfInBounds t e, num := s.num + 1 } (s.num + 1) = s3 at *
  dsimp only at g5 g6 g7 g8 g9
  rw [if_pos g2]
  rw [hs4]
  have e_num : s4.num = s.num + 1 := by rw [← hs4]; exact g7
  have e_depth : s4.depth = s3.depth := by rw [← hs4]
  have e_exp : s4.exp = s.exp.setIfInBounds t e := by rw [← hs4]; exact g5
  have e_ssz : s4.slot.size = s3.slot.size := by rw [← hs4]; exact Array.size_setIfInBounds
  have e_isz : s4.idx.size = s.idx.size := by rw [← hs4, ← g6]; exact Array.size_setIfInBounds
  have e_slot : ∀ k, s4.slot[k]? = if k = s.num + 1 then some (some t) else s3.slot[k]? := by
    intro k; rw [← hs4]; exact getElem?_set g2 _ k
  have e_idx : ∀ u, s4.idx[u]? = if u = t then some ((s.num + 1 : Nat) : Int) else s.idx[u]? := by
    intro u; rw [← hs4, ← g6]; exact getElem?_set (g6 ▸ hts) _ u
  clear hs4
  have e_old : ∀ k, k ≤ s.num → s4.slot[k]? = s.slot[k]? := by
    intro k hk
    rw [e_slot, if_neg (Nat.ne_of_lt (Nat.lt_succ_of_le hk))]
    exact g8 k (Nat.lt_of_le_of_lt hk h.num_lt)
  have e_expOf : ∀ u, u ≠ t → expOf s4 u = expOf s u := by
    intro u hu
    unfold expOf
    rw [e_exp, Array.getD_eq_getD_getElem?, Array.getD_eq_getD_getElem?, Array.getElem?_setIfInBounds, if_neg (Ne.symm hu)]
  -- `t` is in no slot: its index field says so
  have e_ne : ∀ k a, 1 ≤ k → s.slot[k]? = some (some a) → a ≠ t := by
    intro k a hk1 ha hat
    have := (((heapInv_iff s).1 h).1.idx_of_slot hk1 ha).symm.trans (hat ▸ ht)
    cases this
  have hstruct : Struct none s4 := by
    constructor
    · rw [e_ssz, e_depth]; exact g1
    · rw [e_ssz, e_num]; exact g2
    · rw [e_num, e_depth]; exact g4
    · rw [e_isz, e_exp, Array.size_setIfInBounds]; exact h.exp_idx
    · intro k hk1 hk2
      rw [e_num] at hk2
      by_cases hk : k = s.num + 1
      · exact ⟨t, by rw [e_slot, if_pos hk], by rw [e_idx, if_pos rfl, hk]⟩
      have hk2 : k ≤ s.num := Nat.le_of_lt_succ (Nat.lt_of_le_of_ne hk2 hk)
      obtain ⟨a, ha, hia⟩ := h.occupied k hk1 hk2
      exact ⟨a, (e_old k hk2).trans ha, by rw [e_idx, if_neg (e_ne k a hk1 ha), hia]⟩
    · intro k hk1 hk2
      rw [e_num] at hk1
      rw [e_ssz] at hk2
      rw [e_slot, if_neg (Nat.ne_of_gt hk1)]
      by_cases hk : k < s.slot.size
      · rw [g8 k hk]; exact h.tail_null k (Nat.lt_of_succ_lt hk1) hk
      · exact g9 k (Nat.le_of_not_lt hk) hk2
    · intro u k _ hk1 hu
      rw [e_idx] at hu
      rw [e_num]
      by_cases hut : u = t
      · rw [if_pos hut] at hu
        cases Int.ofNat.inj (Option.some.inj hu)
        exact ⟨Nat.le_refl _, by rw [e_slot, if_pos rfl, hut]⟩
      · rw [if_neg hut] at hu
        obtain ⟨q1, q2⟩ := h.back u k hk1 hu
        exact ⟨Nat.le_succ_of_le q1, (e_old k q1).trans q2⟩
    · intro _ _ _ _; exact fun e => nomatch e
    · intro u v hu
      rw [e_idx] at hu
      by_cases hut : u = t
      · rw [if_pos hut] at hu; cases hu; exact neg_one_le_cast _
      · rw [if_neg hut] at hu; exact h.idx_ge u v hu
  have horder : OrderUp s4 (s.num + 1) := by
    constructor
    · intro i a b hi1 hi2 hi3 ha hb
      rw [e_num] at hi2
      have hi2 : i ≤ s.num := Nat.le_of_lt_succ (Nat.lt_of_le_of_ne hi2 hi3)
      have hi4 : i / 2 ≤ s.num := Nat.le_trans (Nat.div_le_self i 2) hi2
      rw [e_old _ hi4] at ha
      rw [e_old _ hi2] at hb
      unfold leT
      rw [e_expOf a (e_ne (i / 2) a ((Nat.le_div_iff_mul_le Nat.two_pos).2 hi1) ha),
        e_expOf b (e_ne i b (Nat.le_of_succ_le hi1) hb)]
      exact h.order i a b hi1 hi2 ha hb
    · intro k a b hk1 hk2 hk3
      rw [e_num] at hk2
      exact absurd (lt_child (Nat.succ_pos _) hk3) (Nat.not_lt_of_le hk2)
  obtain ⟨s', hpu, hfx, hm⟩ := pullUp_ok hstruct horder (Nat.le_of_eq e_num.symm)
  rw [hpu]
  refine ⟨s', rfl, .place t e h (hpl ▸ hm), (heapInv_iff s').2 ⟨hfx.struct, hfx.order⟩, ?_, ?_, by rw [hfx.num, e_num],
    by rw [hfx.frame.size, e_isz], ?_⟩
  · rcases hfx.frame.idx t with e1 | ⟨_, e2⟩
    · exact ⟨s.num + 1, Nat.succ_pos _, by rw [e1, e_idx, if_pos rfl]⟩
    · exact e2
  · unfold expOf
    rw [hfx.frame.exp, e_exp, Array.getD_eq_getD_getElem?, getElem?_set (h.exp_idx ▸ hts), if_pos rfl]
    rfl
  · intro u hu
    have hfr : s'.idx[u]? = s.idx[u]? ∨ (onHeap s u ∧ onHeap s' u) := by
      rcases hfx.frame.idx u with e1 | ⟨e2, e3⟩
      · left; rw [e1, e_idx, if_neg hu]
      · right
        refine ⟨?_, e3⟩
        unfold onHeap at e2 ⊢
        rw [e_idx, if_neg hu] at e2; exact e2
    obtain ⟨q1, q2, q3⟩ := frame_iffs hfr
    refine ⟨q1, q2, q3, ?_⟩
    rw [← e_expOf u hu]
    unfold expOf; rw [hfx.frame.exp]

theorem grand_of_order {g s} (h : Struct g s) (ho : Order s) (j : Nat) : Grand s j := by
  intro k a b h1 h2 h3 ha hb
  have hjk : j < k := lt_child (Nat.le_of_succ_le h1) h3
  have hj2 : j ≤ s.num := Nat.le_trans (Nat.le_of_lt hjk) h2
  obtain ⟨m, hm, _⟩ := h.occupied j (Nat.le_of_succ_le h1) hj2
  exact leT_trans (ho j a m h1 hj2 ha hm) (ho k m b (Nat.le_trans h1 (Nat.le_of_lt hjk)) h2 (h3 ▸ hm) hb)

theorem orderDown_of_order {g s} (h : Struct g s) (ho : Order s) (j : Nat) : OrderDown s j :=
  ⟨fun i a b h1 h2 _ ha hb => ho i a b h1 h2 ha hb, grand_of_order h ho j⟩

theorem pullUp_ex {g s j} (h : Struct g s) (ho : OrderEx s j) (hj1 : 1 ≤ j) (hj2 : j ≤ s.num) :
    ∃ s', pullUp s j = some s' ∧ Struct g s' ∧ OrderDown s' j ∧ Frame s s' ∧ s'.num = s.num ∧
      Moves s s' := by
  by_cases hj : j ≤ 1
  · rw [pullUp, dif_pos hj]
    refine ⟨s, rfl, h, ⟨?_, ho.2⟩, Frame.refl s, rfl, .refl s⟩
    intro i a b h1 h2 h3 ha hb
    exact ho.1 i a b h1 h2 (fun e => Nat.not_le_of_lt (e ▸ h1) hj) h3 ha hb
  · have hj1' : 2 ≤ j := Nat.lt_of_not_le hj
    obtain ⟨hq1, hq⟩ := parent_lt hj1'
    obtain ⟨p, hp, _⟩ := h.occupied (j / 2) hq1 (Nat.le_trans (Nat.le_of_lt hq) hj2)
    obtain ⟨c, hc, _⟩ := h.occupied j hj1 hj2
    rcases Bool.eq_false_or_eq_true (gtT s p c) with hgt | hgt
    · have hcp : leT s c p := leT_of_gtT hgt
      have hup : OrderUp s j := by
        refine ⟨?_, ho.2⟩
        intro i a b h1 h2 h3 ha hb
        by_cases hij : i / 2 = j
        · rw [hij, hc] at ha; cases ha
          exact leT_trans hcp (ho.2 i p b hj1' h2 hij hp hb)
        · exact ho.1 i a b h1 h2 h3 hij ha hb
      obtain ⟨s', e, hfx, hsw⟩ := pullUp_ok h hup hj2
      exact ⟨s', e, hfx.struct, orderDown_of_order hfx.struct hfx.order j, hfx.frame, hfx.num, hsw⟩
    · rw [pullUp, dif_neg hj]
      simp only [getSlot, hp, hc, hgt, Bool.not_false, if_true]
      refine ⟨s, rfl, h, ⟨?_, ho.2⟩, Frame.refl s, rfl, .refl s⟩
      intro i a b h1 h2 h3 ha hb
      by_cases hij : i = j
      · subst hij
        rw [hp] at ha; rw [hc] at hb; cases ha; cases hb
        exact hgt
      · exact ho.1 i a b h1 h2 hij h3 ha hb

theorem removeAt_eq (s : Store) (t : Tid) (i : Nat) (mt : Tid) (hi : i ≤ s.num)
    (hsi : s.slot[i]? = some (some t)) (hsn : s.slot[s.num]? = some (some mt)) :
    removeAt s t i =
      if i != (cut s i mt).num + 1 then
        match pullUp (cut s i mt) i with
        | none => .fault
        | some s1 =>
          match pushDown s1 i with
          | none => .fault
          | some s2 => .ok s2
      else .ok (cut s i mt) := by
  unfold removeAt
  rw [if_neg (by omega)]
  simp only [getSlot, hsi, hsn, bne_self_eq_false, Bool.false_eq_true, if_false]
  rfl

theorem cap_pred_double {d : Nat} (hd : 0 < d) : 2 * cap (d - 1) ≤ cap d := by
  have := cap_double (d - 1)
  rwa [Nat.sub_add_cancel hd] at this

theorem removeLevel_size {s : Store} (h : cap (s.depth - 1) ≤ s.slot.size) :
    (removeLevel s).slot.size = cap (s.depth - 1) := by
  simp only [removeLevel, Array.size_extract, Nat.min_eq_left h, Nat.sub_zero]

theorem removeLevel_slot {s : Store} {k : Nat} (hk : k < cap (s.depth - 1)) :
    (removeLevel s).slot[k]? = s.slot[k]? := by
  simp only [removeLevel, Array.getElem?_extract, Nat.sub_zero, Nat.zero_add]
  by_cases hks : k < s.slot.size
  · rw [if_pos (Nat.lt_min.2 ⟨hk, hks⟩)]
  · rw [Array.getElem?_eq_none (Nat.le_of_not_lt hks), ite_self]

theorem cut_spec (s : Store) (i : Nat) (mt : Tid) (h : HeapInv s) (hi2 : i ≤ s.num) :
    (cut s i mt).num = s.num - 1 ∧ (cut s i mt).exp = s.exp ∧
    (cut s i mt).idx = s.idx.setIfInBounds mt (i : Int) ∧
    (cut s i mt).slot.size = cap (cut s i mt).depth ∧
    s.num - 1 < (cut s i mt).slot.size ∧
    (cut s i mt).slot.size ≤ s.slot.size ∧
    ((cut s i mt).depth > 0 → cap ((cut s i mt).depth - 1) ≤ s.num - 1) ∧
    (∀ k, k < (cut s i mt).slot.size → (cut s i mt).slot[k]? =
        if k = s.num then some none else if k = i then some (some mt) else s.slot[k]?) := by
  have hsz := h.size_eq
  have hnl := h.num_lt
  have hss : ((s.slot.setIfInBounds i (some mt)).setIfInBounds s.num none).size = s.slot.size :=
    Array.size_setIfInBounds.trans Array.size_setIfInBounds
  have hget : ∀ k, ((s.slot.setIfInBounds i (some mt)).setIfInBounds s.num none)[k]? =
      if k = s.num then some none else if k = i then some (some mt) else s.slot[k]? := fun k => by
    rw [getElem?_set (by rw [Array.size_setIfInBounds]; exact hnl), getElem?_set (Nat.lt_of_le_of_lt hi2 hnl)]
  dsimp only [cut]
  generalize (s.slot.setIfInBounds i (some mt)).setIfInBounds s.num none = sl at hss hget ⊢
  by_cases hc : s.depth > 0 ∧ s.num = 1 <<< (s.depth * bits)
  · rw [if_pos hc]
    obtain ⟨hd, hn⟩ := hc
    rw [shrink_test s.depth hd] at hn
    -- the heap fills the lower half exactly: after the removal it fits the smaller tree
    have h2 := cap_pred_double hd
    have hp := cap_pos (s.depth - 1)
    have hle : cap (s.depth - 1) ≤ s.slot.size := by omega
    have hsize := removeLevel_size (s := { s with slot := sl, idx := s.idx.setIfInBounds mt (i : Int) })
      (hss.symm ▸ hle)
    refine ⟨rfl, rfl, rfl, hsize, by rw [hsize, hn]; exact Nat.sub_lt hp Nat.one_pos, hsize ▸ hle, fun hd2 => ?_,
      fun k hk => ?_⟩
    · replace hd2 : 0 < s.depth - 1 := hd2
      have := cap_pred_double hd2
      have := cap_pos (s.depth - 1 - 1)
      show cap (s.depth - 1 - 1) ≤ s.num - 1
      omega
    · rw [removeLevel_slot (hsize ▸ hk)]
      exact hget k
  · rw [if_neg hc]
    refine ⟨rfl, rfl, rfl, hss.trans hsz, hss ▸ Nat.lt_of_le_of_lt (Nat.sub_le _ _) hnl, Nat.le_of_eq hss,
      fun hd => ?_, fun k _ => hget k⟩
    replace hd : 0 < s.depth := hd
    have := h.shrunk hd
    rw [shrink_test s.depth hd] at hc
    show cap (s.depth - 1) ≤ s.num - 1
    omega

theorem cut_struct {s : Store} {t i mt : Nat} (h : HeapInv s) (hi1 : 1 ≤ i) (hi2 : i ≤ s.num)
    (hsi : s.slot[i]? = some (some t)) (hsn : s.slot[s.num]? = some (some mt)) :
    Struct (some t) (cut s i mt) ∧ Frame s (cut s i mt) := by
  have hst := ((heapInv_iff s).1 h).1
  have hn1 : 1 ≤ s.num := Nat.le_trans hi1 hi2
  have hit := hst.idx_of_slot hi1 hsi
  have himt := hst.idx_of_slot hn1 hsn
  obtain ⟨c1, c2, c3, c4, c5, c6, c7, c8⟩ := cut_spec s i mt h hi2
  generalize cut s i mt = c at c1 c2 c3 c4 c5 c6 c7 c8 ⊢
  have c_idx : ∀ u, c.idx[u]? = if u = mt then some (i : Int) else s.idx[u]? := fun u => by
    rw [c3, getElem?_set (lt_of_getElem? himt)]
  have c_lt : ∀ {k}, k < s.num → k < c.slot.size := fun hk =>
    Nat.lt_of_le_of_lt (Nat.le_sub_one_of_lt hk) c5
  have c_same : ∀ k, k < s.num → k ≠ i → c.slot[k]? = s.slot[k]? := fun k hk1 hk2 => by
    rw [c8 k (c_lt hk1), if_neg (Nat.ne_of_lt hk1), if_neg hk2]
  have c_i : i < s.num → c.slot[i]? = some (some mt) := fun hi => by
    rw [c8 i (c_lt hi), if_neg (Nat.ne_of_lt hi), if_pos rfl]
  have hlt : ∀ {k}, k ≤ c.num → k < s.num := fun hk =>
    Nat.lt_of_le_of_lt (c1 ▸ hk) (Nat.sub_lt hn1 Nat.one_pos)
  refine ⟨⟨c4, c1 ▸ c5, c1 ▸ c7, by rw [c2, c3, Array.size_setIfInBounds]; exact h.exp_idx,
    ?_, ?_, ?_, ?_, ?_⟩, c2, by rw [c3, Array.size_setIfInBounds], ?_⟩
  · intro k hk1 hk2
    have hk := hlt hk2
    by_cases hki : k = i
    · exact ⟨mt, hki ▸ c_i (hki ▸ hk), by rw [c_idx, if_pos rfl, hki]⟩
    obtain ⟨a, ha, hia⟩ := h.occupied k hk1 (Nat.le_of_lt hk)
    have : a ≠ mt := fun e =>
      Nat.ne_of_lt hk (hst.slot_inj hk1 hn1 ha (e ▸ hsn))
    exact ⟨a, (c_same k hk hki).trans ha, by rw [c_idx, if_neg this, hia]⟩
  · intro k hk1 hk2
    rw [c8 k hk2]
    by_cases hkn : k = s.num
    · rw [if_pos hkn]
    have hnk : s.num < k := by omega
    rw [if_neg hkn, if_neg (Nat.ne_of_gt (Nat.lt_of_le_of_lt hi2 hnk))]
    exact h.tail_null k hnk (Nat.lt_of_lt_of_le hk2 c6)
  · intro u k hu hk1 hik
    have hut : u ≠ t := fun e => hu (by rw [e])
    rw [c_idx] at hik
    by_cases humt : u = mt
    · rw [if_pos humt] at hik
      cases Int.ofNat.inj (Option.some.inj hik)
      have hin : i ≠ s.num := fun e => hut (by rw [e, hsn] at hsi; cases hsi; exact humt)
      have hi : i < s.num := Nat.lt_of_le_of_ne hi2 hin
      exact ⟨c1 ▸ Nat.le_sub_one_of_lt hi, humt ▸ c_i hi⟩
    rw [if_neg humt] at hik
    obtain ⟨q1, q2⟩ := h.back u k hk1 hik
    have hkn : k ≠ s.num := fun e => humt (by rw [e, hsn] at q2; cases q2; rfl)
    have hki : k ≠ i := fun e => hut (by rw [e, hsi] at q2; cases q2; rfl)
    have hk : k < s.num := Nat.lt_of_le_of_ne q1 hkn
    exact ⟨c1 ▸ Nat.le_sub_one_of_lt hk, (c_same k hk hki).trans q2⟩
  · intro k u hk1 hku e
    cases e
    rw [c8 k (lt_of_getElem? hku)] at hku
    by_cases hkn : k = s.num
    · rw [if_pos hkn] at hku; cases hku
    rw [if_neg hkn] at hku
    by_cases hki : k = i
    · rw [if_pos hki] at hku
      cases hku
      exact hkn (hki.trans (Int.ofNat.inj (Option.some.inj (hit.symm.trans himt))))
    rw [if_neg hki] at hku
    exact hki (hst.slot_inj hk1 hi1 hku hsi)
  · intro u v hu
    rw [c_idx] at hu
    by_cases humt : u = mt
    · rw [if_pos humt] at hu; cases hu; exact neg_one_le_cast i
    rw [if_neg humt] at hu
    exact h.idx_ge u v hu
  · intro u
    rw [c_idx]
    by_cases humt : u = mt
    · exact .inr ⟨⟨s.num, hn1, humt ▸ himt⟩, i, hi1, by rw [c_idx, if_pos humt]⟩
    exact .inl (by rw [if_neg humt])

theorem cut_order {s : Store} {t i mt : Nat} (h : HeapInv s) (hi1 : 1 ≤ i) (hi2 : i ≤ s.num)
    (hsi : s.slot[i]? = some (some t)) :
    (i = s.num → Order (cut s i mt)) ∧ OrderEx (cut s i mt) i := by
  obtain ⟨c1, c2, _, _, c5, _, _, c8⟩ := cut_spec s i mt h hi2
  generalize cut s i mt = c at c1 c2 c5 c8 ⊢
  have c_le : ∀ a b, leT s a b → leT c a b := fun a b hab => by
    unfold leT expOf; rw [c2]; exact hab
  have hn1 : 1 ≤ s.num := Nat.le_trans hi1 hi2
  have c_same : ∀ k, k < s.num → k ≠ i → c.slot[k]? = s.slot[k]? := fun k hk1 hk2 => by
    rw [c8 k (Nat.lt_of_le_of_lt (Nat.le_sub_one_of_lt hk1) c5), if_neg (Nat.ne_of_lt hk1), if_neg hk2]
  have hlt : ∀ {k}, k ≤ c.num → k < s.num := fun hk =>
    Nat.lt_of_le_of_lt (c1 ▸ hk) (Nat.sub_lt hn1 Nat.one_pos)
  have half : ∀ {k}, k < s.num → k / 2 < s.num := fun hk => Nat.lt_of_le_of_lt (Nat.div_le_self _ 2) hk
  refine ⟨fun hin k a b hk1 hk2 ha hb => ?_, fun k a b hk1 hk2 hk3 hk4 ha hb => ?_,
    fun k a b hk1 hk2 hk3 ha hb => ?_⟩
  · have hk := hlt hk2
    rw [c_same _ (half hk) (Nat.ne_of_lt (hin ▸ half hk))] at ha
    rw [c_same _ hk (Nat.ne_of_lt (hin ▸ hk))] at hb
    exact c_le a b (h.order k a b hk1 (Nat.le_of_lt hk) ha hb)
  · have hk := hlt hk2
    rw [c_same _ (half hk) hk4] at ha
    rw [c_same _ hk hk3] at hb
    exact c_le a b (h.order k a b hk1 (Nat.le_of_lt hk) ha hb)
  · have hk := hlt hk2
    have hik := lt_child hi1 hk3
    rw [c_same _ (half (Nat.lt_trans hik hk)) (Nat.ne_of_lt (Nat.div_lt_self hi1 (Nat.le_refl 2)))] at ha
    rw [c_same _ hk (Nat.ne_of_gt hik)] at hb
    exact c_le a b (leT_trans (h.order i a t hk1 hi2 ha hsi)
      (h.order k t b (Nat.le_trans hk1 (Nat.le_of_lt hik)) (Nat.le_of_lt hk) (hk3 ▸ hsi) hb))

theorem removeAt_ok (s : Store) (t : Tid) (i : Nat) (h : HeapInv s) (hi1 : 1 ≤ i)
    (ht : s.idx[t]? = some (i : Int)) :
    ∃ s', removeAt s t i = .ok s' ∧ Struct (some t) s' ∧ Order s' ∧ s'.num + 1 = s.num ∧ Frame s s' ∧
      Moves s s' := by
  obtain ⟨hi2, hsi⟩ := h.back t i hi1 ht
  obtain ⟨mt, hsn, _⟩ := h.occupied s.num (Nat.le_trans hi1 hi2) (Nat.le_refl _)
  rw [removeAt_eq s t i mt hi2 hsi hsn]
  obtain ⟨hstruct, hframe⟩ := cut_struct h hi1 hi2 hsi hsn
  obtain ⟨hord, hex⟩ := cut_order (mt := mt) h hi1 hi2 hsi
  obtain ⟨c1, _⟩ := cut_spec s i mt h hi2
  generalize hc : cut s i mt = c at c1 hstruct hframe hord hex ⊢
  have hn : c.num + 1 = s.num := by omega
  by_cases hin : i = s.num
  · rw [show (i != c.num + 1) = false by rw [hn, hin]; exact bne_self_eq_false _]
    exact ⟨c, rfl, hstruct, hord hin, hn, hframe, .cut i mt h hi2 (hc ▸ .refl c)⟩
  · rw [show (i != c.num + 1) = true by rw [hn]; exact bne_iff_ne.2 hin, if_pos rfl]
    obtain ⟨s1, e1, st1, od1, fr1, n1, sw1⟩ := pullUp_ex hstruct hex hi1 (by omega)
    obtain ⟨s2, e2, hfx, sw2⟩ := pushDown_ok st1 od1 hi1 (by omega)
    rw [e1]; dsimp only
    rw [e2]
    exact ⟨s2, rfl, hfx.struct, hfx.order, by rw [hfx.num, n1]; exact hn, (hframe.trans fr1).trans hfx.frame,
      .cut i mt h hi2 (hc ▸ sw1.trans sw2)⟩

def setIdx (s : Store) (t : Tid) (v : Int) : Store := { s with idx := s.idx.setIfInBounds t v }

theorem setIdx_idx {s : Store} {t : Tid} (ht : t < s.idx.size) (v : Int) (u : Nat) :
    (setIdx s t v).idx[u]? = if u = t then some v else s.idx[u]? := getElem?_set ht v u

theorem setIdx_inv {t s v} (hst : Struct (some t) s) (ho : Order s) (hts : t < s.idx.size) (hv1 : -1 ≤ v)
    (hv2 : v ≤ 0) : HeapInv (setIdx s t v) := by
  have hidx := setIdx_idx hts v
  constructor
  · exact hst.size_eq
  · exact hst.num_lt
  · exact hst.shrunk
  · simp [setIdx, hst.exp_idx]
  · intro k hk1 hk2
    obtain ⟨a, ha, hia⟩ := hst.occupied k hk1 hk2
    refine ⟨a, ha, ?_⟩
    have : a ≠ t := fun e => hst.notin k a hk1 ha (by rw [e])
    rw [hidx, if_neg this]; exact hia
  · exact hst.tail_null
  · intro u k hk1 hu
    rw [hidx] at hu
    by_cases hut : u = t
    · rw [if_pos hut] at hu; cases hu; omega
    · rw [if_neg hut] at hu
      exact hst.back u k (fun e => hut (by cases e; rfl)) hk1 hu
  · intro u w hu
    rw [hidx] at hu
    by_cases hut : u = t
    · rw [if_pos hut] at hu; cases hu; exact hv1
    · rw [if_neg hut] at hu
      exact hst.idx_ge u w hu
  · exact ho

theorem remove_ok (s : Store) (t : Tid) (i : Nat) (v : Int) (h : HeapInv s) (hi1 : 1 ≤ i)
    (ht : s.idx[t]? = some (i : Int)) (hv1 : -1 ≤ v) (hv2 : v ≤ 0) :
    ∃ s1, removeAt s t i = .ok s1 ∧ HeapInv (setIdx s1 t v) ∧ (setIdx s1 t v).idx[t]? = some v ∧
      (setIdx s1 t v).num + 1 = s.num ∧ (setIdx s1 t v).idx.size = s.idx.size ∧
      (setIdx s1 t v).exp = s.exp ∧ Moves s (setIdx s1 t v) ∧
      ∀ u, u ≠ t → ((setIdx s1 t v).idx[u]? = s.idx[u]? ∨ (onHeap s u ∧ onHeap (setIdx s1 t v) u)) := by
  obtain ⟨s1, e1, hst, ho, hn, hfr, hm⟩ := removeAt_ok s t i h hi1 ht
  have hts := lt_of_getElem? ht
  have hts1 : t < s1.idx.size := hfr.size ▸ hts
  refine ⟨s1, e1, setIdx_inv hst ho hts1 hv1 hv2, by rw [setIdx_idx hts1, if_pos rfl], hn,
    Array.size_setIfInBounds.trans hfr.size, hfr.exp, hm.trans (.fields (s1 := setIdx s1 t v) rfl rfl (.refl _)), ?_⟩
  intro u hu
  unfold onHeap
  rw [setIdx_idx hts1, if_neg hu]
  exact hfr.idx u

theorem expOf_congr {s s' : Store} (h : s'.exp = s.exp) (u : Tid) : expOf s' u = expOf s u := by
  unfold expOf; rw [h]

theorem unregister_ok (s : Store) (batch : List Tid) (t : Tid) (h : HeapInv s) (ht : onHeap s t) :
    ∃ s', unregister s batch t = (.ok s', batch) ∧ Moves s s' ∧ HeapInv s' ∧ s'.idx[t]? = some (-1) ∧
      s'.num + 1 = s.num ∧ s'.idx.size = s.idx.size ∧ Others s s' t := by
  obtain ⟨i, hi1, hti⟩ := ht
  obtain ⟨s1, e1, hinv, h1, h2, h3, h4, hm, h5⟩ := remove_ok s t i (-1) h hi1 hti (by omega) (by omega)
  have hgetD := getD_idx hti
  have hb1 : ((i : Int) == -1) = false := by
    rw [beq_eq_false_iff_ne]; omega
  have hb2 : ((i : Int) == 0) = false := by
    rw [beq_eq_false_iff_ne]; omega
  refine ⟨setIdx s1 t (-1), ?_, hm, hinv, h1, h2, h3, ?_⟩
  · unfold unregister
    simp only [hgetD, hb1, hb2, Bool.false_eq_true, if_false, Int.toNat_natCast, e1]
    rfl
  · intro u hu
    obtain ⟨q1, q2, q3⟩ := frame_iffs (h5 u hu)
    exact ⟨q1, q2, q3, expOf_congr h4 u⟩

theorem root_le {g s r} (h : Struct g s) (ho : Order s) (hr : s.slot[1]? = some (some r)) :
    ∀ i b, 1 ≤ i → i ≤ s.num → s.slot[i]? = some (some b) → leT s r b := by
  intro i
  induction i using Nat.strongRecOn with
  | _ i ih =>
    intro b hi1 hi2 hb
    by_cases hi : i = 1
    · subst hi; rw [hr] at hb; cases hb; exact le_refl _
    · have hi2' : 2 ≤ i := Nat.lt_of_le_of_ne hi1 (Ne.symm hi)
      obtain ⟨hq1, hq⟩ := parent_lt hi2'
      have hq2 : i / 2 ≤ s.num := Nat.le_trans (Nat.le_of_lt hq) hi2
      obtain ⟨a, ha, _⟩ := h.occupied (i / 2) hq1 hq2
      exact leT_trans (ih (i / 2) hq a hq1 hq2 ha) (ho i a b hi2' hi2 ha hb)

theorem root_le_onHeap {s r} (h : HeapInv s) (hr : s.slot[1]? = some (some r)) (t : Tid) (ht : onHeap s t) :
    leT s r t := by
  obtain ⟨hs, ho⟩ := (heapInv_iff s).1 h
  obtain ⟨i, hi1, hti⟩ := ht
  obtain ⟨hi2, hsi⟩ := h.back t i hi1 hti
  exact root_le hs ho hr i t hi1 hi2 hsi

theorem onHeap_not_zero {s : Store} {t : Tid} (ho : onHeap s t) : s.idx[t]? ≠ some 0 := by
  obtain ⟨i, hi, e⟩ := ho
  rw [e]; intro h
  have : (i : Int) = 0 := Option.some.inj h
  omega

theorem num_pos_of_onHeap {s t} (h : HeapInv s) (ht : onHeap s t) : 1 ≤ s.num := by
  obtain ⟨i, hi1, hti⟩ := ht
  have := (h.back t i hi1 hti).1
  omega

theorem soonest_zero {s : Store} (hn : s.num = 0) : soonest s = none := by
  unfold soonest; rw [if_pos hn]

theorem soonest_eq {s : Store} (h : HeapInv s) : (s.num = 0 ∧ soonest s = none) ∨
    ∃ r, s.idx[r]? = some 1 ∧ s.slot[1]? = some (some r) ∧ soonest s = some (expOf s r) := by
  by_cases hn : s.num = 0
  · exact .inl ⟨hn, soonest_zero hn⟩
  · obtain ⟨r, hr, hir⟩ := h.occupied 1 (Nat.le_refl _) (Nat.pos_of_ne_zero hn)
    exact .inr ⟨r, hir, hr, by unfold soonest; rw [if_neg hn]; simp only [getSlot, hr]⟩

theorem soonest_some {s : Store} (h : HeapInv s) {a : TS} (hs : soonest s = some a) :
    ∃ r, onHeap s r ∧ expOf s r = a := by
  rcases soonest_eq h with ⟨_, e⟩ | ⟨r, hir, _, e⟩
  · rw [e] at hs; cases hs
  · exact ⟨r, ⟨1, Nat.le_refl _, hir⟩, Option.some.inj (e.symm.trans hs)⟩

theorem soonest_none {s : Store} (h : HeapInv s) (hs : soonest s = none) : s.num = 0 := by
  rcases soonest_eq h with ⟨hn, _⟩ | ⟨r, _, _, e⟩
  · exact hn
  · rw [e] at hs; cases hs

/-- a timer on the expired batch (index 0) sits in no slot: it may play the ghost -/
theorem Struct.of_zero {s : Store} {t : Tid} (h : HeapInv s) (h0 : s.idx[t]? = some 0) : Struct (some t) s := by
  refine ⟨h.size_eq, h.num_lt, h.shrunk, h.exp_idx, h.occupied, h.tail_null, fun u i _ => h.back u i, ?_, h.idx_ge⟩
  intro k u hk hu e
  cases e
  have : (k : Int) = 0 := Option.some.inj ((((heapInv_iff s).1 h).1.idx_of_slot hk hu).symm.trans h0)
  omega

/-- the batch branch of `iv_timer_unregister` and `popExpired`: index 0 becomes −1 -/
theorem expire_inv {s : Store} {t : Tid} (h : HeapInv s) (h0 : s.idx[t]? = some 0) : HeapInv (setIdx s t (-1)) :=
  setIdx_inv (Struct.of_zero h h0) ((heapInv_iff s).1 h).2 (lt_of_getElem? h0) (by omega) (by omega)

theorem setIdx_others (s : Store) {t : Tid} (ht : t < s.idx.size) (v : Int) : Others s (setIdx s t v) t := by
  intro u hu
  unfold onHeap
  rw [setIdx_idx ht, if_neg hu]
  exact ⟨Iff.rfl, Iff.rfl, Iff.rfl, rfl⟩

theorem nonneg_idx {s : Store} {t : Tid} : 0 ≤ s.idx.getD t (-1) ↔ (onHeap s t ∨ s.idx[t]? = some 0) := by
  rw [Array.getD_eq_getD_getElem?]
  constructor
  · intro hv
    cases h : s.idx[t]? with
    | none => rw [h] at hv; cases hv
    | some v =>
      rw [h] at hv
      have hv : 0 ≤ v := hv
      by_cases h0 : v = 0
      · exact .inr (h0 ▸ rfl)
      · exact .inl ⟨v.toNat, by omega, by rw [h]; congr 1; omega⟩
  · rintro (⟨i, -, e⟩ | e) <;> rw [e] <;> simp

theorem getD_unmark (idx : Array Int) (t u : Nat) :
    (idx.setIfInBounds t (-1)).getD u (-1) = if u = t then -1 else idx.getD u (-1) := by
  simp only [Array.getD_eq_getD_getElem?, Array.getElem?_setIfInBounds]
  by_cases hut : t = u
  · subst hut
    simp
    split <;> simp_all
  · have : ¬ u = t := fun h => hut h.symm
    simp [hut, this]

/-- the batch branch of `iv_timer_unregister` and `popExpired` unregisters `t` and no other timer -/
theorem nonneg_unmark (idx : Array Int) (t u : Nat) :
    0 ≤ (idx.setIfInBounds t (-1)).getD u (-1) ↔ (u ≠ t ∧ 0 ≤ idx.getD u (-1)) := by
  rw [getD_unmark]
  split
  · next hx => simp [hx]
  · next hx => simp [hx]

theorem nonneg_others {h h' : Store} {t u : Nat} (ho : Others h h' t) (hut : u ≠ t) :
    0 ≤ h'.idx.getD u (-1) ↔ 0 ≤ h.idx.getD u (-1) := by
  rw [nonneg_idx, nonneg_idx, (ho u hut).2.2.1, (ho u hut).2.1]

theorem nonneg_register {h h' : Store} {t : Nat} (ho : Others h h' t) (hon : onHeap h' t) (u : Nat) :
    0 ≤ h'.idx.getD u (-1) ↔ (u = t ∨ 0 ≤ h.idx.getD u (-1)) := by
  by_cases hut : u = t
  · exact iff_of_true (hut ▸ nonneg_idx.2 (.inl hon)) (.inl hut)
  · rw [nonneg_others ho hut, or_iff_right hut]

theorem nonneg_unregister {h h' : Store} {t : Nat} (ho : Others h h' t) (ht : h'.idx[t]? = some (-1)) (u : Nat) :
    0 ≤ h'.idx.getD u (-1) ↔ (u ≠ t ∧ 0 ≤ h.idx.getD u (-1)) := by
  by_cases hut : u = t
  · exact iff_of_false (by rw [hut, getD_idx ht]; decide) (fun h => h.1 hut)
  · rw [nonneg_others ho hut, and_iff_right hut]

theorem register_cases {s : Store} {t : Tid} (e : TS) (h : HeapInv s) (ht : t < s.idx.size) :
    (s.idx[t]? = some (-1) ∧ ∃ s', register s t e = .ok s' ∧ HeapInv s' ∧ onHeap s' t ∧ expOf s' t = e ∧
      s'.num = s.num + 1 ∧ s'.idx.size = s.idx.size ∧ Others s s' t) ∨
    register s t e = .fatal s "iv_timer_register: called with timer still on the heap" := by
  have hidx := getElem?_of_lt_getD ht
  by_cases hfree : s.idx.getD t (-1) = -1
  · rw [hfree] at hidx
    obtain ⟨s', heq, -, r⟩ := register_ok s t e h hidx
    exact .inl ⟨hidx, s', heq, r⟩
  · right
    unfold register
    rw [if_pos (by simpa using hfree)]

theorem unregister_cases {s : Store} (b : List Tid) {t : Tid} (h : HeapInv s) (ht : t < s.idx.size) :
    unregister s b t = (.fatal s "iv_timer_unregister: called with timer not on the heap", b) ∨
    (s.idx[t]? = some 0 ∧ unregister s b t = (.ok { s with idx := s.idx.setIfInBounds t (-1) }, b.erase t)) ∨
    (onHeap s t ∧ ∃ s', unregister s b t = (.ok s', b) ∧ HeapInv s' ∧ s'.idx[t]? = some (-1) ∧
      s'.num + 1 = s.num ∧ s'.idx.size = s.idx.size ∧ Others s s' t) := by
  have hidx := getElem?_of_lt_getD ht
  have hge := h.idx_ge t _ hidx
  by_cases hi1 : s.idx.getD t (-1) = -1
  · left; unfold unregister; simp [hi1]
  by_cases hi0 : s.idx.getD t (-1) = 0
  · refine .inr (.inl ⟨hi0 ▸ hidx, ?_⟩)
    unfold unregister; simp [hi0]
  · have hon : onHeap s t := (nonneg_idx.1 (by omega)).resolve_right fun e => hi0 (getD_idx e)
    obtain ⟨s', heq, -, r⟩ := unregister_ok s b t h hon
    exact .inr (.inr ⟨hon, s', heq, r⟩)

def CollectPost (s : Store) (now : TS) (s' : Store) (batch : List Tid) : Prop :=
  HeapInv s' ∧
  batch.Pairwise (fun a b => (expOf s a).le (expOf s b)) ∧
  batch.Nodup ∧
  (∀ t, t ∈ batch ↔ (onHeap s t ∧ (expOf s t).le now)) ∧
  (∀ t, onHeap s' t ↔ (onHeap s t ∧ (expOf s t).gt now = true)) ∧
  (∀ t, t ∈ batch → s'.idx[t]? = some 0) ∧
  (∀ t, expOf s' t = expOf s t) ∧
  (∀ t, ¬ onHeap s t → s'.idx[t]? = s.idx[t]?)

theorem collectPost_nil {s now} (h : HeapInv s) (hall : ∀ t, onHeap s t → (expOf s t).gt now = true) :
    CollectPost s now s [] := by
  refine ⟨h, List.Pairwise.nil, List.nodup_nil, ?_, ?_, ?_, fun _ => rfl, fun _ _ => rfl⟩
  · intro t
    constructor
    · intro ht; cases ht
    · rintro ⟨h1, h2⟩
      have := hall t h1
      unfold TS.le at h2
      rw [h2] at this; cases this
  · intro t
    exact ⟨fun ht => ⟨ht, hall t ht⟩, fun ht => ht.1⟩
  · intro t ht; cases ht

theorem collect_spec (now : TS) : ∀ (fuel : Nat) (s : Store) (acc : List Tid), HeapInv s → s.num ≤ fuel →
    ∃ s' batch, collect s now fuel acc = (.ok s', acc ++ batch) ∧ Moves s s' ∧ s'.num + batch.length = s.num ∧
      CollectPost s now s' batch := by
  intro fuel
  induction fuel with
  | zero =>
    intro s acc h hn
    refine ⟨s, [], by simp [collect], .refl s, rfl, collectPost_nil h ?_⟩
    intro t ht
    exact absurd (Nat.le_trans (num_pos_of_onHeap h ht) hn) (Nat.not_succ_le_zero 0)
  | succ fuel ih =>
    intro s acc h hn
    rw [collect]
    by_cases hz : s.num = 0
    · rw [if_pos hz]
      refine ⟨s, [], by simp, .refl s, rfl, collectPost_nil h ?_⟩
      intro t ht
      exact absurd (num_pos_of_onHeap h ht) (by rw [hz]; exact Nat.not_succ_le_zero 0)
    · rw [if_neg hz]
      obtain ⟨r, hr, hir⟩ := h.occupied 1 (Nat.le_refl _) (Nat.pos_of_ne_zero hz)
      have hgetD : s.idx.getD r (-1) = 1 := getD_idx hir
      simp only [getSlot, hr, hgetD, bne_self_eq_false, Bool.false_eq_true, if_false]
      rcases Bool.eq_false_or_eq_true ((expOf s r).gt now) with hgt | hgt
      · -- the root expires after `now`: so does everything else
        rw [if_pos hgt]
        refine ⟨s, [], by simp, .refl s, rfl, collectPost_nil h ?_⟩
        intro t ht
        exact gt_of_gt_of_le hgt (root_le_onHeap h hr t ht)
      · rw [hgt]
        simp only [Bool.false_eq_true, if_false]
        obtain ⟨s1, e1, hinv, h1, h2, h3, h4, hm, h5⟩ := remove_ok s r 1 0 h (Nat.le_refl _) hir (by decide) (Int.le_refl 0)
        rw [e1]
        obtain ⟨s', b', e', hm', hnum, p1, p2, p3, p4, p5, p6, p7, p8⟩ :=
          ih (setIdx s1 r 0) (acc ++ [r]) hinv (by omega)
        have hr_on : onHeap s r := ⟨1, Nat.le_refl _, hir⟩
        have hx_r : ¬ onHeap (setIdx s1 r 0) r := by
          rintro ⟨i, hi1, hi⟩
          rw [h1] at hi
          have : (0 : Int) = (i : Int) := Option.some.inj hi
          omega
        have hx_on : ∀ u, onHeap (setIdx s1 r 0) u ↔ (onHeap s u ∧ u ≠ r) := by
          intro u
          by_cases hu : u = r
          · subst hu; simp [hx_r]
          · have := (frame_iffs (h5 u hu)).2.2
            simp [this, hu]
        have hx_exp : ∀ u, expOf (setIdx s1 r 0) u = expOf s u := expOf_congr h4
        refine ⟨s', r :: b', ?_, hm.trans hm', by rw [List.length_cons, ← h2, ← hnum]; omega, p1, ?_, ?_, ?_, ?_, ?_, ?_, ?_⟩
        · show collect (setIdx s1 r 0) now fuel (acc ++ [r]) = _
          rw [e']; simp
        · rw [List.pairwise_cons]
          refine ⟨?_, ?_⟩
          · intro x hx
            have := ((hx_on x).1 ((p4 x).1 hx).1).1
            exact root_le_onHeap h hr x this
          · refine p2.imp ?_
            intro a b hab
            rw [← hx_exp a, ← hx_exp b]; exact hab
        · rw [List.nodup_cons]
          exact ⟨fun hx => hx_r ((p4 r).1 hx).1, p3⟩
        · intro t
          rw [List.mem_cons, p4 t, hx_on t, hx_exp t]
          constructor
          · rintro (e | ⟨⟨q1, _⟩, q2⟩)
            · subst e; exact ⟨hr_on, hgt⟩
            · exact ⟨q1, q2⟩
          · rintro ⟨q1, q2⟩
            by_cases e : t = r
            · exact Or.inl e
            · exact Or.inr ⟨⟨q1, e⟩, q2⟩
        · intro t
          rw [p5 t, hx_on t, hx_exp t]
          constructor
          · rintro ⟨⟨q1, _⟩, q2⟩; exact ⟨q1, q2⟩
          · rintro ⟨q1, q2⟩
            refine ⟨⟨q1, ?_⟩, q2⟩
            intro e; subst e; rw [hgt] at q2; cases q2
        · intro t ht
          rw [List.mem_cons] at ht
          rcases ht with e | ht
          · subst e
            rw [p8 t hx_r, h1]
          · exact p6 t ht
        · intro t; rw [p7 t, hx_exp t]
        · intro t ht
          have htr : t ≠ r := fun e => ht (e ▸ hr_on)
          have hx : ¬ onHeap (setIdx s1 r 0) t := fun hh => ht ((hx_on t).1 hh).1
          rw [p8 t hx]
          rcases h5 t htr with e | ⟨q, _⟩
          · exact e
          · exact absurd q ht

theorem collect_sorted (s : Store) (now : TS) (h : HeapInv s) :
    ∃ s' batch, runCollect s now = (.ok s', batch) ∧ s'.num + batch.length = s.num ∧ CollectPost s now s' batch := by
  obtain ⟨s', batch, e, _, hp⟩ := collect_spec now s.num s [] h (Nat.le_refl _)
  exact ⟨s', batch, by rw [runCollect, e]; simp, hp⟩

theorem nonneg_collect {s s' : Store} {now : TS} {batch : List Tid} (h : HeapInv s)
    (hrun : runCollect s now = (.ok s', batch)) (t : Tid) : 0 ≤ s'.idx.getD t (-1) ↔ 0 ≤ s.idx.getD t (-1) := by
  obtain ⟨s'', batch', hrun', -, -, -, -, hmem, hon, hb0, -, hrest⟩ := collect_sorted s now h
  obtain ⟨rfl, rfl⟩ : s'' = s' ∧ batch' = batch := by rw [hrun] at hrun'; cases hrun'; exact ⟨rfl, rfl⟩
  by_cases ht : onHeap s t
  · rw [nonneg_idx, nonneg_idx]
    refine iff_of_true ?_ (Or.inl ht)
    cases hgt : (expOf s t).gt now
    · exact Or.inr (hb0 t ((hmem t).2 ⟨ht, hgt⟩))
    · exact Or.inl ((hon t).2 ⟨ht, hgt⟩)
  · simp only [Array.getD_eq_getD_getElem?, hrest t ht]

end Ivy.Heap.Proofs
