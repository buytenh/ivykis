import Ivy.L0.Rat
/-! Arithmetic of the spans and digits of the radix tree (`Ivy/L0/Rat.lean`), for an arbitrary `bits`. -/
namespace Ivy.Rat.Proofs
open Ivy.Rat

theorem fan_pos (bits : Nat) : 0 < fan bits := Nat.pow_pos (by omega)
theorem span_pos (bits h : Nat) : 0 < span bits h := Nat.pow_pos (by omega)
theorem span_zero (bits : Nat) : span bits 0 = fan bits := by simp [span, fan]
theorem span_succ (bits h : Nat) : span bits (h + 1) = span bits h * fan bits := by
  simp only [span, fan, ← Nat.pow_add]; congr 1; simp [Nat.add_mul]

theorem digit_eq (bits k i : Nat) : digit bits k i = i / 2 ^ (k * bits) % fan bits := by
  simp only [digit, fan, Nat.shiftRight_eq_div_pow, Nat.and_two_pow_sub_one_eq_mod]

theorem digit_lt (bits k i : Nat) : digit bits k i < fan bits := by
  rw [digit_eq]; exact Nat.mod_lt _ (fan_pos bits)

theorem digit_zero (bits i : Nat) : digit bits 0 i = i % span bits 0 := by
  simp [digit_eq, span_zero]

theorem digit_succ (bits h i : Nat) : digit bits (h + 1) i = i % span bits (h + 1) / span bits h := by
  rw [digit_eq, span_succ, Nat.mod_mul_right_div_self]; rfl

theorem mod_span_succ (bits h i : Nat) : i % span bits (h + 1) % span bits h = i % span bits h := by
  rw [span_succ]; exact Nat.mod_mul_right_mod _ _ _

theorem local_eq_iff (bits h i j : Nat) :
    j % span bits (h + 1) = i % span bits (h + 1) ↔
      digit bits (h + 1) j = digit bits (h + 1) i ∧ j % span bits h = i % span bits h := by
  rw [digit_succ, digit_succ, ← mod_span_succ bits h i, ← mod_span_succ bits h j]
  generalize j % span bits (h + 1) = x
  generalize i % span bits (h + 1) = y
  constructor
  · rintro rfl; exact ⟨rfl, rfl⟩
  · rintro ⟨h1, h2⟩
    rw [← Nat.div_add_mod x (span bits h), ← Nat.div_add_mod y (span bits h), h1, h2]

theorem span_le_succ (bits h : Nat) : span bits h ≤ span bits (h + 1) := by
  rw [span_succ]; exact Nat.le_mul_of_pos_right _ (fan_pos bits)

theorem two_span_le (bits h : Nat) (hb : 1 ≤ bits) : 2 * span bits h ≤ span bits (h + 1) := by
  rw [span_succ, Nat.mul_comm]
  refine Nat.mul_le_mul_left _ ?_
  have : 2 ^ 1 ≤ 2 ^ bits := Nat.pow_le_pow_right (by omega) hb
  simpa [fan] using this

theorem one_shiftLeft_eq_span (bits d : Nat) (hd : 0 < d) : 1 <<< (d * bits) = span bits (d - 1) := by
  rw [Nat.one_shiftLeft, span, show d - 1 + 1 = d by omega]

/-- the C growth test `index >> ((rat_depth+1)*bits) != 0` means "beyond the capacity" -/
theorem grow_test (bits d i : Nat) : (i >>> ((d + 1) * bits) != 0) = decide (span bits d ≤ i) := by
  have hp : 0 < 2 ^ ((d + 1) * bits) := Nat.pow_pos (by omega)
  rw [Nat.shiftRight_eq_div_pow, span]
  by_cases h : 2 ^ ((d + 1) * bits) ≤ i
  · have : i / 2 ^ ((d + 1) * bits) ≠ 0 := by
      intro h0; rw [Nat.div_eq_zero_iff] at h0; omega
    simp [h, this]
  · have : i / 2 ^ ((d + 1) * bits) = 0 := Nat.div_eq_of_lt (by omega)
    simp [h, this]

end Ivy.Rat.Proofs
