import Ivy.L0.Tls
namespace Ivy.Tls

theorem align16_ge (n : Nat) : n ≤ align16 n := by unfold align16; omega
theorem align16_mod (n : Nat) : align16 n % 16 = 0 := by unfold align16; omega
theorem align16_lt (n : Nat) : align16 n < n + 16 := by unfold align16; omega

structure Inv (base : Nat) (s : St) : Prop where
  last_al  : s.last % 16 = 0
  base_le  : base ≤ s.last
  inside   : ∀ p ∈ s.users, base ≤ p.2 ∧ p.2 + p.1.size ≤ s.last ∧ p.2 % 16 = 0
  sorted   : s.users.Pairwise (fun a b => a.2 + a.1.size ≤ b.2)

theorem init_inv (base : Nat) : Inv base (St.init base) :=
  { last_al := align16_mod _, base_le := align16_ge _, inside := by simp [St.init], sorted := by simp [St.init] }

theorem register_eq {s s' : St} {u : User} (hr : register s u = some s') :
    s' = { s with last := align16 (s.last + u.size), users := s.users ++ [(u, s.last)] } := by
  unfold register at hr
  split at hr
  · cases hr
  · exact (Option.some.inj hr).symm

theorem register_inv {base : Nat} {s s' : St} {u : User} (h : Inv base s) (hr : register s u = some s') : Inv base s' := by
  rw [register_eq hr]
  have hge := align16_ge (s.last + u.size)
  have hle : s.last ≤ align16 (s.last + u.size) := Nat.le_trans (Nat.le_add_right ..) hge
  exact {
    last_al := align16_mod _
    base_le := Nat.le_trans h.base_le hle
    inside := fun p hp => by
      rcases List.mem_append.1 hp with hp | hp
      · have := h.inside p hp; exact ⟨this.1, Nat.le_trans this.2.1 hle, this.2.2⟩
      · cases List.mem_singleton.1 hp; exact ⟨h.base_le, hge, h.last_al⟩
    sorted := List.pairwise_append.2 ⟨h.sorted, List.pairwise_singleton .., fun a ha b hb => by
      cases List.mem_singleton.1 hb; exact (h.inside a ha).2.1⟩ }

theorem registerAll_inv {base : Nat} : ∀ (us : List User) {s s' : St}, Inv base s → registerAll s us = some s' → Inv base s'
  | [], s, s', h, hr => by simp [registerAll] at hr; subst hr; exact h
  | u :: us, s, s', h, hr => by
    simp only [registerAll] at hr
    split at hr
    · rename_i s1 h1; exact registerAll_inv us (register_inv h h1) hr
    · simp at hr

theorem registerAll_spec : ∀ (us : List User) (s : St), s.inited = false →
    ∃ s', registerAll s us = some s' ∧ s'.users.map (·.1) = s.users.map (·.1) ++ us
  | [], s, _ => ⟨s, rfl, by simp⟩
  | u :: us, s, h => by
    obtain ⟨s', hr, hu⟩ :=
      registerAll_spec us { s with last := align16 (s.last + u.size), users := s.users ++ [(u, s.last)] } h
    exact ⟨s', by rw [registerAll, register, if_neg (by simp [h])]; exact hr, by simpa using hu⟩

end Ivy.Tls
