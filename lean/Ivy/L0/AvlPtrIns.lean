import Ivy.L0.AvlPtrWalk
/-!
`iv_avl_tree_insert` at pointer level refines `Avl.insert`.
-/
namespace Ivy.AvlPtr
open Ivy.Avl (Tree toList size)
open Ivy.Avl.Tree

theorem descend_spec (x : Int) : ∀ (t : Tree) {m : Mem} {root : Option Nat} {c : List Frame}
    {hole hp : Option Nat} {pre post ids : List Nat} {ref : Ref} (fuel : Nat),
    OwnCtx m root none c hole hp pre post → Own m hole hp t ids → IsRef c hp ref →
    size t < fuel →
    (locate x t c = none → descend fuel ⟨m, root⟩ x ref hp = some .dup) ∧
    (∀ cF, locate x t c = some cF → ∃ ref' p' pre' post',
      descend fuel ⟨m, root⟩ x ref hp = some (.found ref' p') ∧
      OwnCtx m root none cF none p' pre' post' ∧ IsRef cF p' ref' ∧
      pre' ++ post' = pre ++ ids ++ post) := by
  intro t
  induction t with
  | nil =>
    intro m root c hole hp pre post ids ref fuel hc ht href hf
    obtain ⟨rfl, rfl⟩ := ht
    cases fuel with
    | zero => simp at hf
    | succ fuel =>
      have hd := deref_ctx hc href
      refine ⟨by simp [locate], ?_⟩
      intro cF hl
      simp only [locate, Option.some.injEq] at hl
      subst hl
      exact ⟨ref, hp, pre, post, by simp [descend, hd], hc, href, by simp⟩
  | node l k h r ihl ihr =>
    intro m root c hole hp pre post ids ref fuel hc ht href hf
    obtain ⟨i, lp, rp, il, ir, rfl, hm, hl, hr, rfl⟩ := ht
    cases fuel with
    | zero => simp at hf
    | succ fuel =>
      have hd := deref_ctx hc href
      simp only [size] at hf
      by_cases c1 : x < k
      · obtain ⟨a1, a2⟩ :=
          ihl fuel (ownCtx_consL hm hr hc) hl (ref := .left i) ⟨i, rfl, rfl⟩ (by omega)
        refine ⟨?_, ?_⟩
        · intro hn
          simp only [locate, c1, if_true] at hn
          simp [descend, hd, hm, c1, a1 hn]
        · intro cF hn
          simp only [locate, c1, if_true] at hn
          obtain ⟨ref', p', pre', post', e, b1, b2, b3⟩ := a2 cF hn
          exact ⟨ref', p', pre', post', by simp [descend, hd, hm, c1, e], b1, b2, by simp [b3]⟩
      · by_cases c2 : k < x
        · obtain ⟨a1, a2⟩ :=
            ihr fuel (ownCtx_consR hm hl hc) hr (ref := .right i) ⟨i, rfl, rfl⟩ (by omega)
          refine ⟨?_, ?_⟩
          · intro hn
            simp only [locate, c1, c2, if_true, if_false] at hn
            simp [descend, hd, hm, c1, a1 hn]
          · intro cF hn
            simp only [locate, c1, c2, if_true, if_false] at hn
            obtain ⟨ref', p', pre', post', e, b1, b2, b3⟩ := a2 cF hn
            exact ⟨ref', p', pre', post', by simp [descend, hd, hm, c1, c2, e], b1, b2,
              by simp [b3]⟩
        · refine ⟨fun _ => by simp [descend, hd, hm, c1, c2], ?_⟩
          intro cF hn
          simp [locate, c1, c2] at hn

/-- Pointer-level insert computes the functional insert: whenever the functional model
returns `(T, rc)`, the C-level code returns `rc` and leaves a heap representing `T`, with
the new node's address spliced into the in-order address list, every parent pointer
correct, and no memory outside the tree and the new node touched. -/
theorem insert_refines {h : Heap} {t T : Tree} {ids : List Nat} {a : Nat} {na : Node}
    {fuel : Nat} {rc : Int}
    (hR : Repr h t ids) (ha : h.mem a = some na) (hfresh : a ∉ ids) (hf : size t < fuel)
    (hins : Avl.insert na.key t = some (T, rc)) :
    ∃ h' ids', insert fuel h a = some (h', rc) ∧ Repr h' T ids' ∧
      ((rc = 0 ∧ ∃ pre post, ids = pre ++ post ∧ ids' = pre ++ a :: post) ∨
        (rc = -1 ∧ h' = h ∧ ids' = ids)) ∧
      (∀ n, n ∉ ids → n ≠ a → h'.mem n = h.mem n) := by
  obtain ⟨m, root⟩ := h
  obtain ⟨ho, nd⟩ := hR
  simp only at ho ha
  have hloc := ins_locate na.key t [] nofun
  simp only [plug_nil] at hloc
  obtain ⟨d1, d2⟩ := descend_spec na.key t (ref := .root) fuel ownCtx_nil ho rfl hf
  cases hl : locate na.key t [] with
  | none =>
    rw [hl] at hloc
    simp only [Avl.insert, hloc, Option.some.injEq, Prod.mk.injEq] at hins
    obtain ⟨rfl, rfl⟩ := hins
    refine ⟨⟨m, root⟩, ids, ?_, ⟨ho, nd⟩, Or.inr ⟨rfl, rfl, rfl⟩, fun _ _ _ => rfl⟩
    simp [insert, ha, d1 hl]
  | some cF =>
    rw [hl] at hloc
    obtain ⟨ref', p', pre', post', e1, hcF, hrefF, hids⟩ := d2 cF hl
    simp only [List.nil_append, List.append_nil] at hids
    subst hids
    obtain ⟨_, hlen⟩ := locate_plug na.key t [] cF hl
    simp only [List.length_nil, Nat.zero_add] at hlen
    simp only [upIns] at hloc
    cases hup : up false cF (node nil na.key 1 nil) with
    | none => simp [hup, Avl.insert, hloc] at hins
    | some p =>
      obtain ⟨T', s⟩ := p
      simp only [hup, Avl.insert, hloc, Option.some.injEq, Prod.mk.injEq] at hins
      obtain ⟨rfl, rfl⟩ := hins
      obtain ⟨m1, hm1⟩ : ∃ m1, m1 = upd m a ⟨na.key, none, none, p', 1⟩ := ⟨_, rfl⟩
      have hfr1 : ∀ n, n ≠ a → m1 n = m n := fun n hn => hm1 ▸ upd_ne _ _ hn
      have hc1 : OwnCtx m1 root none cF none p' pre' post' := hm1 ▸ ownCtx_upd hcF hfresh _
      obtain ⟨m2, root2, e2, hc2, hfr2⟩ := store_ctx hc1 hrefF nd (some a)
      have hm2a : m2 a = some ⟨na.key, none, none, p', 1⟩ := by
        rw [hfr2 a hfresh, hm1]; simp
      have hoa : Own m2 (some a) p' (node nil na.key 1 nil) [a] :=
        own_mk hm2a (own_nil.2 ⟨rfl, rfl⟩) (own_nil.2 ⟨rfl, rfl⟩)
      have nd2 : (pre' ++ [a] ++ post').Nodup := nodup_ctx.2
        ⟨nd, by simp, fun j hj => List.mem_singleton.1 hj ▸ hfresh⟩
      obtain ⟨m', root', e3, ho', hfr3⟩ := walk_spec fuel hc2 hoa nd2 hup (by omega)
      refine ⟨⟨m', root'⟩, pre' ++ [a] ++ post', ?_, ⟨ho', nd2⟩,
        Or.inl ⟨rfl, pre', post', rfl, by simp⟩, ?_⟩
      · simp only [insert, ha, e1, Option.bind_eq_bind, Option.bind_some, Heap.set]
        rw [← hm1, e2]
        simp [e3]
      · intro n hn hna
        have h1 : n ∉ pre' ++ [a] ++ post' := by
          simp only [List.mem_append, List.mem_singleton, not_or] at hn ⊢
          exact ⟨⟨hn.1, hna⟩, hn.2⟩
        show m' n = m n
        rw [hfr3 n h1, hfr2 n hn, hfr1 n hna]

end Ivy.AvlPtr
