import Ivy.L0.AvlProofs
/-!
Zipper view of the functional AVL model (`Ivy/L0/Avl.lean`).

The C code walks *up* from a node through parent pointers (`rebalance_path`), whereas
the functional model recurses *down* and rebalances on the way back.  This file
re-expresses the functional operations over one-hole contexts (`List Frame`, innermost
frame first) so that the pointer-level walk can be compared with them:

* `up s c t`  = apply `fix` along the context `c`, bottom-up, to the subtree `t`
* `ins x (plug c t)`, `del x (plug c t)`, `removeMax (plug c t)` … in terms of `up`.

No heap here; purely functional lemmas.
-/
namespace Ivy.AvlPtr
open Ivy.Avl Ivy.Avl.Tree Ivy.Avl.Proofs

inductive Frame where
  /-- the hole is the left child of a node `(k,h)` whose right subtree is `sib` -/
  | L (k : Int) (h : Nat) (sib : Tree)
  /-- the hole is the right child of a node `(k,h)` whose left subtree is `sib` -/
  | R (k : Int) (h : Nat) (sib : Tree)

def fill : Frame → Tree → Tree
  | .L k h sib, t => node t k h sib
  | .R k h sib, t => node sib k h t

/-- plug a subtree into a context (innermost frame first) -/
def plug : List Frame → Tree → Tree
  | [], t => t
  | f :: c, t => plug c (fill f t)

def fixF (s : Bool) : Frame → Tree → Option (Tree × Bool)
  | .L k h sib, t => fix s t k h sib
  | .R k h sib, t => fix s sib k h t

/-- the `rebalance_path` walk as seen by the functional model -/
def up : Bool → List Frame → Tree → Option (Tree × Bool)
  | s, [], t => some (t, s)
  | s, f :: c, t =>
    match fixF s f t with
    | none => none
    | some (t', s') => up s' c t'

theorem fixF_eq {f : Frame} {t l r : Tree} {k : Int} {h : Nat} (s : Bool)
    (e : fill f t = node l k h r) : fixF s f t = fix s l k h r := by
  cases f <;> cases e <;> rfl

@[simp] theorem plug_nil (t : Tree) : plug [] t = t := rfl
@[simp] theorem plug_cons (f : Frame) (c : List Frame) (t : Tree) :
    plug (f :: c) t = plug c (fill f t) := rfl

theorem plug_append (c1 c2 : List Frame) (t : Tree) :
    plug (c1 ++ c2) t = plug c2 (plug c1 t) := by
  induction c1 generalizing t with
  | nil => rfl
  | cons f c ih => simp [ih]

theorem size_plug (c : List Frame) (t : Tree) : c.length + size t ≤ size (plug c t) := by
  induction c generalizing t with
  | nil => simp
  | cons f c ih =>
    have := ih (fill f t)
    cases f <;> simp [fill, size] at this ⊢ <;> omega

theorem up_true (c : List Frame) (t : Tree) : up true c t = some (plug c t, true) := by
  induction c generalizing t with
  | nil => rfl
  | cons f c ih => cases f <;> simp [up, fixF, fix, fill, ih]

theorem up_cons (s : Bool) (f : Frame) (c : List Frame) (t : Tree) :
    up s (f :: c) t = (fixF s f t).bind fun p => up p.2 c p.1 := by
  rw [up]; rcases fixF s f t with _ | ⟨t', s'⟩ <;> rfl

theorem up_append (s : Bool) (c1 c2 : List Frame) (t : Tree) :
    up s (c1 ++ c2) t = (up s c1 t).bind (fun p => up p.2 c2 p.1) := by
  induction c1 generalizing s t with
  | nil => simp [up]
  | cons f c ih => simp only [List.cons_append, up_cons, ih, Option.bind_assoc]

/-- `x` compares with the frame's key the way the descent goes to the hole -/
def Frame.toward (x : Int) : Frame → Prop
  | .L k _ _ => x < k
  | .R k _ _ => k < x

def Along (x : Int) (c : List Frame) : Prop := ∀ f ∈ c, f.toward x

def upIns (c : List Frame) : InsRes → InsRes
  | .ok t s => match up s c t with
    | some (T, s') => .ok T s'
    | none => .fault
  | e => e

theorem ins_fill {x : Int} {f : Frame} (hf : f.toward x) (t : Tree) :
    ins x (fill f t) = upIns [f] (ins x t) := by
  cases f with
  | L k h sib =>
    simp only [fill, ins, show x < k from hf, if_true, upIns, up, fixF]
    cases ins x t with
    | ok t' s => dsimp only; rcases fix s t' k h sib with _ | ⟨T, s'⟩ <;> rfl
    | _ => rfl
  | R k h sib =>
    have hk : k < x := hf
    simp only [fill, ins, hk, show ¬ x < k by omega, if_true, if_false, upIns, up, fixF]
    cases ins x t with
    | ok t' s => dsimp only; rcases fix s sib k h t' with _ | ⟨T, s'⟩ <;> rfl
    | _ => rfl

theorem ins_plug (x : Int) (c : List Frame) (t : Tree) (ha : Along x c) :
    ins x (plug c t) = upIns c (ins x t) := by
  induction c generalizing t with
  | nil => simp only [plug_nil]; cases ins x t <;> simp [upIns, up]
  | cons f c ih =>
    obtain ⟨hf, ha⟩ := List.forall_mem_cons.1 ha
    rw [plug_cons, ih _ ha, ins_fill hf]
    cases ins x t with
    | ok t' s => simp only [upIns, up]; rcases fixF s f t' with _ | ⟨T, s'⟩ <;> rfl
    | _ => rfl

/-- the descent of `iv_avl_tree_insert`: the context of the NULL slot reached, or `none`
when a node with key `x` is met. -/
def locate (x : Int) : Tree → List Frame → Option (List Frame)
  | nil, c => some c
  | node l k h r, c =>
    if x < k then locate x l (.L k h r :: c)
    else if k < x then locate x r (.R k h l :: c)
    else none

theorem ins_locate (x : Int) (t : Tree) (c : List Frame) (ha : Along x c) :
    ins x (plug c t) =
      match locate x t c with
      | none => .dup
      | some cF => upIns cF (.ok (node nil x 1 nil) false) := by
  induction t generalizing c with
  | nil => rw [ins_plug x c nil ha]; simp [locate, ins]
  | node l k h r ihl ihr =>
    by_cases c1 : x < k
    · have := ihl (.L k h r :: c) (List.forall_mem_cons.2 ⟨c1, ha⟩)
      simpa [locate, c1, fill] using this
    · by_cases c2 : k < x
      · have := ihr (.R k h l :: c) (List.forall_mem_cons.2 ⟨c2, ha⟩)
        simpa [locate, c1, c2, fill] using this
      · rw [ins_plug x c _ ha]
        simp [locate, ins, c1, c2, upIns]

theorem locate_plug (x : Int) (t : Tree) (c cF : List Frame) (h : locate x t c = some cF) :
    plug cF nil = plug c t ∧ cF.length ≤ c.length + size t := by
  induction t generalizing c with
  | nil => simp [locate] at h; subst h; simp [size]
  | node l k hh r ihl ihr =>
    by_cases c1 : x < k
    · simp only [locate, c1, if_true] at h
      obtain ⟨h1, h2⟩ := ihl _ h
      refine ⟨by simpa [fill] using h1, ?_⟩
      simp [size] at h2 ⊢; omega
    · by_cases c2 : k < x
      · simp only [locate, c1, c2, if_true, if_false] at h
        obtain ⟨h1, h2⟩ := ihr _ h
        refine ⟨by simpa [fill] using h1, ?_⟩
        simp [size] at h2 ⊢; omega
      · simp [locate, c1, c2] at h

theorem del_fill {x : Int} {f : Frame} (hf : f.toward x) (t : Tree) :
    del x (fill f t) = (del x t).bind fun p => fixF p.2 f p.1 := by
  cases f with
  | L k h sib =>
    simp only [fill, del, show x < k from hf, if_true]
    rcases del x t with _ | ⟨t', s⟩ <;> rfl
  | R k h sib =>
    have hk : k < x := hf
    simp only [fill, del, hk, show ¬ x < k by omega, if_true, if_false]
    rcases del x t with _ | ⟨t', s⟩ <;> rfl

theorem del_plug (x : Int) (c : List Frame) (t : Tree) (ha : Along x c) :
    del x (plug c t) = (del x t).bind (fun p => up p.2 c p.1) := by
  induction c generalizing t with
  | nil => simp only [plug_nil]; cases del x t <;> simp [up]
  | cons f c ih =>
    obtain ⟨hf, ha⟩ := List.forall_mem_cons.1 ha
    simp only [plug_cons, ih _ ha, del_fill hf, Option.bind_assoc, up_cons]

def Frame.isR : Frame → Prop
  | .L .. => False
  | .R .. => True

def Frame.isL : Frame → Prop
  | .L .. => True
  | .R .. => False

def AllR (c : List Frame) : Prop := ∀ f ∈ c, f.isR

def AllL (c : List Frame) : Prop := ∀ f ∈ c, f.isL

theorem removeMax_plug (c : List Frame) (t : Tree) (hc : AllR c) (ht : t ≠ nil) :
    removeMax (plug c t) =
      (removeMax t).bind (fun p => (up p.2.2 c p.1).map (fun q => (q.1, p.2.1, q.2))) := by
  induction c generalizing t with
  | nil => simp only [plug_nil]; cases removeMax t <;> simp [up]
  | cons f c ih =>
    obtain ⟨hf, hc'⟩ := List.forall_mem_cons.1 hc
    cases f with
    | L k h sib => exact hf.elim
    | R k h sib =>
      rw [plug_cons, ih _ hc' (by simp [fill])]
      cases t with
      | nil => exact absurd rfl ht
      | node a b hh d =>
        simp only [fill]
        rw [removeMax]
        rcases removeMax (node a b hh d) with _ | ⟨t', m, s⟩
        · rfl
        · simp only [Option.bind_some, up_cons, fixF]
          rcases fix s sib k h t' with _ | ⟨T, s'⟩ <;> rfl

theorem removeMin_plug (c : List Frame) (t : Tree) (hc : AllL c) (ht : t ≠ nil) :
    removeMin (plug c t) =
      (removeMin t).bind (fun p => (up p.2.2 c p.1).map (fun q => (q.1, p.2.1, q.2))) := by
  induction c generalizing t with
  | nil => simp only [plug_nil]; cases removeMin t <;> simp [up]
  | cons f c ih =>
    obtain ⟨hf, hc'⟩ := List.forall_mem_cons.1 hc
    cases f with
    | R k h sib => exact hf.elim
    | L k h sib =>
      rw [plug_cons, ih _ hc' (by simp [fill])]
      cases t with
      | nil => exact absurd rfl ht
      | node a b hh d =>
        simp only [fill]
        rw [removeMin]
        rcases removeMin (node a b hh d) with _ | ⟨t', m, s⟩
        · rfl
        · simp only [Option.bind_some, up_cons, fixF]
          rcases fix s t' k h sib with _ | ⟨T, s'⟩ <;> rfl

/-- the victim search `while (victim->right != NULL)`: context of the maximum, its left
subtree, key and stored height -/
def spineR : Tree → List Frame → Option (List Frame × Tree × Int × Nat)
  | nil, _ => none
  | node l k h nil, c => some (c, l, k, h)
  | node l k h (node a b hh d), c => spineR (node a b hh d) (.R k h l :: c)

def spineL : Tree → List Frame → Option (List Frame × Tree × Int × Nat)
  | nil, _ => none
  | node nil k h r, c => some (c, r, k, h)
  | node (node a b hh d) k h r, c => spineL (node a b hh d) (.L k h r :: c)

theorem removeMax_spine (t : Tree) (c : List Frame) (hc : AllR c) (ht : t ≠ nil) :
    removeMax (plug c t) =
      match spineR t c with
      | none => none
      | some (cF, vl, m, _) => (up false cF vl).map (fun q => (q.1, m, q.2)) := by
  induction t generalizing c with
  | nil => exact absurd rfl ht
  | node l k h r _ ihr =>
    cases r with
    | nil =>
      rw [removeMax_plug c _ hc ht]
      simp [spineR, removeMax]
    | node a b hh d =>
      have := ihr (.R k h l :: c) (List.forall_mem_cons.2 ⟨trivial, hc⟩) (by simp)
      simpa [spineR, fill] using this

theorem removeMin_spine (t : Tree) (c : List Frame) (hc : AllL c) (ht : t ≠ nil) :
    removeMin (plug c t) =
      match spineL t c with
      | none => none
      | some (cF, vr, m, _) => (up false cF vr).map (fun q => (q.1, m, q.2)) := by
  induction t generalizing c with
  | nil => exact absurd rfl ht
  | node l k h r ihl _ =>
    cases l with
    | nil =>
      rw [removeMin_plug c _ hc ht]
      simp [spineL, removeMin]
    | node a b hh d =>
      have := ihl (.L k h r :: c) (List.forall_mem_cons.2 ⟨trivial, hc⟩) (by simp)
      simpa [spineL, fill] using this

theorem spineR_spec (t : Tree) (c cF : List Frame) (vl : Tree) (m : Int) (vh : Nat)
    (h : spineR t c = some (cF, vl, m, vh)) :
    ∃ cR, cF = cR ++ c ∧ AllR cR ∧ plug cR (node vl m vh nil) = t ∧ cR.length < size t := by
  induction t generalizing c with
  | nil => simp [spineR] at h
  | node l k hh r _ ihr =>
    cases r with
    | nil =>
      simp only [spineR, Option.some.injEq, Prod.mk.injEq] at h
      obtain ⟨rfl, rfl, rfl, rfl⟩ := h
      exact ⟨[], by simp, nofun, rfl, by simp [size] <;> omega⟩
    | node a b hh' d =>
      simp only [spineR] at h
      obtain ⟨cR, e, hr, hp, hl⟩ := ihr _ h
      refine ⟨cR ++ [.R k hh l], by simp [e],
        List.forall_mem_append.2 ⟨hr, fun _ hf => List.mem_singleton.1 hf ▸ trivial⟩, ?_, ?_⟩
      · rw [plug_append, hp]; rfl
      · simp [size] at hl ⊢; omega

theorem spineL_spec (t : Tree) (c cF : List Frame) (vr : Tree) (m : Int) (vh : Nat)
    (h : spineL t c = some (cF, vr, m, vh)) :
    ∃ cL, cF = cL ++ c ∧ AllL cL ∧ plug cL (node nil m vh vr) = t ∧ cL.length < size t := by
  induction t generalizing c with
  | nil => simp [spineL] at h
  | node l k hh r ihl _ =>
    cases l with
    | nil =>
      simp only [spineL, Option.some.injEq, Prod.mk.injEq] at h
      obtain ⟨rfl, rfl, rfl, rfl⟩ := h
      exact ⟨[], by simp, nofun, rfl, by simp [size] <;> omega⟩
    | node a b hh' d =>
      simp only [spineL] at h
      obtain ⟨cL, e, hr, hp, hl⟩ := ihl _ h
      refine ⟨cL ++ [.L k hh r], by simp [e],
        List.forall_mem_append.2 ⟨hr, fun _ hf => List.mem_singleton.1 hf ▸ trivial⟩, ?_, ?_⟩
      · rw [plug_append, hp]; rfl
      · simp [size] at hl ⊢; omega

theorem spineR_some (t : Tree) (c : List Frame) (ht : t ≠ nil) : (spineR t c).isSome := by
  induction t generalizing c with
  | nil => exact absurd rfl ht
  | node l k h r _ ihr =>
    cases r with
    | nil => simp [spineR]
    | node a b hh d => simpa [spineR] using ihr _ (by simp)

theorem spineL_some (t : Tree) (c : List Frame) (ht : t ≠ nil) : (spineL t c).isSome := by
  induction t generalizing c with
  | nil => exact absurd rfl ht
  | node l k h r ihl _ =>
    cases l with
    | nil => simp [spineL]
    | node a b hh d => simpa [spineL] using ihl _ (by simp)

/-- `iv_avl_tree_delete` of an inner node, in zipper form: the walk starts below the
victim's old position; the victim (key `m`) sits in the deleted node's frame with the
deleted node's stored height. -/
theorem del_node_plug (c : List Frame) (l r : Tree) (k : Int) (h : Nat) (ha : Along k c)
    (hn : ¬ (l = nil ∧ r = nil)) :
    del k (plug c (node l k h r)) =
      if height l > height r then
        match spineR l [] with
        | none => none
        | some (cR, vl, m, _) => up false (cR ++ .L m h r :: c) vl
      else
        match spineL r [] with
        | none => none
        | some (cL, vr, m, _) => up false (cL ++ .R m h l :: c) vr := by
  rw [del_plug k c _ ha]
  rw [del_self hn]
  by_cases hg : height l > height r
  · have ln : l ≠ nil := by rintro rfl; simp at hg
    have := removeMax_spine l [] nofun ln
    simp only [plug_nil] at this
    simp only [hg, if_true, this]
    cases h1 : spineR l [] with
    | none => simp
    | some q =>
      obtain ⟨cR, vl, m, vh⟩ := q
      simp only [up_append, up_cons]
      rcases up false cR vl with _ | p <;> rfl
  · simp only [hg, if_false]
    cases r with
    | nil => simp [removeMin, spineL]
    | node ra rk rh rr =>
      have := removeMin_spine (node ra rk rh rr) [] nofun (by simp)
      simp only [plug_nil] at this
      simp only [this]
      cases h1 : spineL (node ra rk rh rr) [] with
      | none => simp
      | some q =>
        obtain ⟨cL, vr, m, vh⟩ := q
        simp only [up_append, up_cons]
        rcases up false cL vr with _ | p <;> rfl

/-- keys left / right of the hole -/
def preK : List Frame → List Int
  | [] => []
  | .L _ _ _ :: c => preK c
  | .R k _ sib :: c => preK c ++ toList sib ++ [k]

def postK : List Frame → List Int
  | [] => []
  | .L k _ sib :: c => k :: toList sib ++ postK c
  | .R _ _ _ :: c => postK c

theorem toList_plug (c : List Frame) (t : Tree) :
    toList (plug c t) = preK c ++ toList t ++ postK c := by
  induction c generalizing t with
  | nil => simp [preK, postK]
  | cons f c ih => cases f <;> simp [ih, fill, preK, postK]

theorem ordered_of_plug (c : List Frame) (t : Tree) (h : Ordered (plug c t)) : Ordered t := by
  unfold Ordered at *
  rw [toList_plug] at h
  exact (List.pairwise_append.1 (List.pairwise_append.1 h).1).2.1

theorem along_of_ordered (x : Int) (c : List Frame) (t : Tree) (h : Ordered (plug c t))
    (hx : x ∈ toList t) : Along x c := by
  induction c generalizing t with
  | nil => nofun
  | cons f c ih =>
    rw [plug_cons] at h
    have ho := ordered_of_plug c _ h
    refine List.forall_mem_cons.2 ⟨?_, ih _ h (by cases f <;> simp [fill, hx])⟩
    cases f with
    | L k hh sib => exact (ordered_node.1 ho).2.2.1 x hx
    | R k hh sib => exact (ordered_node.1 ho).2.2.2 x hx

end Ivy.AvlPtr
