import Ivy.L0.AvlPtrRot
/-!
`rebalance_node` and `rebalance_path` at pointer level refine `Avl.rebalanceNode` and the
zipper walk `up` (`AvlPtrCtx.lean`), including the early stop; the fuel needed is the
length of the path to the root.
-/
namespace Ivy.AvlPtr
open Ivy.Avl (Tree toList size)
open Ivy.Avl.Tree

theorem balance_own {m : Mem} {root par : Option Nat} {i : Nat} {l r : Tree} {k : Int} {h : Nat}
    {ids : List Nat} (ho : Own m (some i) par (node l k h r) ids) :
    balance ⟨m, root⟩ (some i) = some (Avl.balance (node l k h r)) := by
  obtain ⟨lp, rp, il, ir, hm, hl, hr, _⟩ := own_some_node.1 ho
  simp [balance, hm, own_height hl, own_height hr, Avl.balance]

theorem rebalanceNode_spec {m : Mem} {root gp : Option Nat} {ref : Ref} {i : Nat}
    {X X' : Tree} {I : List Nat}
    (ho : Own m (some i) gp X I) (nd : I.Nodup)
    (hr : deref ⟨m, root⟩ ref = some (some i))
    (hX : Avl.rebalanceNode X = some X') :
    ∃ j m2, rebalanceNode ⟨m, root⟩ ref = store ⟨m2, root⟩ ref (some j) ∧
      (∀ n, n ∉ I → m2 n = m n) ∧ Own m2 (some j) gp X' I := by
  cases X with
  | nil => simp [Avl.rebalanceNode] at hX
  | node l k h r =>
    have hbal := balance_own (root := root) ho
    obtain ⟨lp, rp, il, ir, hm, hl, hr', hI⟩ := own_some_node.1 ho
    simp only [Avl.rebalanceNode, beq_iff_eq] at hX
    split at hX
    next h2 =>
      cases l with
      | nil => simp [Avl.rotR, Avl.rotLR] at hX
      | node a kb hb c =>
        obtain ⟨b, _, _, _, _, rfl, _⟩ := id hl
        have hbl := balance_own (root := root) hl
        split at hX
        next hle =>
          cases hX
          rw [show rebalanceNode ⟨m, root⟩ ref = rotateRight ⟨m, root⟩ ref by
            simp [rebalanceNode, hr, hbal, hm, hbl, h2, hle]]
          exact rotateRight_spec ho nd hr
        next hle =>
          cases c with
          | nil => simp [Avl.rotLR] at hX
          | node cl kc hc cr =>
            cases hX
            rw [show rebalanceNode ⟨m, root⟩ ref = rotateLeftRight ⟨m, root⟩ ref by
              simp [rebalanceNode, hr, hbal, hm, hbl, h2, hle]]
            exact rotateLeftRight_spec ho nd hr
    next h2 =>
      split at hX
      next h3 =>
        cases r with
        | nil => simp [Avl.rotL, Avl.rotRL] at hX
        | node c kd hd e =>
          obtain ⟨d, _, _, _, _, rfl, _⟩ := id hr'
          have hbr := balance_own (root := root) hr'
          split at hX
          next hlt =>
            cases c with
            | nil => simp [Avl.rotRL] at hX
            | node cl kc hc cr =>
              cases hX
              rw [show rebalanceNode ⟨m, root⟩ ref = rotateRightLeft ⟨m, root⟩ ref by
                simp [rebalanceNode, hr, hbal, hm, hbr, h3, hlt]]
              exact rotateRightLeft_spec ho nd hr
          next hlt =>
            cases hX
            rw [show rebalanceNode ⟨m, root⟩ ref = rotateLeft ⟨m, root⟩ ref by
              simp [rebalanceNode, hr, hbal, hm, hbr, h3, hlt]]
            exact rotateLeft_spec ho nd hr
      next h3 =>
        cases hX
        refine ⟨i, m, ?_, fun _ _ => rfl, ho⟩
        rw [store_noop hr]
        simp [rebalanceNode, hr, hbal, h2, h3]

theorem recalcHeight_own {m : Mem} {root lp rp par : Option Nat} {i : Nat} {k : Int} {h : Nat}
    {l r : Tree} {il ir : List Nat}
    (hm : m i = some ⟨k, lp, rp, par, h⟩) (hl : Own m lp (some i) l il)
    (hr : Own m rp (some i) r ir) :
    recalcHeight ⟨m, root⟩ i =
      some ⟨upd m i ⟨k, lp, rp, par, 1 + Max.max (Avl.height l) (Avl.height r)⟩, root⟩ := by
  simp [recalcHeight, hm, own_height hl, own_height hr, setHeight, Heap.set, max_if]

theorem walk_step {m : Mem} {root gp : Option Nat} {c : List Frame} {i : Nat}
    {pre post I : List Nat} {k : Int} {h : Nat} {lp rp : Option Nat} {l r X' : Tree}
    {il ir : List Nat}
    (hc : OwnCtx m root none c (some i) gp pre post)
    (hm : m i = some ⟨k, lp, rp, gp, h⟩) (hl : Own m lp (some i) l il)
    (hr : Own m rp (some i) r ir) (hI : I = il ++ i :: ir)
    (nd : (pre ++ I ++ post).Nodup)
    (hX : Avl.rebalanceNode (Avl.mk l k r) = some X') :
    ∃ ref j h1 m3 root3,
      recalcHeight ⟨m, root⟩ i = some h1 ∧ findReference h1 i = some ref ∧
      rebalanceNode h1 ref = some ⟨m3, root3⟩ ∧
      deref ⟨m3, root3⟩ ref = some (some j) ∧
      OwnCtx m3 root3 none c (some j) gp pre post ∧
      Own m3 (some j) gp X' I ∧
      (∀ n, n ∉ pre ++ I ++ post → m3 n = m n) := by
  subst hI
  obtain ⟨ndc, ndI, dI⟩ := nodup_ctx.1 nd
  obtain ⟨_, _, hi_l, hi_r, _⟩ := nodup_node.1 ndI
  have hi_c : i ∉ pre ++ post := dI i (by simp)
  have e1 := recalcHeight_own (root := root) hm hl hr
  have ho1 : Own (upd m i ⟨k, lp, rp, gp, 1 + Max.max (Avl.height l) (Avl.height r)⟩) (some i) gp
      (Avl.mk l k r) (il ++ i :: ir) :=
    own_mk (upd_same ..) (own_upd hl hi_l _) (own_upd hr hi_r _)
  have hc1 := ownCtx_upd hc hi_c ⟨k, lp, rp, gp, 1 + Max.max (Avl.height l) (Avl.height r)⟩
  obtain ⟨ref, e2, href⟩ := findReference_ctx hc1 ho1 hi_c
  obtain ⟨j, m2, e3, hfr2, ho2⟩ := rebalanceNode_spec ho1 ndI (deref_ctx hc1 href) hX
  have hc2 := ownCtx_frame hc1 fun n hn => hfr2 n fun h => dI n h hn
  obtain ⟨m3, root3, e4, hc3, hfr3⟩ := store_ctx hc2 href ndc (some j)
  have ho3 := own_frame ho2 fun n hn => hfr3 n (dI n hn)
  refine ⟨ref, j, _, m3, root3, e1, e2, e3.trans e4, deref_ctx hc3 href, hc3, ho3, fun n hn => ?_⟩
  obtain ⟨h3, h2⟩ := not_mem_ctx.1 hn
  rw [hfr3 n h3, hfr2 n h2, upd_ne _ _ fun e => h2 (by simp [e])]

theorem rebalancePath_none (fuel : Nat) (h : Heap) : rebalancePath fuel h none = some h := by
  cases fuel <;> rfl

theorem walk_spec {c : List Frame} : ∀ {m : Mem} {root hole hp : Option Nat}
    {pre post ids : List Nat} {t T : Tree} {s : Bool} (fuel : Nat),
    OwnCtx m root none c hole hp pre post → Own m hole hp t ids →
    (pre ++ ids ++ post).Nodup → up false c t = some (T, s) → c.length ≤ fuel →
    ∃ m' root', rebalancePath fuel ⟨m, root⟩ hp = some ⟨m', root'⟩ ∧
      Own m' root' none T (pre ++ ids ++ post) ∧
      (∀ n, n ∉ pre ++ ids ++ post → m' n = m n) := by
  induction c with
  | nil =>
    intro m root hole hp pre post ids t T s fuel hc ht nd hup hf
    obtain ⟨rfl, rfl, rfl, rfl⟩ := hc
    simp only [up, Option.some.injEq, Prod.mk.injEq] at hup
    obtain ⟨rfl, _⟩ := hup
    exact ⟨m, hole, rebalancePath_none _ _, by simpa using ht, fun _ _ => rfl⟩
  | cons f c ih =>
    intro m root hole hp pre post ids t T s fuel hc ht nd hup hf
    cases fuel with
    | zero => simp at hf
    | succ fuel =>
    simp only [List.length_cons, Nat.add_le_add_iff_right] at hf
    obtain ⟨i, gp, pre', post', I, rfl, hc', hoI, eI⟩ := ownCtx_fill hc ht
    obtain ⟨l, k, h, r, lp, rp, il, ir, ef, hm, hl, hr, rfl⟩ := own_some hoI
    rw [eI] at nd ⊢
    simp only [up, fixF_eq _ ef, Avl.fix, Bool.false_eq_true, if_false] at hup
    cases hX : Avl.rebalanceNode (Avl.mk l k r) with
    | none => simp [hX] at hup
    | some X' =>
      simp only [hX] at hup
      obtain ⟨ref, j, h1, m3, root3, e1, e2, e3, hd3, hc3, ho3, hfr3⟩ :=
        walk_step hc' hm hl hr rfl nd hX
      obtain ⟨l', k', h', r', lp', rp', il', ir', rfl, hmj, _, _, _⟩ := own_some ho3
      -- the loop body up to the test `old_height == an->height`
      have eP : rebalancePath (fuel + 1) ⟨m, root⟩ (some i) =
          if h = h' then some ⟨m3, root3⟩ else rebalancePath fuel ⟨m3, root3⟩ gp := by
        simp only [rebalancePath, hm, e1, e2, e3, hd3, hmj, Option.bind_eq_bind, Option.bind_some]
      by_cases hh : h = h'
      · subst hh
        simp only [Avl.height, beq_self_eq_true, up_true, Option.some.injEq, Prod.mk.injEq] at hup
        obtain ⟨rfl, _⟩ := hup
        exact ⟨m3, root3, by rw [eP, if_pos rfl], own_plug hc3 ho3, hfr3⟩
      · have hne : (Avl.height (node l' k' h' r') == h) = false := by
          simp [Avl.height]; exact fun e => hh e.symm
        rw [hne] at hup
        obtain ⟨m', root', e5, ho', hfr'⟩ := ih fuel hc3 ho3 nd hup hf
        exact ⟨m', root', by rw [eP, if_neg hh, e5], ho', fun n hn => by rw [hfr' n hn, hfr3 n hn]⟩

end Ivy.AvlPtr
