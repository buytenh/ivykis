import Ivy.L0.TimeArith
/-!
Lemmas about `Ivy/L0/TimeArith.lean`: the comparison, `to_relative` and `to_msec` read through `toNs`
(seconds are unbounded `Int`; `Ts.norm`, 0 ≤ nsec < 10^9, is the only hypothesis), and the clock cache:
its invariant and the number of clock reads of a run.  The property theorems are in
`Ivy/Props/C04time.lean`.
-/
namespace Ivy.TimeArith

theorem tsGt_eq (a b : Ts) :
    tsGt a b = true ↔ (a.sec > b.sec ∨ (a.sec = b.sec ∧ a.nsec > b.nsec)) := by
  simp [tsGt]

theorem tsGt_iff_toNs {a b : Ts} (ha : a.norm) (hb : b.norm) :
    tsGt a b = true ↔ toNs b < toNs a := by
  rw [tsGt_eq]; unfold Ts.norm at ha hb; unfold toNs; omega

theorem tsGt_false_iff_toNs {a b : Ts} (ha : a.norm) (hb : b.norm) :
    tsGt a b = false ↔ toNs a ≤ toNs b := by
  have h := tsGt_iff_toNs ha hb
  cases hg : tsGt a b
  · simp [hg] at h; simp; omega
  · simp [hg] at h; simp; omega

theorem toNs_inj {a b : Ts} (ha : a.norm) (hb : b.norm) (h : toNs a = toNs b) : a = b := by
  unfold Ts.norm at ha hb; unfold toNs at h
  cases a; cases b; simp at *; omega

theorem due_iff_toNs {now exp : Ts} (hn : now.norm) (he : exp.norm) :
    due now exp = true ↔ toNs exp ≤ toNs now := by
  unfold due
  rw [← tsGt_false_iff_toNs he hn]
  cases tsGt exp now <;> simp

theorem toRelative_spec {now abs : Ts} (hn : now.norm) (ha : abs.norm) :
    (toRelative now abs).norm ∧ toNs (toRelative now abs) = max 0 (toNs abs - toNs now) := by
  unfold toRelative
  cases hg : tsGt abs now
  · have := (tsGt_false_iff_toNs ha hn).1 hg
    simp only [toNs, Ts.norm, Bool.false_eq_true, if_false] at *; omega
  · have := (tsGt_iff_toNs ha hn).1 hg
    simp only [if_true]
    split <;> (simp only [toNs, Ts.norm] at *; omega)

theorem toRelative_norm {now abs : Ts} (hn : now.norm) (ha : abs.norm) :
    (toRelative now abs).norm := (toRelative_spec hn ha).1

theorem toRelative_toNs {now abs : Ts} (hn : now.norm) (ha : abs.norm) :
    toNs (toRelative now abs) = max 0 (toNs abs - toNs now) := (toRelative_spec hn ha).2

theorem toRelative_sec_nonneg {now abs : Ts} (hn : now.norm) (ha : abs.norm) :
    0 ≤ (toRelative now abs).sec := by
  have h1 := toRelative_norm hn ha
  have h2 := toRelative_toNs hn ha
  unfold Ts.norm at h1; unfold toNs at h2; omega

def remaining (now abs : Ts) : Int := max 0 (toNs abs - toNs now)

/-- the millisecond timeout for `r` remaining nanoseconds: rounded up, capped at a day -/
def capMs (r : Int) : Int :=
  if r < 86400 * 1000000000 then (r + 999999) / 1000000 else 86400000

theorem toMsec_spec {now abs : Ts} (hn : now.norm) (ha : abs.norm) :
    toMsec now (some abs) = capMs (remaining now abs) := by
  have h1 := toRelative_norm hn ha
  have h2 := toRelative_toNs hn ha
  have h3 := toRelative_sec_nonneg hn ha
  unfold Ts.norm at h1
  unfold toMsec remaining capMs
  simp only
  rw [Int.tdiv_eq_ediv_of_nonneg (by omega)]
  rw [← h2]
  unfold toNs
  generalize (toRelative now abs).sec = s at *
  generalize (toRelative now abs).nsec = n at *
  by_cases hs : s < 86400
  · rw [if_pos hs, if_pos (by omega)]; omega
  · rw [if_neg hs, if_neg (by omega)]

theorem remaining_nonneg (now abs : Ts) : 0 ≤ remaining now abs := by unfold remaining; omega

theorem ceil_ms (r : Int) :
    r ≤ (r + 999999) / 1000000 * 1000000 ∧ (r + 999999) / 1000000 * 1000000 < r + 1000000 := by
  omega

theorem ceil_ms_least {r k : Int} (h : r ≤ k * 1000000) : (r + 999999) / 1000000 ≤ k := by omega

theorem ceil_ms_mono {r r' : Int} (h : r ≤ r') : (r + 999999) / 1000000 ≤ (r' + 999999) / 1000000 :=
  Int.ediv_le_ediv (by decide) (by omega)

theorem capMs_mono {r r' : Int} (h : r ≤ r') : capMs r ≤ capMs r' := by
  unfold capMs; split <;> split
  · exact ceil_ms_mono h
  · exact ceil_ms_least (by omega)
  · omega
  · exact Int.le_refl _

theorem capMs_zero_iff {r : Int} (h : 0 ≤ r) : capMs r = 0 ↔ r = 0 := by
  unfold capMs; split <;> omega

theorem capMs_cap_iff {r : Int} : capMs r = 86400000 ↔ 86399999 * 1000000 < r := by
  unfold capMs; split <;> omega

theorem capMs_eq_min (r : Int) : capMs r = min 86400000 ((r + 999999) / 1000000) := by
  unfold capMs; split <;> omega

theorem remaining_mono {now a b : Ts} (h : toNs a ≤ toNs b) : remaining now a ≤ remaining now b := by
  unfold remaining; omega

theorem le_remaining (now abs : Ts) : toNs abs - toNs now ≤ remaining now abs := Int.le_max_right ..

theorem toMsec_below {now abs : Ts} (hn : now.norm) (ha : abs.norm)
    (hr : toNs abs - toNs now < 86400 * 1000000000) :
    toMsec now (some abs) = (remaining now abs + 999999) / 1000000 := by
  rw [toMsec_spec hn ha, capMs, if_pos]
  unfold remaining; omega

/-- the cache invariant: a valid cache holds the value of the most recent clock read -/
def Clock.Inv (src : Nat → Ts) (c : Clock) : Prop :=
  c.timeValid = true → 0 < c.reads ∧ c.time = src (c.reads - 1)

theorem validate_valid (src : Nat → Ts) (c : Clock) : (validate src c).timeValid = true := by
  unfold validate; cases h : c.timeValid <;> simp [h]

theorem validate_of_valid (src : Nat → Ts) {c : Clock} (h : c.timeValid = true) :
    validate src c = c := by
  unfold validate; simp [h]

theorem validate_idem (src : Nat → Ts) (c : Clock) :
    validate src (validate src c) = validate src c :=
  validate_of_valid src (validate_valid src c)

theorem validate_reads (src : Nat → Ts) (c : Clock) :
    (validate src c).reads = c.reads + (if c.timeValid then 0 else 1) := by
  unfold validate; cases h : c.timeValid <;> simp

theorem validate_inv (src : Nat → Ts) {c : Clock} (hi : c.Inv src) : (validate src c).Inv src := by
  unfold Clock.Inv validate at *
  cases h : c.timeValid
  · simp
  · simpa [h] using hi

theorem invalidate_inv (src : Nat → Ts) (c : Clock) : (invalidate c).Inv src := by
  unfold Clock.Inv invalidate; simp

theorem cstep_cases (src : Nat → Ts) (c : Clock) (op : COp) :
    cstep src c op = c ∨ cstep src c op = validate src c ∨
      (op = .invalidate ∧ cstep src c op = invalidate c) := by
  cases op with
  | validate => right; left; rfl
  | invalidate => right; right; exact ⟨rfl, rfl⟩
  | rel a => cases a <;> simp [cstep, toRelativeC]
  | msec a => cases a <;> simp [cstep, toMsecC]
  | runTimers a => cases a <;> simp [cstep, runTimersC]

theorem cstep_inv (src : Nat → Ts) {c : Clock} (hi : c.Inv src) (op : COp) :
    (cstep src c op).Inv src := by
  rcases cstep_cases src c op with h | h | ⟨_, h⟩ <;> rw [h]
  · exact hi
  · exact validate_inv src hi
  · exact invalidate_inv src c

theorem crun_inv (src : Nat → Ts) {c : Clock} (hi : c.Inv src) (ops : List COp) :
    (crun src c ops).Inv src := by
  unfold crun
  induction ops generalizing c with
  | nil => exact hi
  | cons op ops ih => exact ih (cstep_inv src hi op)

def invalidations : List COp → Nat
  | [] => 0
  | op :: ops => (if op = .invalidate then 1 else 0) + invalidations ops

def Clock.pending (c : Clock) : Nat := if c.timeValid then 0 else 1

/-- `reads + pending` grows only by an invalidation: a run reads the clock at most once per invalidation,
plus once if the cache starts invalid -/
theorem cstep_reads (src : Nat → Ts) (c : Clock) (op : COp) :
    c.reads ≤ (cstep src c op).reads ∧
    (cstep src c op).reads + (cstep src c op).pending ≤ c.reads + c.pending + invalidations [op] := by
  rcases cstep_cases src c op with h | h | ⟨ho, h⟩ <;> rw [h]
  · omega
  · rw [validate_reads]; simp [Clock.pending, validate_valid]
  · subst ho; unfold invalidate Clock.pending invalidations; cases c.timeValid <;> simp [invalidations]

theorem crun_reads (src : Nat → Ts) (c : Clock) (ops : List COp) :
    c.reads ≤ (crun src c ops).reads ∧
    (crun src c ops).reads + (crun src c ops).pending ≤ c.reads + c.pending + invalidations ops := by
  unfold crun
  induction ops generalizing c with
  | nil => simp [invalidations]
  | cons op ops ih =>
    have h1 := cstep_reads src c op
    have h2 := ih (cstep src c op)
    simp only [List.foldl_cons]
    simp only [invalidations] at h1 ⊢
    omega

end Ivy.TimeArith
