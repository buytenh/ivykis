import Ivy.L0.AvlSpec
/-!
Proofs about the AVL model (`Ivy/L0/Avl.lean`).  One `rebalance_node` on children whose
heights differ by at most 2 restores balance (`rebal_spec`); one step of the `rebalance_path`
walk, early stop included, moves a node's stored height the way its child's moved
(`fix_child`); insertion, victim removal and deletion are inductions carrying that fact.
-/
namespace Ivy.Avl.Proofs
open Ivy.Avl Tree

@[simp] theorem height_nil : height nil = 0 := rfl
@[simp] theorem height_node {l k h r} : height (node l k h r) = h := rfl
@[simp] theorem height_mk {l k r} : height (mk l k r) = 1 + max (height l) (height r) := rfl
@[simp] theorem toList_nil : toList nil = [] := rfl
@[simp] theorem toList_node {l k h r} : toList (node l k h r) = toList l ++ k :: toList r := rfl
@[simp] theorem toList_mk {l k r} : toList (mk l k r) = toList l ++ k :: toList r := rfl
@[simp] theorem bal_nil : Bal nil := trivial
theorem bal_node {l k h r} : Bal (node l k h r) ↔
    Bal l ∧ Bal r ∧ h = 1 + max (height l) (height r) ∧
    height l ≤ height r + 1 ∧ height r ≤ height l + 1 := Iff.rfl
theorem bal_mk {l k r} : Bal (mk l k r) ↔
    Bal l ∧ Bal r ∧ height l ≤ height r + 1 ∧ height r ≤ height l + 1 := by
  simp [mk, bal_node]

/- In the four rotation cases the heights involved are known up to one unit, so every `max`
is resolved before `omega` sees it; left to `omega` each would double its case analysis. -/
theorem rebal_left (l r : Tree) (k : Int) (hl : Bal l) (hr : Bal r)
    (h : height l = height r + 2) :
    ∃ t, rebalanceNode (mk l k r) = some t ∧ Bal t ∧
      toList t = toList l ++ k :: toList r ∧
      (height t = height l + 1 ∨ height t = height l) := by
  cases l with
  | nil => simp at h
  | node la lk lh lr =>
    rw [bal_node] at hl
    simp only [height_node] at h
    obtain ⟨hla, hlr, e, b1, b2⟩ := hl
    by_cases hc : height lr ≤ height la
    · rw [Nat.max_eq_left hc] at e
      have e2 : height r ≤ height lr := by omega
      refine ⟨mk la lk (mk lr k r), ?_, ?_, by simp, ?_⟩
      · have hb : (height r : Int) - (lh : Int) = -2 := by omega
        have hb2 : (height lr : Int) - height la ≤ 0 := by omega
        simp [rebalanceNode, mk, balance, rotR, hb, hb2]
      · simp [bal_mk, Nat.max_eq_left e2, *]; omega
      · simp [Nat.max_eq_left e2]; omega
    · cases lr with
      | nil => simp at hc
      | node c d dh e' =>
        rw [bal_node] at hlr
        simp only [height_node] at *
        rw [Nat.max_eq_right (by omega)] at e
        have e2 : height c ≤ height la := by omega
        have e3 : height e' ≤ height r := by omega
        refine ⟨mk (mk la lk c) d (mk e' k r), ?_, ?_, by simp, ?_⟩
        · have hb : (height r : Int) - (lh : Int) = -2 := by omega
          have hb2 : ¬ (dh : Int) - height la ≤ 0 := by omega
          simp [rebalanceNode, mk, balance, rotLR, hb, hb2]
        · simp [bal_mk, Nat.max_eq_left e2, Nat.max_eq_right e3, *]; omega
        · simp [Nat.max_eq_left e2, Nat.max_eq_right e3]; omega

theorem rebal_right (l r : Tree) (k : Int) (hl : Bal l) (hr : Bal r)
    (h : height r = height l + 2) :
    ∃ t, rebalanceNode (mk l k r) = some t ∧ Bal t ∧
      toList t = toList l ++ k :: toList r ∧
      (height t = height r + 1 ∨ height t = height r) := by
  cases r with
  | nil => simp at h
  | node ra rk rh rr =>
    rw [bal_node] at hr
    simp only [height_node] at h
    obtain ⟨hra, hrr, e, b1, b2⟩ := hr
    by_cases hc : height ra ≤ height rr
    · rw [Nat.max_eq_right hc] at e
      have e2 : height l ≤ height ra := by omega
      refine ⟨mk (mk l k ra) rk rr, ?_, ?_, by simp, ?_⟩
      · have hb : (rh : Int) - (height l : Int) = 2 := by omega
        have hb2 : ¬ (height rr : Int) - height ra < 0 := by omega
        simp [rebalanceNode, mk, balance, rotL, hb, hb2]
      · simp [bal_mk, Nat.max_eq_right e2, *]; omega
      · simp [Nat.max_eq_right e2]; omega
    · cases ra with
      | nil => simp at hc
      | node c d dh e' =>
        rw [bal_node] at hra
        simp only [height_node] at *
        rw [Nat.max_eq_left (by omega)] at e
        have e2 : height c ≤ height l := by omega
        have e3 : height e' ≤ height rr := by omega
        refine ⟨mk (mk l k c) d (mk e' rk rr), ?_, ?_, by simp, ?_⟩
        · have hb : (rh : Int) - (height l : Int) = 2 := by omega
          have hb2 : (height rr : Int) - dh < 0 := by omega
          simp [rebalanceNode, mk, balance, rotRL, hb, hb2]
        · simp [bal_mk, Nat.max_eq_left e2, Nat.max_eq_right e3, *]; omega
        · simp [Nat.max_eq_left e2, Nat.max_eq_right e3]; omega

theorem rebal_mid (l r : Tree) (k : Int)
    (h1 : height l ≤ height r + 1) (h2 : height r ≤ height l + 1) :
    rebalanceNode (mk l k r) = some (mk l k r) := by
  have hb0 : ¬ (height r : Int) - (height l : Int) = -2 := by omega
  have hb : ¬ (height r : Int) - (height l : Int) = 2 := by omega
  simp [rebalanceNode, mk, balance, hb0, hb]

theorem rebal_spec (l r : Tree) (k : Int) (hl : Bal l) (hr : Bal r)
    (h1 : height l ≤ height r + 2) (h2 : height r ≤ height l + 2) :
    ∃ t, rebalanceNode (mk l k r) = some t ∧ Bal t ∧
      toList t = toList l ++ k :: toList r ∧
      (height t = 1 + max (height l) (height r) ∨
        (height t = max (height l) (height r) ∧
          (height l = height r + 2 ∨ height r = height l + 2))) := by
  by_cases c1 : height l = height r + 2
  · obtain ⟨t, e, b, tl, hh⟩ := rebal_left l r k hl hr c1
    exact ⟨t, e, b, tl, by omega⟩
  · by_cases c2 : height r = height l + 2
    · obtain ⟨t, e, b, tl, hh⟩ := rebal_right l r k hl hr c2
      exact ⟨t, e, b, tl, by omega⟩
    · refine ⟨mk l k r, rebal_mid l r k (by omega) (by omega), ?_, by simp, by simp⟩
      rw [bal_mk]; exact ⟨hl, hr, by omega, by omega⟩

theorem fix_stop (l r : Tree) (k : Int) (h : Nat) :
    fix true l k h r = some (node l k h r, true) := by simp [fix]

theorem ordered_nil : Ordered nil := by simp [Ordered]

theorem ordered_parts {t l r : Tree} {k : Int} (e : toList t = toList l ++ k :: toList r) :
    Ordered t ↔ Ordered l ∧ Ordered r ∧ (∀ y ∈ toList l, y < k) ∧ (∀ y ∈ toList r, k < y) := by
  unfold Ordered
  rw [e, List.pairwise_append, List.pairwise_cons]
  constructor
  · rintro ⟨a, ⟨b, c⟩, d⟩
    exact ⟨a, c, fun y hy => d y hy k (by simp), b⟩
  · rintro ⟨a, b, c, d⟩
    refine ⟨a, ⟨d, b⟩, ?_⟩
    intro y hy z hz
    rcases List.mem_cons.1 hz with rfl | hz
    · exact c y hy
    · exact Int.lt_trans (c y hy) (d z hz)

theorem ordered_node {l r : Tree} {k : Int} {h : Nat} :
    Ordered (node l k h r) ↔
      Ordered l ∧ Ordered r ∧ (∀ y ∈ toList l, y < k) ∧ (∀ y ∈ toList r, k < y) :=
  ordered_parts rfl

/-- how a stored height has moved when the walk reaches it: not at all once the walk has
stopped, otherwise by exactly `d`, which is `1` after an insertion and `-1` after a deletion -/
def Moved (d : Int) (s : Bool) (h h' : Nat) : Prop :=
  (h' : Int) = h + if s then 0 else d

theorem fix_child {d : Int} (hd : d = 1 ∨ d = -1) (l r l' r' : Tree) (k' : Int) (h : Nat)
    (s : Bool) (bl' : Bal l') (br' : Bal r') (eh : h = 1 + max (height l) (height r))
    (b1 : height l ≤ height r + 1) (b2 : height r ≤ height l + 1)
    (hm : (r' = r ∧ Moved d s (height l) (height l')) ∨
      (l' = l ∧ Moved d s (height r) (height r'))) :
    ∃ t s', fix s l' k' h r' = some (t, s') ∧ Bal t ∧
      toList t = toList l' ++ k' :: toList r' ∧ Moved d s' h (height t) := by
  have hm' : (height r' = height r ∧ Moved d s (height l) (height l')) ∨
      (height l' = height l ∧ Moved d s (height r) (height r')) :=
    hm.imp (fun ⟨e, h⟩ => ⟨e ▸ rfl, h⟩) (fun ⟨e, h⟩ => ⟨e ▸ rfl, h⟩)
  cases s with
  | true =>
    simp only [Moved, if_true, Int.add_zero, Int.natCast_inj] at hm'
    refine ⟨node l' k' h r', true, fix_stop _ _ _ _, ?_, rfl, by simp [Moved]⟩
    rw [bal_node]; exact ⟨bl', br', by omega, by omega, by omega⟩
  | false =>
    simp only [Moved, Bool.false_eq_true, if_false] at hm'
    obtain ⟨t, e, bt, tl, ht⟩ := rebal_spec l' r' k' bl' br' (by omega) (by omega)
    refine ⟨t, height t == h, by simp [fix, e], bt, tl, ?_⟩
    by_cases hth : height t = h <;> simp only [Moved, beq_iff_eq, hth, if_true, if_false] <;>
      rcases hd with rfl | rfl <;> omega

theorem mem_side {l r : List Int} {k x : Int} (o1 : ∀ y ∈ l, y < k) (o2 : ∀ y ∈ r, k < y)
    (hx : x ∈ l ++ k :: r) : (x < k → x ∈ l) ∧ (k < x → x ∈ r) := by
  simp only [List.mem_append, List.mem_cons] at hx
  constructor <;> intro c <;> rcases hx with h | h | h
  · exact h
  · omega
  · have := o2 x h; omega
  · have := o1 x h; omega
  · omega
  · exact h

theorem ins_spec (x : Int) : ∀ t, Bal t → Ordered t → x ∉ toList t →
    ∃ t' s, ins x t = .ok t' s ∧ Bal t' ∧ Ordered t' ∧
      (∀ y, y ∈ toList t' ↔ (y = x ∨ y ∈ toList t)) ∧ Moved 1 s (height t) (height t') := by
  intro t
  induction t with
  | nil =>
    intro _ _ _
    exact ⟨node nil x 1 nil, false, rfl, by simp [bal_node], by simp [Ordered], by simp,
      by simp [Moved]⟩
  | node l k h r ihl ihr =>
    intro hb ho hx
    obtain ⟨bl, br, eh, b1, b2⟩ := bal_node.1 hb
    obtain ⟨ol, or', o1, o2⟩ := ordered_node.1 ho
    simp only [toList_node, List.mem_append, List.mem_cons, not_or] at hx
    obtain ⟨xl, xk, xr⟩ := hx
    by_cases c : x < k
    · obtain ⟨l', s, e, bl', ol', ml', hh⟩ := ihl bl ol xl
      obtain ⟨t, s', ef, bt, tl, ht⟩ :=
        fix_child (.inl rfl) l r l' r k h s bl' br eh b1 b2 (.inl ⟨rfl, hh⟩)
      exact ⟨t, s', by simp [ins, c, e, ef], bt, (ordered_parts tl).2
        ⟨ol', or', fun y hy => ((ml' y).1 hy).elim (· ▸ c) (o1 y), o2⟩,
        fun y => by simp [tl, ml' y, or_assoc], ht⟩
    · have c' : k < x := by omega
      obtain ⟨r', s, e, br', or'', mr', hh⟩ := ihr br or' xr
      obtain ⟨t, s', ef, bt, tl, ht⟩ :=
        fix_child (.inl rfl) l r l r' k h s bl br' eh b1 b2 (.inr ⟨rfl, hh⟩)
      exact ⟨t, s', by simp [ins, c, c', e, ef], bt, (ordered_parts tl).2
        ⟨ol, or'', o1, fun y hy => ((mr' y).1 hy).elim (· ▸ c') (o2 y)⟩,
        fun y => by simp [tl, mr' y, or_left_comm], ht⟩

theorem insert_new (t : Tree) (x : Int) (h : Inv t) (hx : x ∉ toList t) :
    ∃ t', insert x t = some (t', 0) ∧ Inv t' ∧ ∀ y, y ∈ toList t' ↔ (y = x ∨ y ∈ toList t) := by
  obtain ⟨t', s, e, b, o, m, _⟩ := ins_spec x t h.bal h.ord hx
  exact ⟨t', by simp [insert, e], ⟨b, o⟩, m⟩

theorem ins_dup (x : Int) : ∀ t, Ordered t → x ∈ toList t → ins x t = .dup := by
  intro t
  induction t with
  | nil => intro _ hx; simp at hx
  | node l k h r ihl ihr =>
    intro ho hx
    obtain ⟨ol, or', o1, o2⟩ := ordered_node.1 ho
    obtain ⟨hl, hr⟩ := mem_side o1 o2 hx
    by_cases c : x < k
    · simp [ins, c, ihl ol (hl c)]
    · by_cases c' : k < x
      · simp [ins, c, c', ihr or' (hr c')]
      · simp [ins, c, c']

theorem insert_dup (t : Tree) (x : Int) (h : Inv t) (hx : x ∈ toList t) :
    insert x t = some (t, -1) := by
  simp [insert, ins_dup x t h.ord hx]

theorem height_zero {t : Tree} (hb : Bal t) (h : height t = 0) : t = nil := by
  cases t with
  | nil => rfl
  | node l k h' r => rw [bal_node] at hb; simp at h; omega

theorem removeMax_spec : ∀ t, t ≠ nil → Bal t →
    ∃ t' m s, removeMax t = some (t', m, s) ∧ Bal t' ∧ toList t = toList t' ++ [m] ∧
      Moved (-1) s (height t) (height t') := by
  intro t
  induction t with
  | nil => intro h; exact absurd rfl h
  | node l k h r ihl ihr =>
    intro _ hb
    obtain ⟨bl, br, eh, b1, b2⟩ := bal_node.1 hb
    cases r with
    | nil =>
      refine ⟨l, k, false, by simp [removeMax], bl, by simp, ?_⟩
      simp [Moved] at *; omega
    | node ra rk rh rr =>
      obtain ⟨r', m, s, e, br', tl, hh⟩ := ihr (by simp) br
      obtain ⟨t, s', ef, bt, tl', ht⟩ :=
        fix_child (.inr rfl) l (node ra rk rh rr) l r' k h s bl br' eh b1 b2 (.inr ⟨rfl, hh⟩)
      refine ⟨t, m, s', ?_, bt, ?_, ht⟩
      · rw [removeMax]; simp only [e, ef]
      · rw [tl', toList_node (r := node ra rk rh rr), tl]; simp

theorem removeMin_spec : ∀ t, t ≠ nil → Bal t →
    ∃ t' m s, removeMin t = some (t', m, s) ∧ Bal t' ∧ toList t = m :: toList t' ∧
      Moved (-1) s (height t) (height t') := by
  intro t
  induction t with
  | nil => intro h; exact absurd rfl h
  | node l k h r ihl ihr =>
    intro _ hb
    obtain ⟨bl, br, eh, b1, b2⟩ := bal_node.1 hb
    cases l with
    | nil =>
      refine ⟨r, k, false, by simp [removeMin], br, by simp, ?_⟩
      simp [Moved] at *; omega
    | node la lk lh lr =>
      obtain ⟨l', m, s, e, bl', tl, hh⟩ := ihl (by simp) bl
      obtain ⟨t, s', ef, bt, tl', ht⟩ :=
        fix_child (.inr rfl) (node la lk lh lr) r l' r k h s bl' br eh b1 b2 (.inl ⟨rfl, hh⟩)
      refine ⟨t, m, s', ?_, bt, ?_, ht⟩
      · rw [removeMin]; simp only [e, ef]
      · rw [tl', toList_node (l := node la lk lh lr), tl]; simp

theorem del_self {l r : Tree} {x : Int} {h : Nat} (hn : ¬(l = nil ∧ r = nil)) :
    del x (node l x h r) =
      if height l > height r then
        match removeMax l with
        | none => none
        | some (l', m, s) => fix s l' m h r
      else
        match removeMin r with
        | none => none
        | some (r', m, s) => fix s l m h r' := by
  rw [del]
  · simp only [Int.lt_irrefl, if_false]; rfl
  · intro a b; exact hn ⟨a, b⟩

theorem del_spec (x : Int) : ∀ t, Bal t → Ordered t → x ∈ toList t →
    ∃ t' s, del x t = some (t', s) ∧ Bal t' ∧
      (∃ a b, toList t = a ++ x :: b ∧ toList t' = a ++ b) ∧
      Moved (-1) s (height t) (height t') := by
  intro t
  induction t with
  | nil => intro _ _ hx; simp at hx
  | node l k h r ihl ihr =>
    intro hb ho hx
    obtain ⟨bl, br, eh, b1, b2⟩ := bal_node.1 hb
    obtain ⟨ol, or', o1, o2⟩ := ordered_node.1 ho
    obtain ⟨hxl, hxr⟩ := mem_side o1 o2 hx
    by_cases c : x < k
    · obtain ⟨l', s, e, bl', ⟨a, b, ea, eb⟩, hh⟩ := ihl bl ol (hxl c)
      obtain ⟨t, s', ef, bt, tl', ht⟩ :=
        fix_child (.inr rfl) l r l' r k h s bl' br eh b1 b2 (.inl ⟨rfl, hh⟩)
      exact ⟨t, s', by simp [del, c, e, ef], bt,
        ⟨a, b ++ k :: toList r, by simp [ea], by simp [tl', eb]⟩, ht⟩
    · by_cases c' : k < x
      · obtain ⟨r', s, e, br', ⟨a, b, ea, eb⟩, hh⟩ := ihr br or' (hxr c')
        obtain ⟨t, s', ef, bt, tl', ht⟩ :=
          fix_child (.inr rfl) l r l r' k h s bl br' eh b1 b2 (.inr ⟨rfl, hh⟩)
        exact ⟨t, s', by simp [del, c, c', e, ef], bt,
          ⟨toList l ++ k :: a, b, by simp [ea], by simp [tl', eb]⟩, ht⟩
      · obtain rfl : x = k := by omega
        by_cases hn : l = nil ∧ r = nil
        · obtain ⟨rfl, rfl⟩ := hn
          refine ⟨nil, false, by simp [del], bal_nil, ⟨[], [], by simp, by simp⟩, ?_⟩
          simp [Moved] at *; omega
        · have hdel := del_self (x := x) (h := h) hn
          by_cases hg : height l > height r
          · have ln : l ≠ nil := by rintro rfl; simp at hg
            obtain ⟨l', m, s, e, bl', tl, hh⟩ := removeMax_spec l ln bl
            obtain ⟨t, s', ef, bt, tl', ht⟩ :=
              fix_child (.inr rfl) l r l' r m h s bl' br eh b1 b2 (.inl ⟨rfl, hh⟩)
            exact ⟨t, s', by simp [hdel, hg, e, ef], bt,
              ⟨toList l, toList r, by simp, by simp [tl', tl]⟩, ht⟩
          · have rn : r ≠ nil := fun e =>
              hn ⟨height_zero bl (by subst e; simp at hg b2; omega), e⟩
            obtain ⟨r', m, s, e, br', tl, hh⟩ := removeMin_spec r rn br
            obtain ⟨t, s', ef, bt, tl', ht⟩ :=
              fix_child (.inr rfl) l r l r' m h s bl br' eh b1 b2 (.inr ⟨rfl, hh⟩)
            exact ⟨t, s', by simp [hdel, hg, e, ef], bt,
              ⟨toList l, toList r, by simp, by simp [tl', tl]⟩, ht⟩

theorem remove_mid {a b : List Int} {x : Int} (hp : (a ++ x :: b).Pairwise (· < ·)) :
    (a ++ b).Pairwise (· < ·) ∧ ∀ y, y ∈ a ++ b ↔ (y ≠ x ∧ y ∈ a ++ x :: b) := by
  simp only [List.pairwise_append, List.pairwise_cons, List.mem_cons, List.mem_append] at *
  obtain ⟨pa, ⟨xb, pb⟩, ab⟩ := hp
  refine ⟨⟨pa, pb, fun y hy z hz => ab y hy z (Or.inr hz)⟩, ?_⟩
  intro y
  constructor
  · rintro (h | h)
    · have := ab y h x (Or.inl rfl); exact ⟨by omega, Or.inl h⟩
    · have := xb y h; exact ⟨by omega, Or.inr (Or.inr h)⟩
  · rintro ⟨ne, h | h | h⟩
    · exact Or.inl h
    · exact absurd h ne
    · exact Or.inr h

theorem delete_mem (t : Tree) (x : Int) (h : Inv t) (hx : x ∈ toList t) :
    ∃ t', delete x t = some t' ∧ Inv t' ∧ ∀ y, y ∈ toList t' ↔ (y ≠ x ∧ y ∈ toList t) := by
  obtain ⟨t', s, e, b, ⟨a, c, ea, ec⟩, _⟩ := del_spec x t h.bal h.ord hx
  have ho := h.ord
  unfold Ordered at ho
  rw [ea] at ho
  obtain ⟨p, m⟩ := remove_mid ho
  refine ⟨t', by simp [delete, e], ⟨b, ?_⟩, ?_⟩
  · unfold Ordered; rw [ec]; exact p
  · intro y; rw [ec, ea]; exact m y

theorem height_log_aux : ∀ t, Bal t → ∀ n, n ≤ height t → 2 ^ (n / 2) ≤ size t + 1 := by
  intro t
  induction t with
  | nil => intro _ n hn; simp at hn; subst hn; simp [size]
  | node l k h r ihl ihr =>
    intro hb n hn
    rw [bal_node] at hb
    obtain ⟨bl, br, eh, b1, b2⟩ := hb
    simp only [height_node] at hn
    by_cases c : n < 2
    · have : n / 2 = 0 := by omega
      rw [this]; simp [size]
    · have e : n / 2 = (n - 2) / 2 + 1 := by omega
      have h1 := ihl bl (n - 2) (by omega)
      have h2 := ihr br (n - 2) (by omega)
      rw [e, Nat.pow_succ]
      simp only [size]
      omega

theorem height_log (t : Tree) (h : Bal t) : 2 ^ (height t / 2) ≤ size t + 1 :=
  height_log_aux t h (height t) (Nat.le_refl _)

theorem history (ops : List Op) (hv : ValidHist ops) :
    ∃ t rcs, runHist ops = some (t, rcs) ∧ Inv t ∧ ∀ y, y ∈ toList t ↔ specMem ops y := by
  induction ops with
  | nil => exact ⟨nil, [], rfl, ⟨bal_nil, ordered_nil⟩, by simp [specMem]⟩
  | cons op ops ih =>
    cases op with
    | ins k =>
      obtain ⟨t, rcs, e, inv, m⟩ := ih hv
      by_cases hk : k ∈ toList t
      · refine ⟨t, -1 :: rcs, by simp [runHist, e, insert_dup t k inv hk], inv, ?_⟩
        intro y; simp only [specMem, ← m y]
        constructor
        · exact Or.inr
        · rintro (rfl | h)
          · exact hk
          · exact h
      · obtain ⟨t', e', inv', m'⟩ := insert_new t k inv hk
        refine ⟨t', 0 :: rcs, by simp [runHist, e, e'], inv', ?_⟩
        intro y; simp only [specMem, ← m y]; exact m' y
    | del k =>
      obtain ⟨hk, hv'⟩ := hv
      obtain ⟨t, rcs, e, inv, m⟩ := ih hv'
      obtain ⟨t', e', inv', m'⟩ := delete_mem t k inv ((m k).2 hk)
      refine ⟨t', rcs, by simp [runHist, e, e'], inv', ?_⟩
      intro y; simp only [specMem, ← m y]; exact m' y

end Ivy.Avl.Proofs
