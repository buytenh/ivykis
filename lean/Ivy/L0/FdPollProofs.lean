import Ivy.L0.FdPoll
/-!
Invariants of the poll/ppoll back end model (`Ivy/L0/FdPoll.lean`), for `Ivy/Props/C15poll.lean`.

iv_fd.c talks to the back end in two moves: it stores into one `struct iv_fd_` (`registered`, a
handler, `wanted_bands`) and then calls `notify_fd` on it.  Between the two the invariant `WF`
fails at that one object: `WFx s x` is `WF` with that hole, `wfx_store` opens it, `notifyFd_wf`
closes it, and `step_shape` shows that every API call is made of such pairs.
-/
namespace Ivy.FdPoll

/-- The representation invariant of the back end between two API calls. -/
structure WF (s : State) : Prop where
  /-- the object in slot `i` knows it is in slot `i` -/
  slot_index : ∀ i, i < s.num → (s.objs (s.fds i)).index = some i
  /-- only registered objects occupy slots -/
  slot_reg : ∀ i, i < s.num → (s.objs (s.fds i)).registered = true
  /-- `pfds[i].fd` is the descriptor of the object in slot `i` -/
  slot_fd : ∀ i, i < s.num → (s.pfds i).fd = (s.objs (s.fds i)).fdnum
  /-- `pfds[i].events` is the mask of the bands that object wants -/
  slot_events : ∀ i, i < s.num → (s.pfds i).events = bitsToPollMask (s.objs (s.fds i)).wanted
  /-- a registered object's index is in range and points at a slot holding that object -/
  obj_slot : ∀ o i, (s.objs o).registered = true → (s.objs o).index = some i →
    i < s.num ∧ s.fds i = o
  /-- a registered object has a slot exactly when it wants some band -/
  obj_wanted : ∀ o, (s.objs o).registered = true →
    ((s.objs o).index ≠ none ↔ (s.objs o).wanted ≠ 0)

/-- `WF` with a hole at object `x`: `x->wanted_bands` (and possibly `x->registered`) has just
been stored and `notify_fd(x)` has not run yet. -/
structure WFx (s : State) (x : Nat) : Prop where
  slot_index : ∀ i, i < s.num → (s.objs (s.fds i)).index = some i
  slot_reg : ∀ i, i < s.num → s.fds i ≠ x → (s.objs (s.fds i)).registered = true
  slot_fd : ∀ i, i < s.num → (s.pfds i).fd = (s.objs (s.fds i)).fdnum
  slot_events : ∀ i, i < s.num → s.fds i ≠ x →
    (s.pfds i).events = bitsToPollMask (s.objs (s.fds i)).wanted
  obj_slot : ∀ o i, ((s.objs o).registered = true ∨ o = x) → (s.objs o).index = some i →
    i < s.num ∧ s.fds i = o
  obj_wanted : ∀ o, o ≠ x → (s.objs o).registered = true →
    ((s.objs o).index ≠ none ↔ (s.objs o).wanted ≠ 0)
  /-- an object being unregistered wants nothing -/
  x_unreg : (s.objs x).registered = false → (s.objs x).wanted = 0

@[simp] theorem upd_same {α} (f : Nat → α) (i : Nat) (v : α) : upd f i v i = v := by simp [upd]
theorem upd_other {α} (f : Nat → α) (i j : Nat) (v : α) (h : j ≠ i) : upd f i v j = f j := by
  simp [upd, h]
theorem upd_apply {α} (f : Nat → α) (i j : Nat) (v : α) :
    upd f i v j = if j = i then v else f j := rfl

@[simp] theorem setObj_setObj (s : State) (x : Nat) (a b : Obj) :
    (s.setObj x a).setObj x b = s.setObj x b := by
  simp only [State.setObj, State.mk.injEq, true_and]
  funext j; simp only [upd_apply]; split <;> rfl

@[simp] theorem setObj_objs_same (s : State) (x : Nat) (a : Obj) : (s.setObj x a).objs x = a := by
  simp [State.setObj]

theorem setObj_objs_other (s : State) (x y : Nat) (a : Obj) (h : y ≠ x) :
    (s.setObj x a).objs y = s.objs y := by
  simp [State.setObj, upd_apply, h]

@[simp] theorem setObj_num (s : State) (x : Nat) (a : Obj) : (s.setObj x a).num = s.num := rfl
@[simp] theorem setObj_pfds (s : State) (x : Nat) (a : Obj) : (s.setObj x a).pfds = s.pfds := rfl
@[simp] theorem setObj_fds (s : State) (x : Nat) (a : Obj) : (s.setObj x a).fds = s.fds := rfl

/-- `iv_fd_poll_notify_fd(x)` by branch: the guard and the state it leaves -/
inductive NotifyFd (s : State) (x : Nat) : State → Prop
  | noop (hi : (s.objs x).index = none) (hw : (s.objs x).wanted = 0) : NotifyFd s x s
  | add (hi : (s.objs x).index = none) (hw : (s.objs x).wanted ≠ 0) : NotifyFd s x
      { pfds := upd s.pfds s.num ⟨(s.objs x).fdnum, bitsToPollMask (s.objs x).wanted⟩,
        fds := upd s.fds s.num x, num := s.num + 1,
        objs := upd s.objs x { s.objs x with index := some s.num } }
  | mod {i : Nat} (hi : (s.objs x).index = some i) (hw : (s.objs x).wanted ≠ 0) : NotifyFd s x
      { s with pfds := upd s.pfds i ⟨(s.pfds i).fd, bitsToPollMask (s.objs x).wanted⟩ }
  | delLast {i : Nat} (hi : (s.objs x).index = some i) (hw : (s.objs x).wanted = 0) (hl : i = s.num - 1) :
      NotifyFd s x { s with num := s.num - 1, objs := upd s.objs x { s.objs x with index := none } }
  | delSwap {i : Nat} (hi : (s.objs x).index = some i) (hw : (s.objs x).wanted = 0) (hl : i ≠ s.num - 1) :
      NotifyFd s x
        { pfds := upd s.pfds i (s.pfds (s.num - 1)), fds := upd s.fds i (s.fds (s.num - 1)), num := s.num - 1,
          objs := upd (upd s.objs (s.fds (s.num - 1)) { s.objs (s.fds (s.num - 1)) with index := some i }) x
            { s.objs x with index := none } }

theorem notifyFd_spec (s : State) (x : Nat) : NotifyFd s x (notifyFd s x) := by
  have of_eq : ∀ {s'}, NotifyFd s x s' → notifyFd s x = s' → NotifyFd s x (notifyFd s x) := fun r e => e ▸ r
  cases hi : (s.objs x).index with
  | none =>
    by_cases hw : (s.objs x).wanted = 0
    · exact of_eq (.noop hi hw) (by simp [notifyFd, hi, hw])
    · refine of_eq (.add hi hw) ?_
      simp [notifyFd, hi, hw, State.setIndex, State.setObj]
      funext j; simp only [upd_apply]; split <;> rfl
  | some i =>
    by_cases hw : (s.objs x).wanted = 0
    · by_cases hl : i = s.num - 1
      · exact of_eq (.delLast hi hw hl) (by simp [notifyFd, hi, hw, hl, State.setIndex, State.setObj])
      · refine of_eq (.delSwap hi hw hl) ?_
        simp only [notifyFd, hi, hw, hl, State.setIndex, State.setObj, if_true, ne_eq, not_false_eq_true,
          State.mk.injEq, true_and]
        funext o
        simp only [upd_apply]
        split
        · split
          · rename_i h; rw [← h, hw]
          · rw [hw]
        · rfl
    · exact of_eq (.mod hi hw) (by simp [notifyFd, hi, hw])

/-- what `WF` says about the live slot `j` -/
def SlotOk (s : State) (j : Nat) : Prop :=
  (s.objs (s.fds j)).index = some j ∧ (s.objs (s.fds j)).registered = true ∧
  (s.pfds j).fd = (s.objs (s.fds j)).fdnum ∧
  (s.pfds j).events = bitsToPollMask (s.objs (s.fds j)).wanted

theorem SlotOk.congr {s s' : State} {j : Nat} (h : SlotOk s j) (hf : s'.fds j = s.fds j)
    (hp : s'.pfds j = s.pfds j) (ho : s'.objs (s.fds j) = s.objs (s.fds j)) : SlotOk s' j := by
  unfold SlotOk; rw [hf, hp, ho]; exact h

theorem SlotOk.move {s s' : State} {j j' : Nat} (h : SlotOk s j) (hf : s'.fds j' = s.fds j)
    (hp : s'.pfds j' = s.pfds j)
    (ho : s'.objs (s.fds j) = { s.objs (s.fds j) with index := some j' }) : SlotOk s' j' := by
  unfold SlotOk; rw [hf, hp, ho]; exact ⟨rfl, h.2⟩

theorem WF.of_slots {s : State} (hs : ∀ j, j < s.num → SlotOk s j)
    (h5 : ∀ o i, (s.objs o).registered = true → (s.objs o).index = some i →
      i < s.num ∧ s.fds i = o)
    (h6 : ∀ o, (s.objs o).registered = true →
      ((s.objs o).index ≠ none ↔ (s.objs o).wanted ≠ 0)) : WF s :=
  ⟨fun j hj => (hs j hj).1, fun j hj => (hs j hj).2.1, fun j hj => (hs j hj).2.2.1,
    fun j hj => (hs j hj).2.2.2, h5, h6⟩

theorem WFx.slotOk {s : State} {x j : Nat} (h : WFx s x) (hj : j < s.num) (hx : s.fds j ≠ x) :
    SlotOk s j :=
  ⟨h.slot_index j hj, h.slot_reg j hj hx, h.slot_fd j hj, h.slot_events j hj hx⟩

theorem fds_inj_of {s : State} (h : ∀ i, i < s.num → (s.objs (s.fds i)).index = some i) {i j : Nat}
    (hi : i < s.num) (hj : j < s.num) (e : s.fds i = s.fds j) : i = j :=
  Option.some.inj ((h i hi).symm.trans (e ▸ h j hj))

theorem WFx.fds_inj {s : State} {x i j : Nat} (h : WFx s x) (hi : i < s.num) (hj : j < s.num)
    (e : s.fds i = s.fds j) : i = j := fds_inj_of h.slot_index hi hj e

theorem WF.fds_inj {s : State} {i j : Nat} (h : WF s) (hi : i < s.num) (hj : j < s.num)
    (e : s.fds i = s.fds j) : i = j := fds_inj_of h.slot_index hi hj e

theorem WFx.x_reg {s : State} {x : Nat} (h : WFx s x) (hw : (s.objs x).wanted ≠ 0) :
    (s.objs x).registered = true :=
  eq_true_of_ne_false fun hf => hw (h.x_unreg hf)

theorem obj_wanted_at {g : Nat → Obj} {x : Nat}
    (hg : ∀ o, o ≠ x → (g o).registered = true → ((g o).index ≠ none ↔ (g o).wanted ≠ 0))
    (hx : (g x).index ≠ none ↔ (g x).wanted ≠ 0) (o : Nat) (hr : (g o).registered = true) :
    (g o).index ≠ none ↔ (g o).wanted ≠ 0 := by
  by_cases hox : o = x
  · rw [hox]; exact hx
  · exact hg o hox hr

/-- the slots around the hole when `x` has one: it is slot `i`, so a last slot exists, and every other slot holds
another object -/
theorem WFx.at_slot {s : State} {x i : Nat} (h : WFx s x) (hi : (s.objs x).index = some i) :
    (i < s.num ∧ s.fds i = x) ∧ s.num - 1 < s.num ∧ ∀ {j}, j < s.num → j ≠ i → s.fds j ≠ x :=
  have hx := h.obj_slot x i (.inr rfl) hi
  ⟨hx, Nat.sub_one_lt (Nat.ne_of_gt (Nat.zero_lt_of_lt hx.1)),
    fun hj hji e => hji (h.fds_inj hj hx.1 (e.trans hx.2.symm))⟩

theorem WFx.no_slot {s : State} {x : Nat} (h : WFx s x) (hi : (s.objs x).index = none) (j : Nat)
    (hj : j < s.num) : s.fds j ≠ x := fun e => by
  have := h.slot_index j hj; rw [e, hi] at this; cases this

theorem notifyFd_wf {s : State} {x : Nat} (h : WFx s x) : WF (notifyFd s x) := by
  have hs := notifyFd_spec s x
  generalize notifyFd s x = s' at hs ⊢
  cases hs with
  | noop hi hw =>
    exact .of_slots (fun j hj => h.slotOk hj (h.no_slot hi j hj)) (fun o k hr => h.obj_slot o k (.inl hr))
      (obj_wanted_at h.obj_wanted (by simp [hi, hw]))
  | add hi hw =>
    have A := h.no_slot hi
    refine .of_slots (fun j hj => ?_) (fun o k hr hk => ?_) (fun o hr => ?_)
    · by_cases hjn : j = s.num
      · subst hjn; simp [SlotOk, h.x_reg hw]
      · have hj : j < s.num := Nat.lt_of_le_of_ne (Nat.le_of_lt_succ hj) hjn
        exact (h.slotOk hj (A j hj)).congr (upd_other _ _ _ _ hjn) (upd_other _ _ _ _ hjn)
          (upd_other _ _ _ _ (A j hj))
    · dsimp only at hr hk ⊢
      by_cases hox : o = x
      · rw [hox, upd_same] at hk; cases hk
        exact ⟨Nat.lt_succ_self _, hox ▸ upd_same ..⟩
      · rw [upd_other _ _ _ _ hox] at hr hk
        have := h.obj_slot o k (.inl hr) hk
        exact ⟨Nat.lt_succ_of_lt this.1, (upd_other _ _ _ _ (Nat.ne_of_lt this.1)).trans this.2⟩
    · exact obj_wanted_at (g := upd s.objs x _)
        (fun o hox => by rw [upd_other _ _ _ _ hox]; exact h.obj_wanted o hox)
        (by rw [upd_same]; simp [hw]) o hr
  | @mod i hi hw =>
    obtain ⟨hx, -, other⟩ := h.at_slot hi
    refine .of_slots (fun j hj => ?_) (fun o k hr => h.obj_slot o k (.inl hr))
      (obj_wanted_at h.obj_wanted (by simp [hi, hw]))
    by_cases hji : j = i
    · subst hji
      simp [SlotOk, hx.2, hi, h.x_reg hw, h.slot_fd j hj]
    · exact (h.slotOk hj (other hj hji)).congr rfl (upd_other _ _ _ _ hji) rfl
  | @delLast i hi hw hl =>
    obtain ⟨hx, hn, other⟩ := h.at_slot hi
    have up : ∀ {j}, j < s.num - 1 → j < s.num := fun hj => Nat.lt_trans hj hn
    have down : ∀ {k}, k < s.num → k ≠ s.num - 1 → k < s.num - 1 := fun h1 h2 =>
      Nat.lt_of_le_of_ne (Nat.le_sub_one_of_lt h1) h2
    refine .of_slots (fun j hj => ?_) (fun o k hr hk => ?_) (fun o hr => ?_)
    · have hj : j < s.num - 1 := hj
      have hjx := other (up hj) (hl ▸ Nat.ne_of_lt hj)
      exact (h.slotOk (up hj) hjx).congr rfl rfl (upd_other _ _ _ _ hjx)
    · dsimp only at hr hk ⊢
      by_cases hox : o = x
      · rw [hox, upd_same] at hk; cases hk
      · rw [upd_other _ _ _ _ hox] at hr hk
        have := h.obj_slot o k (.inl hr) hk
        exact ⟨down this.1 fun e => hox (by rw [← this.2, e, ← hl, hx.2]), this.2⟩
    · exact obj_wanted_at (g := upd s.objs x _)
        (fun o hox => by rw [upd_other _ _ _ _ hox]; exact h.obj_wanted o hox)
        (by rw [upd_same]; simp [hw]) o hr
  | @delSwap i hi hw hl =>
    obtain ⟨hx, hn, other⟩ := h.at_slot hi
    have up : ∀ {j}, j < s.num - 1 → j < s.num := fun hj => Nat.lt_trans hj hn
    have down : ∀ {k}, k < s.num → k ≠ s.num - 1 → k < s.num - 1 := fun h1 h2 =>
      Nat.lt_of_le_of_ne (Nat.le_sub_one_of_lt h1) h2
    have hlx : s.fds (s.num - 1) ≠ x := other hn (Ne.symm hl)
    have hlast := h.slotOk hn hlx
    refine .of_slots (fun j hj => ?_) (fun o k hr hk => ?_) (fun o hr => ?_)
    · have hj : j < s.num - 1 := hj
      by_cases hji : j = i
      · subst hji
        exact hlast.move (upd_same ..) (upd_same ..) ((upd_other _ _ _ _ hlx).trans (upd_same ..))
      · have hjx := other (up hj) hji
        have hjl : s.fds j ≠ s.fds (s.num - 1) := fun e =>
          Nat.ne_of_lt hj (h.fds_inj (up hj) hn e)
        exact (h.slotOk (up hj) hjx).congr (upd_other _ _ _ _ hji) (upd_other _ _ _ _ hji)
          ((upd_other _ _ _ _ hjx).trans (upd_other _ _ _ _ hjl))
    · dsimp only at hr hk ⊢
      by_cases hox : o = x
      · rw [hox, upd_same] at hk; cases hk
      · rw [upd_other _ _ _ _ hox] at hr hk
        by_cases hol : o = s.fds (s.num - 1)
        · rw [hol, upd_same] at hk; cases hk
          exact ⟨down hx.1 hl, hol ▸ upd_same ..⟩
        · rw [upd_other _ _ _ _ hol] at hr hk
          have := h.obj_slot o k (.inl hr) hk
          have hki : k ≠ i := fun e => hox (by rw [← this.2, e, hx.2])
          exact ⟨down this.1 fun e => hol (by rw [← this.2, e]),
            (upd_other _ _ _ _ hki).trans this.2⟩
    · refine obj_wanted_at (g := upd (upd s.objs (s.fds (s.num - 1)) _) x _) (fun o hox => ?_)
        (by rw [upd_same]; simp [hw]) o hr
      rw [upd_other _ _ _ _ hox]
      by_cases hol : o = s.fds (s.num - 1)
      · rw [hol, upd_same]
        have := (h.obj_wanted _ hlx hlast.2.1).1 (by simp [hlast.1])
        intro _; simpa using this
      · rw [upd_other _ _ _ _ hol]; exact h.obj_wanted o hox

/-- any store to an unregistered object that leaves it unregistered (`fd->fd = n`,
`fd->handler_in = h`, the failure path of iv_fd_register_try) -/
theorem wf_store_unregistered {s : State} (h : WF s) {x : Nat} (v : Obj)
    (hv : v.registered = false) (hx : (s.objs x).registered = false) :
    WF (s.setObj x v) := by
  have hne : ∀ o, ((s.setObj x v).objs o).registered = true → o ≠ x := fun o hr e => by
    subst e; simp [State.setObj, hv] at hr
  have hobj : ∀ o, ((s.setObj x v).objs o).registered = true → (s.setObj x v).objs o = s.objs o :=
    fun o hr => upd_other _ _ _ _ (hne o hr)
  refine .of_slots (fun j hj => ?_) (fun o i hr => ?_) (fun o hr => ?_)
  · have hjx : s.fds j ≠ x := fun e => by have := h.slot_reg j hj; simp [e, hx] at this
    exact SlotOk.congr ⟨h.slot_index j hj, h.slot_reg j hj, h.slot_fd j hj, h.slot_events j hj⟩
      rfl rfl (upd_other _ _ _ _ hjx)
  · rw [hobj o hr]; exact h.obj_slot o i (hobj o hr ▸ hr)
  · rw [hobj o hr]; exact h.obj_wanted o (hobj o hr ▸ hr)

/-- the general store: whatever iv_fd.c writes into `x` before calling `notify_fd(x)` -/
theorem wfx_store {s : State} (h : WF s) {x : Nat} (v : Obj)
    (h1 : (s.objs x).registered = true → v.index = (s.objs x).index ∧ v.fdnum = (s.objs x).fdnum)
    (h2 : (s.objs x).registered = false → v.index = none)
    (h3 : v.registered = false → v.wanted = 0) : WFx (s.setObj x v) x := by
  have hx : ∀ i, v.index = some i → (s.objs x).registered = true ∧ (s.objs x).index = some i :=
    fun i hi => by
      cases hr : (s.objs x).registered
      · rw [h2 hr] at hi; cases hi
      · exact ⟨rfl, by rw [← (h1 hr).1, hi]⟩
  refine ⟨fun j hj => ?_, fun j hj hjx => ?_, fun j hj => ?_, fun j hj hjx => ?_,
    fun o i hr hi => ?_, fun o hox hr => ?_, by simpa [State.setObj] using h3⟩
  all_goals simp only [State.setObj, upd_apply] at *
  · split
    · rw [(h1 (‹s.fds j = x› ▸ h.slot_reg j hj)).1, ← ‹s.fds j = x›]; exact h.slot_index j hj
    · exact h.slot_index j hj
  · rw [if_neg hjx]; exact h.slot_reg j hj
  · split
    · rw [(h1 (‹s.fds j = x› ▸ h.slot_reg j hj)).2, ← ‹s.fds j = x›]; exact h.slot_fd j hj
    · exact h.slot_fd j hj
  · rw [if_neg hjx]; exact h.slot_events j hj
  · split at hi
    · subst ‹o = x›; exact h.obj_slot o i (hx i hi).1 (hx i hi).2
    · rw [if_neg ‹_›] at hr; exact h.obj_slot o i (hr.resolve_right ‹_›) hi
  · rw [if_neg hox] at hr ⊢; exact h.obj_wanted o hr

/-- an object with `u.index` blanked: everything the back end never writes -/
def Obj.noIndex (fd : Obj) : Obj := { fd with index := none }

theorem Obj.eq_of_noIndex {a b : Obj} (h : a.noIndex = b.noIndex) :
    a = { b with index := a.index } := by
  cases a; cases b; simp_all [Obj.noIndex]

theorem upd_noIndex {f : Nat → Obj} {x : Nat} {a : Obj} (h : a.noIndex = (f x).noIndex)
    (o : Nat) : (upd f x a o).noIndex = (f o).noIndex := by
  rw [upd_apply]; split
  · rename_i e; rw [e]; exact h
  · rfl

theorem notifyFd_noIndex (s : State) (x o : Nat) :
    ((notifyFd s x).objs o).noIndex = (s.objs o).noIndex := by
  have hs := notifyFd_spec s x
  generalize notifyFd s x = s' at hs ⊢
  cases hs with
  | noop | mod => rfl
  | add | delLast => exact upd_noIndex (by rfl) o
  | delSwap => exact (upd_noIndex (by exact (upd_noIndex (by rfl) x).symm) o).trans (upd_noIndex (by rfl) o)

@[simp] theorem notifyFd_registered (s : State) (x o : Nat) :
    ((notifyFd s x).objs o).registered = (s.objs o).registered :=
  have h := congrArg Obj.registered (notifyFd_noIndex s x o); h
@[simp] theorem notifyFd_wanted (s : State) (x o : Nat) :
    ((notifyFd s x).objs o).wanted = (s.objs o).wanted :=
  have h := congrArg Obj.wanted (notifyFd_noIndex s x o); h
@[simp] theorem notifyFd_fdnum (s : State) (x o : Nat) :
    ((notifyFd s x).objs o).fdnum = (s.objs o).fdnum :=
  have h := congrArg Obj.fdnum (notifyFd_noIndex s x o); h

@[simp] theorem notifyFd_recompute (s : State) (x o : Nat) :
    recomputeWanted ((notifyFd s x).objs o) = recomputeWanted (s.objs o) := by
  rw [Obj.eq_of_noIndex (notifyFd_noIndex s x o)]; rfl

theorem wfx_setWanted {s : State} (h : WF s) {x : Nat} (hx : (s.objs x).registered = true)
    (b : Nat) : WFx (s.setObj x { s.objs x with wanted := b }) x :=
  wfx_store h _ (fun _ => ⟨rfl, rfl⟩) (by simp [hx]) (by simp [hx])

theorem setWanted_wf {s : State} (h : WF s) {x : Nat} (hx : (s.objs x).registered = true)
    (b : Nat) : WF (setWanted s x b) :=
  notifyFd_wf (wfx_setWanted h hx b)

/-- what iv_fd.c may store into `x` before it calls `notify_fd(x)`: the premises of `wfx_store`,
and `iv_fd_poll_register_fd`'s bound on the descriptor number of a newly registered object -/
def StoreOk (s : State) (x : Nat) (v : Obj) : Prop :=
  ((s.objs x).registered = true → v.index = (s.objs x).index ∧ v.fdnum = (s.objs x).fdnum) ∧
  ((s.objs x).registered = false → v.index = none) ∧
  (v.registered = false → v.wanted = 0) ∧
  ((s.objs x).registered = false → v.fdnum < MAXFD)

theorem StoreOk.wfx {s : State} {x : Nat} {v : Obj} (h : WF s) (hv : StoreOk s x v) :
    WFx (s.setObj x v) x :=
  wfx_store h v hv.1 hv.2.1 hv.2.2.1

def handlerObj (fd : Obj) (b : Band) (on : Bool) : Obj :=
  { (fd.setHandler b on) with wanted := recomputeWanted (fd.setHandler b on) }
def regObj (fd : Obj) : Obj :=
  { fd with registered := true, index := none,
            wanted := recomputeWanted { fd with registered := true, index := none } }
def unregObj (fd : Obj) : Obj :=
  { fd with registered := false, wanted := recomputeWanted { fd with registered := false } }

/-- every API call is: nothing / a store to an unregistered object / a store followed by
`notify_fd` / (register_try without handlers) store, `notify_fd`, `wanted = 0`, `notify_fd` -/
theorem step_shape (s : State) (op : Op) :
    step s op = s ∨
    (∃ v, step s op = s.setObj op.obj v ∧ (s.objs op.obj).registered = false ∧
      v.registered = false) ∨
    (∃ v, step s op = notifyFd (s.setObj op.obj v) op.obj ∧ StoreOk s op.obj v ∧
      (v.registered = true → v.wanted = recomputeWanted v)) ∨
    (∃ v, step s op = setWanted (notifyFd (s.setObj op.obj v) op.obj) op.obj 0 ∧
      StoreOk s op.obj v ∧ v.registered = true ∧ recomputeWanted v = 0) := by
  -- `step s op` unfolds (`step`, `stepG`, the `match` on `op`) to an `if` on the guard of the C
  -- function, so `if_pos` / `if_neg` of the guard is, by definition, the equation for that branch
  cases op with
  | setFd o n =>
    simp only [Op.obj]
    cases hr : (s.objs o).registered
    · exact .inr (.inl ⟨_, if_neg (by simp [hr]), rfl, hr⟩)
    · exact .inl (if_pos hr)
  | setHandler o b on =>
    simp only [Op.obj]
    cases hr : (s.objs o).registered
    · refine .inr (.inl ⟨_, if_neg (by simp [hr]), rfl, ?_⟩)
      cases b <;> exact hr
    · have e : step s (.setHandler o b on) = _ := if_pos hr
      refine .inr (.inr (.inl ⟨handlerObj (s.objs o) b on, ?_, ⟨?_, ?_, ?_, ?_⟩, fun _ => rfl⟩))
      · rw [e]; simp only [notifyG, setWantedG, setObj_setObj, setObj_objs_same, handlerObj]
      · intro _; cases b <;> exact ⟨rfl, rfl⟩
      · simp [hr]
      · cases b <;> simp [Obj.setHandler, handlerObj, hr]
      · simp [hr]
  | register o =>
    simp only [Op.obj]
    by_cases hg : ((s.objs o).registered || decide ((s.objs o).fdnum ≥ MAXFD)) = true
    · exact .inl (if_pos hg)
    · have hr := hg
      simp only [Bool.or_eq_true, not_or, Bool.not_eq_true, decide_eq_false_iff_not,
        Nat.not_le, ge_iff_le] at hr
      have e : step s (.register o) = _ := if_neg hg
      refine .inr (.inr (.inl ⟨regObj (s.objs o), ?_, ⟨?_, ?_, ?_, fun _ => hr.2⟩, fun _ => rfl⟩))
      · rw [e]; simp only [notifyG, setWantedG, registerFd, State.setIndex, setObj_setObj,
          setObj_objs_same, regObj]
      · simp [hr.1]
      · exact fun _ => rfl
      · simp [regObj]
  | registerTry o ok =>
    simp only [Op.obj]
    by_cases hg : ((s.objs o).registered || decide ((s.objs o).fdnum ≥ MAXFD)) = true
    · exact .inl (if_pos hg)
    · have hr := hg
      simp only [Bool.or_eq_true, not_or, Bool.not_eq_true, decide_eq_false_iff_not,
        Nat.not_le, ge_iff_le] at hr
      have e : step s (.registerTry o ok) = _ := if_neg hg
      simp only [notifyFdSyncG, registerFd, State.setIndex, setObj_setObj, setObj_objs_same] at e
      have hv : ∀ w, StoreOk s o { s.objs o with registered := true, index := none, wanted := w } :=
        fun w => ⟨by simp [hr.1], fun _ => rfl, by simp, fun _ => hr.2⟩
      cases ok with
      | false =>
        simp only [Bool.not_false, if_true, setObj_setObj, setObj_objs_same] at e
        exact .inr (.inl ⟨_, e, hr.1, rfl⟩)
      | true =>
        simp only [Bool.not_true, Bool.false_eq_true, if_false] at e
        -- what is left in `e` is `if (!orig_wanted_bands) { wanted_bands = 0; notify_fd }`
        split at e
        · exact .inr (.inr (.inr ⟨_, e, hv _, rfl, ‹_›⟩))
        · exact .inr (.inr (.inl ⟨_, e, hv _, fun _ => rfl⟩))
  | unregister o =>
    simp only [Op.obj]
    cases hr : (s.objs o).registered
    · exact .inl (if_pos (by simp [hr]))
    · have e : step s (.unregister o) = _ := if_neg (by simp [hr])
      refine .inr (.inr (.inl ⟨unregObj (s.objs o), ?_, ⟨?_, ?_, ?_, ?_⟩, fun _ => rfl⟩))
      · rw [e]; simp only [notifyG, setWantedG, setObj_setObj, setObj_objs_same, unregObj]
      · exact fun _ => ⟨rfl, rfl⟩
      · simp [hr]
      · simp [recomputeWanted, unregObj]
      · simp [hr]

theorem step_objs_other {s : State} {op : Op} {o : Nat} (ho : o ≠ op.obj) :
    ((step s op).objs o).noIndex = (s.objs o).noIndex := by
  rcases step_shape s op with e | ⟨v, e, _⟩ | ⟨v, e, _⟩ | ⟨v, e, _⟩ <;> rw [e]
  · rw [setObj_objs_other _ _ _ _ ho]
  · rw [notifyFd_noIndex, setObj_objs_other _ _ _ _ ho]
  · simp only [setWanted, setWantedG]
    rw [notifyFd_noIndex, setObj_objs_other _ _ _ _ ho, notifyFd_noIndex,
      setObj_objs_other _ _ _ _ ho]

theorem step_wf {s : State} (h : WF s) (op : Op) : WF (step s op) := by
  rcases step_shape s op with e | ⟨v, e, hx, hv⟩ | ⟨v, e, hv, _⟩ | ⟨v, e, hv, hvr, _⟩ <;> rw [e]
  · exact h
  · exact wf_store_unregistered h v hv hx
  · exact notifyFd_wf (hv.wfx h)
  · exact setWanted_wf (notifyFd_wf (hv.wfx h)) (by simp [hvr]) 0

theorem run_wf {s : State} (h : WF s) (ops : List Op) : WF (run s ops) := by
  induction ops generalizing s with
  | nil => exact h
  | cons op ops ih => exact ih (step_wf h op)

theorem init_wf : WF init := by
  constructor <;> simp [init]

/-- between API calls `wanted_bands` of a registered object is what `recompute_wanted_flags`
computes from its three handlers -/
def Tied (s : State) : Prop :=
  ∀ o, (s.objs o).registered = true → (s.objs o).wanted = recomputeWanted (s.objs o)

theorem step_tied {s : State} (h : Tied s) (op : Op) : Tied (step s op) := by
  intro o
  by_cases ho : o = op.obj
  · subst ho
    rcases step_shape s op with e | ⟨v, e, _, hv⟩ | ⟨v, e, _, hv⟩ | ⟨v, e, _, _, hv⟩ <;> rw [e]
    · exact h _
    · simp [hv]
    · simpa using hv
    · simp only [setWanted, setWantedG, notifyFd_registered, notifyFd_wanted, notifyFd_recompute,
        setObj_objs_same]
      rw [Obj.eq_of_noIndex (notifyFd_noIndex ..), setObj_objs_same]
      exact fun _ => hv.symm
  · rw [Obj.eq_of_noIndex (step_objs_other ho)]; exact h o

theorem run_tied {s : State} (h : Tied s) (ops : List Op) : Tied (run s ops) := by
  induction ops generalizing s with
  | nil => exact h
  | cons op ops ih => exact ih (step_tied h op)

/-- the `struct pollfd` currently polled on behalf of `o`, if any -/
def slotEntry (s : State) (o : Nat) : Option PollFd := (s.objs o).index.map s.pfds

/-- the slot of another registered object moves only in the swap-remove: it was the last slot, `x` wants nothing
any more, and it lands in `x`'s old slot -/
theorem notifyFd_index {s : State} {x : Nat} (h : WFx s x) {o : Nat} (ho : o ≠ x) :
    ((notifyFd s x).objs o).index = (s.objs o).index ∨
      ((s.objs o).index = some (s.num - 1) ∧ (s.objs x).wanted = 0 ∧
        ((notifyFd s x).objs o).index = (s.objs x).index) := by
  have hs := notifyFd_spec s x
  generalize notifyFd s x = s' at hs ⊢
  cases hs with
  | noop | mod => exact .inl rfl
  | add | delLast => exact .inl (congrArg Obj.index (upd_other _ _ _ _ ho))
  | @delSwap i hi hw hl =>
    dsimp only; rw [upd_other _ _ _ _ ho]
    by_cases hlast : o = s.fds (s.num - 1)
    · have hx := h.obj_slot x i (.inr rfl) hi
      refine .inr ⟨?_, hw, by rw [hlast, upd_same, hi]⟩
      rw [hlast]; exact h.slot_index _ (by omega)
    · exact .inl (by rw [upd_other _ _ _ _ hlast])

/-- `o` is to be polled: registered and `wanted_bands ≠ 0`; between API calls that means at least
one handler (`Tied`) -/
def isWanted (s : State) (o : Nat) : Bool := (s.objs o).registered && (s.objs o).wanted != 0

/-- what the kernel should be asked on behalf of `o` -/
def entryOf (s : State) (o : Nat) : PollFd :=
  ⟨(s.objs o).fdnum, bitsToPollMask (s.objs o).wanted⟩

/-- the array handed to `poll()`: the first `num` entries of `pfds[]` -/
def pollArray (s : State) : List PollFd := (List.range s.num).map s.pfds

/-- the abstract poll set, listed along a duplicate-free enumeration `univ` of the objects -/
def pollSet (s : State) (univ : List Nat) : List PollFd :=
  (univ.filter (isWanted s)).map (entryOf s)

theorem mem_slots_iff {s : State} (h : WF s) (o : Nat) :
    o ∈ (List.range s.num).map s.fds ↔ isWanted s o = true := by
  obtain ⟨h1, h2, h3, h4, h5, h6⟩ := h
  simp only [List.mem_map, List.mem_range, isWanted, Bool.and_eq_true, bne_iff_ne]
  constructor
  · rintro ⟨i, hi, rfl⟩
    exact ⟨h2 i hi, (h6 _ (h2 i hi)).1 (by simp [h1 i hi])⟩
  · rintro ⟨hr, hw⟩
    have := (h6 o hr).2 hw
    cases hi : (s.objs o).index with
    | none => exact absurd hi this
    | some i => exact ⟨i, h5 o i hr hi⟩

theorem nodup_map_range {α : Type} {n : Nat} {f : Nat → α}
    (hinj : ∀ a b, a < n → b < n → f a = f b → a = b) : ((List.range n).map f).Nodup := by
  rw [List.nodup_iff_pairwise_ne]
  refine List.Pairwise.map _ ?_ (List.pairwise_lt_range.imp_of_mem
    (S := fun a b => a < n ∧ b < n ∧ a < b) ?_)
  · rintro a b ⟨ha, hb, hab⟩ he
    exact Nat.ne_of_lt hab (hinj a b ha hb he)
  · intro a b ha hb hab
    exact ⟨List.mem_range.1 ha, List.mem_range.1 hb, hab⟩

theorem slots_nodup {s : State} (h : WF s) : ((List.range s.num).map s.fds).Nodup :=
  nodup_map_range fun _ _ ha hb => h.fds_inj ha hb

theorem slots_perm {s : State} (h : WF s) {univ : List Nat} (hnd : univ.Nodup)
    (hcov : ∀ o, (s.objs o).registered = true → o ∈ univ) :
    ((List.range s.num).map s.fds).Perm (univ.filter (isWanted s)) := by
  rw [List.perm_ext_iff_of_nodup (slots_nodup h) (hnd.sublist List.filter_sublist)]
  intro o
  rw [mem_slots_iff h, List.mem_filter]
  constructor
  · intro hw
    refine ⟨hcov o ?_, hw⟩
    simp only [isWanted, Bool.and_eq_true] at hw
    exact hw.1
  · exact fun hw => hw.2

theorem WF.pfds_eq {s : State} (h : WF s) {i : Nat} (hi : i < s.num) :
    s.pfds i = entryOf s (s.fds i) := by
  have h3 := h.slot_fd i hi
  have h4 := h.slot_events i hi
  cases hp : s.pfds i
  simp_all [entryOf]

/-- what is polled for a registered object is a function of that object's own `fd` and `wanted_bands` -/
theorem WF.slotEntry_eq {s : State} (h : WF s) {o : Nat} (hr : (s.objs o).registered = true) :
    slotEntry s o = if (s.objs o).wanted = 0 then none else some (entryOf s o) := by
  unfold slotEntry
  cases hi : (s.objs o).index with
  | none => rw [if_pos (Classical.not_not.1 (mt (h.obj_wanted o hr).2 (by simp [hi])))]; rfl
  | some i =>
    obtain ⟨hlt, hf⟩ := h.obj_slot o i hr hi
    rw [if_neg ((h.obj_wanted o hr).1 (by simp [hi])), Option.map_some, h.pfds_eq hlt, hf]

/-- so a call on another object, which preserves `WF` and writes at most `u.index` of `o`, cannot change it -/
theorem step_frame {s : State} (h : WF s) (op : Op) {o : Nat} (ho : o ≠ op.obj)
    (hr : (s.objs o).registered = true) :
    slotEntry (step s op) o = slotEntry s o ∧
    ((step s op).objs o).noIndex = (s.objs o).noIndex := by
  have e := step_objs_other (s := s) ho
  refine ⟨?_, e⟩
  rw [(step_wf h op).slotEntry_eq (by rw [Obj.eq_of_noIndex e]; exact hr), h.slotEntry_eq hr]
  simp only [entryOf]
  rw [Obj.eq_of_noIndex e]

theorem pollArray_eq {s : State} (h : WF s) :
    pollArray s = ((List.range s.num).map s.fds).map (entryOf s) := by
  simp only [pollArray, List.map_map]
  exact List.map_congr_left fun i hi => h.pfds_eq (List.mem_range.1 hi)

theorem pollArray_perm {s : State} (h : WF s) {univ : List Nat} (hnd : univ.Nodup)
    (hcov : ∀ o, (s.objs o).registered = true → o ∈ univ) :
    (pollArray s).Perm (pollSet s univ) := by
  rw [pollArray_eq h]
  exact (slots_perm h hnd hcov).map _

theorem num_eq_count {s : State} (h : WF s) {univ : List Nat} (hnd : univ.Nodup)
    (hcov : ∀ o, (s.objs o).registered = true → o ∈ univ) :
    s.num = (univ.filter (isWanted s)).length := by
  have := (slots_perm h hnd hcov).length_eq
  simpa using this

theorem step_registered_sub {s : State} (op : Op) (o : Nat)
    (h : ((step s op).objs o).registered = true) :
    (s.objs o).registered = true ∨ o = op.obj := by
  by_cases ho : o = op.obj
  · exact .inr ho
  · rw [Obj.eq_of_noIndex (step_objs_other ho)] at h; exact .inl h

theorem run_registered_sub {s : State} (ops : List Op) (o : Nat)
    (h : ((run s ops).objs o).registered = true) :
    (s.objs o).registered = true ∨ o ∈ ops.map Op.obj := by
  induction ops generalizing s with
  | nil => exact .inl h
  | cons op ops ih =>
    rcases ih (s := step s op) h with h' | h'
    · rcases step_registered_sub op o h' with h'' | h''
      · exact .inl h''
      · exact .inr (by simp [h''])
    · exact .inr (by simp [h'])

def dedup : List Nat → List Nat
  | [] => []
  | a :: l => if a ∈ dedup l then dedup l else a :: dedup l

theorem mem_dedup {a : Nat} {l : List Nat} : a ∈ dedup l ↔ a ∈ l := by
  induction l generalizing a with
  | nil => simp [dedup]
  | cons b l ih =>
    by_cases hb : b ∈ dedup l
    · rw [dedup, if_pos hb, ih, List.mem_cons]
      exact ⟨.inr, fun h => h.elim (fun e => e ▸ ih.1 hb) id⟩
    · simp [dedup, hb, ih]

theorem nodup_dedup (l : List Nat) : (dedup l).Nodup := by
  induction l with
  | nil => simp [dedup]
  | cons b l ih =>
    simp only [dedup]
    split
    · exact ih
    · exact List.nodup_cons.2 ⟨by assumption, ih⟩

theorem mem_activate {s : State} {rev : Nat → Nat} {o b : Nat} :
    (o, b) ∈ activate s rev ↔ ∃ i, i < s.num ∧ s.fds i = o ∧ b ∈ bandsOf (rev i) := by
  simp only [activate, List.mem_flatMap, List.mem_range, List.mem_map, Prod.mk.injEq]
  constructor
  · rintro ⟨i, hi, b', hb, rfl, rfl⟩; exact ⟨i, hi, rfl, hb⟩
  · rintro ⟨i, hi, rfl, hb⟩; exact ⟨i, hi, b, hb, rfl, rfl⟩

/-- what `poll()` leaves in `pfds[i].revents` when the kernel answers `K fd events` for a
descriptor `fd` polled for `events` -/
def kernelRevents (s : State) (K : Nat → Nat → Nat) : Nat → Nat :=
  fun i => K (s.pfds i).fd (s.pfds i).events

theorem mem_activate_kernel {s : State} (h : WF s) (K : Nat → Nat → Nat) (o b : Nat) :
    (o, b) ∈ activate s (kernelRevents s K) ↔
      isWanted s o = true ∧ b ∈ bandsOf (K (s.objs o).fdnum (bitsToPollMask (s.objs o).wanted)) := by
  rw [mem_activate]
  constructor
  · rintro ⟨i, hi, rfl, hb⟩
    refine ⟨(mem_slots_iff h _).1 (List.mem_map.2 ⟨i, List.mem_range.2 hi, rfl⟩), ?_⟩
    simpa [kernelRevents, h.slot_fd i hi, h.slot_events i hi] using hb
  · rintro ⟨hw, hb⟩
    obtain ⟨i, hi, rfl⟩ := List.mem_map.1 ((mem_slots_iff h o).2 hw)
    have hi := List.mem_range.1 hi
    exact ⟨i, hi, rfl, by simpa [kernelRevents, h.slot_fd i hi, h.slot_events i hi] using hb⟩

theorem nodup_bounded_length (n : Nat) (l : List Nat) (hnd : l.Nodup) (hb : ∀ x ∈ l, x < n) :
    l.length ≤ n := by
  have := List.Nodup.length_le_of_subset hnd fun x hx => List.mem_range.2 (hb x hx)
  simpa using this

/-- descriptor numbers of registered objects are below `IV_FD_POLL_MAXFD`
(`iv_fd_poll_register_fd` refuses others) -/
def FdBound (s : State) : Prop :=
  ∀ o, (s.objs o).registered = true → (s.objs o).fdnum < MAXFD

theorem step_fdBound {s : State} (h : FdBound s) (op : Op) : FdBound (step s op) := by
  intro o
  by_cases ho : o = op.obj
  · subst ho
    have hv : ∀ v, StoreOk s op.obj v → v.fdnum < MAXFD := fun v hv => by
      cases hr : (s.objs op.obj).registered
      · exact hv.2.2.2 hr
      · rw [(hv.1 hr).2]; exact h _ hr
    rcases step_shape s op with e | ⟨v, e, _, hv'⟩ | ⟨v, e, hv', _⟩ | ⟨v, e, hv', _⟩ <;> rw [e]
    · exact h _
    · simp [hv']
    · simpa using fun _ => hv v hv'
    · simpa [setWanted, setWantedG] using fun _ => hv v hv'
  · rw [Obj.eq_of_noIndex (step_objs_other ho)]; exact h o

theorem run_fdBound {s : State} (h : FdBound s) (ops : List Op) : FdBound (run s ops) := by
  induction ops generalizing s with
  | nil => exact h
  | cons op ops ih => exact ih (step_fdBound h op)

/-- if no two registered objects share a descriptor number, the live part of the arrays never
exceeds `IV_FD_POLL_MAXFD` entries -/
theorem num_le_maxfd {s : State} (h : WF s) (hb : FdBound s)
    (hd : ∀ o o', (s.objs o).registered = true → (s.objs o').registered = true →
      (s.objs o).fdnum = (s.objs o').fdnum → o = o') : s.num ≤ MAXFD := by
  have hl := nodup_bounded_length MAXFD ((List.range s.num).map fun i => (s.objs (s.fds i)).fdnum) ?_ ?_
  · simpa using hl
  · exact nodup_map_range fun a b ha hb' he =>
      h.fds_inj ha hb' (hd _ _ (h.slot_reg a ha) (h.slot_reg b hb') he)
  · intro x hx
    obtain ⟨i, hi, rfl⟩ := List.mem_map.1 hx
    exact hb _ (h.slot_reg i (List.mem_range.1 hi))

end Ivy.FdPoll
