import Ivy.L0.AvlPtr
import Ivy.L0.AvlProofs
import Ivy.L0.AvlPtrAttr
/-!
Equations for the primitive operations of the heap model (`Ivy/L0/AvlPtr.lean`): lookups
after a write, `height()`, a store that changes nothing.
-/
namespace Ivy.AvlPtr

attribute [heap_run] setRight setLeft setParent setHeight Heap.set recalcHeight

/- what `simp only [heap_run, …]` also needs to sequence the steps in the `Option` monad and
to bring the recalculated heights into the form `Avl.mk` gives them -/
attribute [heap_run] Option.bind_eq_bind Option.bind_some Option.map_some Option.isSome_some
  Option.some.injEq ne_eq not_false_eq_true gt_iff_lt Nat.add_max_add_left Nat.max_assoc
  Avl.Proofs.height_mk

@[simp, heap_run] theorem upd_same (m : Mem) (i : Nat) (n : Node) : upd m i n i = some n := by simp [upd]
@[heap_run] theorem upd_ne (m : Mem) {i j : Nat} (n : Node) (h : j ≠ i) : upd m i n j = m j := by simp [upd, h]

@[heap_run] theorem max_if (a b : Nat) : (if a > b then a else b) = Max.max a b := by
  simp only [Nat.max_def]; split <;> split <;> omega

@[simp] theorem height_none (h : Heap) : height h none = some 0 := rfl
@[simp, heap_run] theorem height_upd_same (m : Mem) (r : Option Nat) (i : Nat) (n : Node) :
    height ⟨upd m i n, r⟩ (some i) = some n.height := by simp [height]
@[heap_run] theorem height_upd_ne (m : Mem) (r : Option Nat) (i : Nat) (n : Node) (p : Option Nat)
    (h : p ≠ some i) : height ⟨upd m i n, r⟩ p = height ⟨m, r⟩ p := by
  cases p with
  | none => rfl
  | some j => have : j ≠ i := fun e => h (e ▸ rfl); simp [height, upd, this]

theorem upd_self {m : Mem} {p : Nat} {n : Node} (h : m p = some n) : upd m p n = m := by
  funext j
  by_cases hj : j = p
  · rw [hj, upd_same, h]
  · exact upd_ne m n hj

theorem store_noop {m : Mem} {root : Option Nat} {ref : Ref} {v : Option Nat}
    (hr : deref ⟨m, root⟩ ref = some v) : store ⟨m, root⟩ ref v = some ⟨m, root⟩ := by
  cases ref with
  | root => simp [deref] at hr; simp [store, hr]
  | left p =>
    cases hp : m p with
    | none => simp [deref, hp] at hr
    | some n =>
      simp only [deref, hp, Option.map_some, Option.some.injEq] at hr
      subst hr
      simp [store, hp, Heap.set, upd_self hp]
  | right p =>
    cases hp : m p with
    | none => simp [deref, hp] at hr
    | some n =>
      simp only [deref, hp, Option.map_some, Option.some.injEq] at hr
      subst hr
      simp [store, hp, Heap.set, upd_self hp]

end Ivy.AvlPtr
