import Ivy.L0.AvlPtrCtx
import Ivy.L0.AvlPtrHeap
/-!
Abstraction relation between the heap model (`Ivy/L0/AvlPtr.lean`) and the functional
tree (`Ivy/L0/Avl.lean`), and its basic lemmas.

* `Own m p par t ids` : pointer `p` (whose node must have parent pointer `par`) is the
  root of a pointer structure that has exactly the shape, keys and stored heights of `t`,
  every node's `parent` field is its actual parent, and `ids` is the in-order list of
  the node addresses.
* `OwnCtx m top tp c hole hp pre post` : the same for a one-hole context `c`
  (`AvlPtrCtx.lean`); `hole` is the pointer stored in the hole slot, `hp` the address the
  hole's root must have as parent, `pre`/`post` the in-order addresses left/right of the hole.
* `Repr h t ids` : the whole heap `h` represents `t`; addresses are distinct.
-/
namespace Ivy.AvlPtr
open Ivy.Avl (Tree toList size)
open Ivy.Avl.Tree

def Own (m : Mem) : Option Nat → Option Nat → Tree → List Nat → Prop
  | p, _, .nil, ids => p = none ∧ ids = []
  | p, par, .node l k h r, ids =>
      ∃ i lp rp il ir, p = some i ∧ m i = some ⟨k, lp, rp, par, h⟩ ∧
        Own m lp (some i) l il ∧ Own m rp (some i) r ir ∧ ids = il ++ i :: ir

def OwnCtx (m : Mem) (top tp : Option Nat) :
    List Frame → Option Nat → Option Nat → List Nat → List Nat → Prop
  | [], hole, hp, pre, post => hole = top ∧ hp = tp ∧ pre = [] ∧ post = []
  | .L k h sib :: c, hole, hp, pre, post =>
      ∃ i rp gp sids post', hp = some i ∧ m i = some ⟨k, hole, rp, gp, h⟩ ∧
        Own m rp (some i) sib sids ∧ OwnCtx m top tp c (some i) gp pre post' ∧
        post = i :: sids ++ post'
  | .R k h sib :: c, hole, hp, pre, post =>
      ∃ i lp gp sids pre', hp = some i ∧ m i = some ⟨k, lp, hole, gp, h⟩ ∧
        Own m lp (some i) sib sids ∧ OwnCtx m top tp c (some i) gp pre' post ∧
        pre = pre' ++ sids ++ [i]

theorem ownCtx_nil {m : Mem} {top tp : Option Nat} : OwnCtx m top tp [] top tp [] [] :=
  ⟨rfl, rfl, rfl, rfl⟩

/-- The heap represents the functional tree `t`; `ids` = node addresses in order.
Parent pointers are consistent (root's parent is NULL) and addresses are distinct. -/
def Repr (h : Heap) (t : Tree) (ids : List Nat) : Prop :=
  Own h.mem h.root none t ids ∧ ids.Nodup

theorem own_nil {m : Mem} {p par : Option Nat} {ids : List Nat} :
    Own m p par nil ids ↔ p = none ∧ ids = [] := Iff.rfl

theorem own_node {m : Mem} {p par : Option Nat} {l r : Tree} {k : Int} {h : Nat} {ids : List Nat} :
    Own m p par (node l k h r) ids ↔
      ∃ i lp rp il ir, p = some i ∧ m i = some ⟨k, lp, rp, par, h⟩ ∧
        Own m lp (some i) l il ∧ Own m rp (some i) r ir ∧ ids = il ++ i :: ir := Iff.rfl

theorem own_some_node {m : Mem} {i : Nat} {par : Option Nat} {l r : Tree} {k : Int} {h : Nat}
    {ids : List Nat} : Own m (some i) par (node l k h r) ids ↔
      ∃ lp rp il ir, m i = some ⟨k, lp, rp, par, h⟩ ∧
        Own m lp (some i) l il ∧ Own m rp (some i) r ir ∧ ids = il ++ i :: ir :=
  ⟨fun ⟨_, lp, rp, il, ir, e, h⟩ => by cases e; exact ⟨lp, rp, il, ir, h⟩,
    fun ⟨lp, rp, il, ir, h⟩ => ⟨i, lp, rp, il, ir, rfl, h⟩⟩

theorem own_mk {m : Mem} {i : Nat} {lp rp par : Option Nat} {l r : Tree} {k : Int} {h : Nat}
    {il ir : List Nat} (hm : m i = some ⟨k, lp, rp, par, h⟩) (hl : Own m lp (some i) l il)
    (hr : Own m rp (some i) r ir) : Own m (some i) par (node l k h r) (il ++ i :: ir) :=
  ⟨i, lp, rp, il, ir, rfl, hm, hl, hr, rfl⟩

theorem nodup_node {il ir : List Nat} {i : Nat} :
    (il ++ i :: ir).Nodup ↔
      il.Nodup ∧ ir.Nodup ∧ i ∉ il ∧ i ∉ ir ∧ ∀ j ∈ il, j ∉ ir ∧ j ≠ i := by
  simp only [List.nodup_append, List.nodup_cons, List.mem_cons]
  constructor
  · rintro ⟨h1, ⟨h2, h3⟩, h4⟩
    exact ⟨h1, h3, fun h => h4 i h i (.inl rfl) rfl, h2,
      fun j hj => ⟨fun h => h4 j hj j (.inr h) rfl, fun e => h4 j hj i (.inl rfl) e⟩⟩
  · rintro ⟨h1, h2, h3, h4, h5⟩
    refine ⟨h1, ⟨h4, h2⟩, ?_⟩
    rintro x hx y (rfl | hy) rfl
    · exact h3 hx
    · exact (h5 x hx).1 hy

theorem nodup_remove {A B : List Nat} {a : Nat} (nd : (A ++ a :: B).Nodup) :
    (A ++ B).Nodup ∧ a ∉ A ++ B := by
  obtain ⟨h1, h2, h3, h4, h5⟩ := nodup_node.1 nd
  exact ⟨List.nodup_append.2 ⟨h1, h2, fun x hx y hy e => (h5 x hx).1 (e ▸ hy)⟩, by simp [h3, h4]⟩

theorem nodup_split_unique {A A' B B' : List Nat} {i : Nat} (nd : (A ++ i :: B).Nodup)
    (e : A ++ i :: B = A' ++ i :: B') : A = A' ∧ B = B' := by
  induction A generalizing A' with
  | nil =>
    cases A' with
    | nil => simpa using e
    | cons a A' =>
      simp only [List.nil_append, List.cons_append, List.cons.injEq] at e
      obtain ⟨rfl, rfl⟩ := e
      simp at nd
  | cons a A ih =>
    cases A' with
    | nil =>
      simp only [List.nil_append, List.cons_append, List.cons.injEq] at e
      obtain ⟨rfl, rfl⟩ := e
      simp at nd
    | cons a' A' =>
      simp only [List.cons_append, List.cons.injEq] at e
      obtain ⟨rfl, e⟩ := e
      obtain ⟨rfl, rfl⟩ := ih (by simpa using (List.nodup_cons.1 nd).2) e
      exact ⟨rfl, rfl⟩

theorem nodup_ctx {pre ids post : List Nat} :
    (pre ++ ids ++ post).Nodup ↔
      (pre ++ post).Nodup ∧ ids.Nodup ∧ ∀ j ∈ ids, j ∉ pre ++ post := by
  simp only [List.nodup_append, List.mem_append]
  grind

theorem mem_ctx {pre ids post : List Nat} {j : Nat} :
    j ∈ pre ++ ids ++ post ↔ j ∈ pre ++ post ∨ j ∈ ids := by
  simp only [List.mem_append]
  exact ⟨fun h => h.elim (·.elim (.inl ∘ .inl) .inr) (.inl ∘ .inr),
    fun h => h.elim (·.elim (.inl ∘ .inl) .inr) (.inl ∘ .inr)⟩

theorem mem_ctx_mono {pre ids ids' post : List Nat} (h : ∀ j ∈ ids, j ∈ ids') {j : Nat}
    (hj : j ∈ pre ++ ids ++ post) : j ∈ pre ++ ids' ++ post :=
  (mem_ctx.1 hj).elim (mem_ctx.2 ∘ .inl) (mem_ctx.2 ∘ .inr ∘ h j)

theorem not_mem_ctx {pre ids post : List Nat} {j : Nat} :
    j ∉ pre ++ ids ++ post ↔ j ∉ pre ++ post ∧ j ∉ ids := by
  rw [mem_ctx, not_or]

theorem own_frame {m m' : Mem} {p par : Option Nat} {t : Tree} {ids : List Nat}
    (h : Own m p par t ids) (hf : ∀ i ∈ ids, m' i = m i) : Own m' p par t ids := by
  induction t generalizing p par ids with
  | nil => exact h
  | node l k hh r ihl ihr =>
    obtain ⟨i, lp, rp, il, ir, rfl, hm, hl, hr, rfl⟩ := h
    refine ⟨i, lp, rp, il, ir, rfl, ?_, ihl hl ?_, ihr hr ?_, rfl⟩
    · rw [hf i (by simp)]; exact hm
    · intro j hj; exact hf j (by simp [hj])
    · intro j hj; exact hf j (by simp [hj])

theorem own_length {m : Mem} {p par : Option Nat} {t : Tree} {ids : List Nat}
    (h : Own m p par t ids) : ids.length = size t := by
  induction t generalizing p par ids with
  | nil => rw [h.2]; rfl
  | node l k hh r ihl ihr =>
    obtain ⟨i, lp, rp, il, ir, rfl, hm, hl, hr, rfl⟩ := h
    simp [size, ihl hl, ihr hr]; omega

theorem own_none {m : Mem} {par : Option Nat} {t : Tree} {ids : List Nat}
    (h : Own m none par t ids) : t = nil ∧ ids = [] := by
  cases t with
  | nil => exact ⟨rfl, h.2⟩
  | node l k hh r => obtain ⟨i, _, _, _, _, e, _⟩ := h; cases e

theorem own_some {m : Mem} {i : Nat} {par : Option Nat} {t : Tree} {ids : List Nat}
    (h : Own m (some i) par t ids) :
    ∃ l k hh r lp rp il ir, t = node l k hh r ∧ m i = some ⟨k, lp, rp, par, hh⟩ ∧
      Own m lp (some i) l il ∧ Own m rp (some i) r ir ∧ ids = il ++ i :: ir := by
  cases t with
  | nil => cases h.1
  | node l k hh r =>
    obtain ⟨lp, rp, il, ir, hm, hl, hr, rfl⟩ := own_some_node.1 h
    exact ⟨l, k, hh, r, lp, rp, il, ir, rfl, hm, hl, hr, rfl⟩

theorem own_root_mem {m : Mem} {i : Nat} {par : Option Nat} {t : Tree} {ids : List Nat}
    (h : Own m (some i) par t ids) : i ∈ ids := by
  obtain ⟨_, _, _, _, _, _, _, _, _, _, _, _, rfl⟩ := own_some h
  simp

theorem own_ne {m : Mem} {p par : Option Nat} {t : Tree} {ids : List Nat}
    (h : Own m p par t ids) {j : Nat} (hj : j ∉ ids) : p ≠ some j := by
  rintro rfl; exact hj (own_root_mem h)

theorem own_upd {m : Mem} {p par : Option Nat} {t : Tree} {ids : List Nat}
    (h : Own m p par t ids) {i : Nat} (hi : i ∉ ids) (n : Node) : Own (upd m i n) p par t ids :=
  own_frame h fun _ hj => upd_ne m n (ne_of_mem_of_not_mem hj hi)

theorem own_height {m : Mem} {root p par : Option Nat} {t : Tree} {ids : List Nat}
    (h : Own m p par t ids) : height ⟨m, root⟩ p = some (Avl.height t) := by
  cases t with
  | nil => rw [h.1]; rfl
  | node l k hh r =>
    obtain ⟨i, lp, rp, il, ir, rfl, hm, _, _, _⟩ := h
    simp [height, hm, Avl.height]

theorem own_keys {m : Mem} {p par : Option Nat} {t : Tree} {ids : List Nat}
    (h : Own m p par t ids) :
    ids.map (fun i => (m i).map (·.key)) = (toList t).map some := by
  induction t generalizing p par ids with
  | nil => rw [h.2]; rfl
  | node l k hh r ihl ihr =>
    obtain ⟨i, lp, rp, il, ir, rfl, hm, hl, hr, rfl⟩ := h
    simp [toList, ihl hl, ihr hr, hm]

def reparent (m : Mem) (p : Option Nat) (par : Option Nat) : Mem :=
  match p with
  | none => m
  | some j =>
    match m j with
    | none => m
    | some n => upd m j { n with parent := par }

@[heap_run] theorem reparent_ne {m : Mem} {p par : Option Nat} {j : Nat} (h : p ≠ some j) :
    reparent m p par j = m j := by
  cases p with
  | none => rfl
  | some i =>
    have : j ≠ i := fun e => h (e ▸ rfl)
    simp only [reparent]
    cases m i <;> simp [upd, this]

theorem reparent_same (m : Mem) (j : Nat) (par : Option Nat) :
    reparent m (some j) par j = (m j).map ({ · with parent := par }) := by
  simp only [reparent]
  cases hm : m j <;> simp [hm]

theorem reparent_root {m : Mem} {par : Option Nat} {j : Nat} {n : Node} (h : m j = some n) :
    reparent m (some j) par j = some { n with parent := par } := by
  rw [reparent_same, h]; rfl

theorem reparent_other {m : Mem} {p par par' : Option Nat} {t : Tree} {ids : List Nat}
    (h : Own m p par t ids) {j : Nat} (hj : j ∉ ids) : reparent m p par' j = m j :=
  reparent_ne (own_ne h hj)

/-- "retop": the root (top) node of a region is given a new parent and nothing else in the
region changes; here for a subtree, `ownCtx_retop` for a context, `ctx_hole_retop` for a
context with the subtree in its hole. -/
theorem own_retop {m m' : Mem} {p par par' : Option Nat} {t : Tree} {ids : List Nat}
    (h : Own m p par t ids) (nd : ids.Nodup)
    (hf : ∀ j ∈ ids, p ≠ some j → m' j = m j)
    (hp : ∀ j n, p = some j → m j = some n → m' j = some { n with parent := par' }) :
    Own m' p par' t ids := by
  cases t with
  | nil => exact ⟨h.1, h.2⟩
  | node l k hh r =>
    obtain ⟨i, lp, rp, il, ir, rfl, hm, hl, hr, rfl⟩ := h
    obtain ⟨_, _, hil, hir, _⟩ := nodup_node.1 nd
    refine ⟨i, lp, rp, il, ir, rfl, hp i _ rfl hm, own_frame hl fun j hj => ?_,
      own_frame hr fun j hj => ?_, rfl⟩
    · exact hf j (by simp [hj]) (by rintro e; cases e; exact hil hj)
    · exact hf j (by simp [hj]) (by rintro e; cases e; exact hir hj)

theorem own_reparent {m : Mem} {p par par' : Option Nat} {t : Tree} {ids : List Nat}
    (h : Own m p par t ids) (nd : ids.Nodup) : Own (reparent m p par') p par' t ids :=
  own_retop h nd (fun _ _ hne => reparent_ne hne) fun _ _ e hm => e ▸ reparent_root hm

@[heap_run] theorem height_reparent (m : Mem) (root p par q : Option Nat) :
    height ⟨reparent m p par, root⟩ q = height ⟨m, root⟩ q := by
  cases q with
  | none => rfl
  | some j =>
    by_cases h : p = some j
    · subst h
      simp only [height, reparent]
      cases hm : m j <;> simp [hm]
    · simp [height, reparent_ne h]

@[heap_run] theorem setParentIf_eq {m : Mem} {root p par : Option Nat}
    (h : (height ⟨m, root⟩ p).isSome) :
    setParentIf ⟨m, root⟩ p par = some ⟨reparent m p par, root⟩ := by
  cases p with
  | none => rfl
  | some i =>
    cases hm : m i with
    | none => simp [height, hm] at h
    | some n => simp [setParentIf, setParent, hm, reparent, Heap.set]

theorem setParentIf_own {m : Mem} {root p par par' : Option Nat} {t : Tree} {ids : List Nat}
    (h : Own m p par t ids) :
    setParentIf ⟨m, root⟩ p par' = some ⟨reparent m p par', root⟩ :=
  setParentIf_eq (by rw [own_height (root := root) h]; rfl)

theorem ownCtx_consL {m : Mem} {top tp : Option Nat} {c : List Frame} {hole rp gp : Option Nat}
    {i : Nat} {k : Int} {h : Nat} {sib : Tree} {sids pre post : List Nat}
    (hm : m i = some ⟨k, hole, rp, gp, h⟩) (hs : Own m rp (some i) sib sids)
    (hc : OwnCtx m top tp c (some i) gp pre post) :
    OwnCtx m top tp (.L k h sib :: c) hole (some i) pre (i :: sids ++ post) :=
  ⟨i, rp, gp, sids, post, rfl, hm, hs, hc, rfl⟩

theorem ownCtx_consR {m : Mem} {top tp : Option Nat} {c : List Frame} {hole lp gp : Option Nat}
    {i : Nat} {k : Int} {h : Nat} {sib : Tree} {sids pre post : List Nat}
    (hm : m i = some ⟨k, lp, hole, gp, h⟩) (hs : Own m lp (some i) sib sids)
    (hc : OwnCtx m top tp c (some i) gp pre post) :
    OwnCtx m top tp (.R k h sib :: c) hole (some i) (pre ++ sids ++ [i]) post :=
  ⟨i, lp, gp, sids, pre, rfl, hm, hs, hc, rfl⟩

theorem ownCtx_frame {m m' : Mem} {top tp : Option Nat} {c : List Frame} {hole hp : Option Nat}
    {pre post : List Nat} (h : OwnCtx m top tp c hole hp pre post)
    (hf : ∀ i ∈ pre ++ post, m' i = m i) : OwnCtx m' top tp c hole hp pre post := by
  induction c generalizing hole hp pre post with
  | nil => exact h
  | cons f c ih =>
    cases f with
    | L k hh sib =>
      obtain ⟨i, rp, gp, sids, post', rfl, hm, hs, hc, rfl⟩ := h
      refine ⟨i, rp, gp, sids, post', rfl, ?_, own_frame hs ?_, ih hc ?_, rfl⟩
      · rw [hf i (by simp)]; exact hm
      · intro j hj; exact hf j (by simp [hj])
      · intro j hj
        exact hf j (by rcases List.mem_append.1 hj with h | h <;> simp [h])
    | R k hh sib =>
      obtain ⟨i, lp, gp, sids, pre', rfl, hm, hs, hc, rfl⟩ := h
      refine ⟨i, lp, gp, sids, pre', rfl, ?_, own_frame hs ?_, ih hc ?_, rfl⟩
      · rw [hf i (by simp)]; exact hm
      · intro j hj; exact hf j (by simp [hj])
      · intro j hj
        exact hf j (by rcases List.mem_append.1 hj with h | h <;> simp [h])

theorem ownCtx_upd {m : Mem} {top tp : Option Nat} {c : List Frame} {hole hp : Option Nat}
    {pre post : List Nat} (h : OwnCtx m top tp c hole hp pre post) {i : Nat}
    (hi : i ∉ pre ++ post) (n : Node) : OwnCtx (upd m i n) top tp c hole hp pre post :=
  ownCtx_frame h fun _ hj => upd_ne m n (ne_of_mem_of_not_mem hj hi)

theorem ownCtx_fill {m : Mem} {top tp : Option Nat} {f : Frame} {c : List Frame}
    {hole hp : Option Nat} {pre post ids : List Nat} {t : Tree}
    (hc : OwnCtx m top tp (f :: c) hole hp pre post) (ht : Own m hole hp t ids) :
    ∃ i gp pre' post' I, hp = some i ∧ OwnCtx m top tp c (some i) gp pre' post' ∧
      Own m (some i) gp (fill f t) I ∧ pre ++ ids ++ post = pre' ++ I ++ post' := by
  cases f with
  | L k hh sib =>
    obtain ⟨i, rp, gp, sids, post', rfl, hm, hs, hc', rfl⟩ := hc
    exact ⟨i, gp, pre, post', _, rfl, hc', own_mk hm ht hs, by simp⟩
  | R k hh sib =>
    obtain ⟨i, lp, gp, sids, pre', rfl, hm, hs, hc', rfl⟩ := hc
    exact ⟨i, gp, pre', post, _, rfl, hc', own_mk hm hs ht, by simp⟩

theorem own_plug {m : Mem} {top tp : Option Nat} {c : List Frame} {hole hp : Option Nat}
    {pre post ids : List Nat} {t : Tree}
    (hc : OwnCtx m top tp c hole hp pre post) (ht : Own m hole hp t ids) :
    Own m top tp (plug c t) (pre ++ ids ++ post) := by
  induction c generalizing hole hp pre post t ids with
  | nil =>
    obtain ⟨rfl, rfl, rfl, rfl⟩ := hc
    simpa using ht
  | cons f c ih =>
    obtain ⟨i, gp, pre', post', I, rfl, hc', hI, e⟩ := ownCtx_fill hc ht
    exact e ▸ ih hc' hI

theorem own_unplug {m : Mem} {top tp : Option Nat} {c : List Frame} {t : Tree} {I : List Nat}
    (h : Own m top tp (plug c t) I) :
    ∃ hole hp pre post ids, OwnCtx m top tp c hole hp pre post ∧ Own m hole hp t ids ∧
      I = pre ++ ids ++ post := by
  induction c generalizing t with
  | nil => exact ⟨top, tp, [], [], I, ownCtx_nil, h, by simp⟩
  | cons f c ih =>
    obtain ⟨hole', hp', pre, post, ids', hc, ht, rfl⟩ := ih (t := fill f t) h
    cases f with
    | L k hh sib =>
      obtain ⟨i, lp, rp, il, ir, rfl, hm, hl, hr, rfl⟩ := ht
      exact ⟨lp, some i, pre, i :: ir ++ post, il,
        ownCtx_consL hm hr hc, hl, by simp⟩
    | R k hh sib =>
      obtain ⟨i, lp, rp, il, ir, rfl, hm, hl, hr, rfl⟩ := ht
      exact ⟨rp, some i, pre ++ il ++ [i], post, ir,
        ownCtx_consR hm hl hc, hr, by simp⟩

theorem ownCtx_append {m : Mem} {top tp mid mp : Option Nat} {c1 c2 : List Frame}
    {hole hp : Option Nat} {pre1 post1 pre2 post2 : List Nat}
    (h1 : OwnCtx m mid mp c1 hole hp pre1 post1) (h2 : OwnCtx m top tp c2 mid mp pre2 post2) :
    OwnCtx m top tp (c1 ++ c2) hole hp (pre2 ++ pre1) (post1 ++ post2) := by
  induction c1 generalizing hole hp pre1 post1 with
  | nil =>
    obtain ⟨rfl, rfl, rfl, rfl⟩ := h1
    simpa using h2
  | cons f c ih =>
    cases f with
    | L k hh sib =>
      obtain ⟨i, rp, gp, sids, post', rfl, hm, hs, hc, rfl⟩ := h1
      exact ⟨i, rp, gp, sids, post' ++ post2, rfl, hm, hs, ih hc, by simp⟩
    | R k hh sib =>
      obtain ⟨i, lp, gp, sids, pre', rfl, hm, hs, hc, rfl⟩ := h1
      exact ⟨i, lp, gp, sids, pre2 ++ pre', rfl, hm, hs, ih hc, by simp⟩

theorem ownCtx_split {m : Mem} {top tp : Option Nat} {c1 c2 : List Frame}
    {hole hp : Option Nat} {pre post : List Nat}
    (h : OwnCtx m top tp (c1 ++ c2) hole hp pre post) :
    ∃ mid mp pre1 post1 pre2 post2, OwnCtx m mid mp c1 hole hp pre1 post1 ∧
      OwnCtx m top tp c2 mid mp pre2 post2 ∧ pre = pre2 ++ pre1 ∧ post = post1 ++ post2 := by
  induction c1 generalizing hole hp pre post with
  | nil => exact ⟨hole, hp, [], [], pre, post, ownCtx_nil, h, by simp, by simp⟩
  | cons f c ih =>
    cases f with
    | L k hh sib =>
      obtain ⟨i, rp, gp, sids, post', rfl, hm, hs, hc, rfl⟩ := h
      obtain ⟨mid, mp, pre1, post1, pre2, post2, a, b, rfl, rfl⟩ := ih hc
      exact ⟨mid, mp, pre1, i :: sids ++ post1, pre2, post2,
        ownCtx_consL hm hs a, b, rfl, by simp⟩
    | R k hh sib =>
      obtain ⟨i, lp, gp, sids, pre', rfl, hm, hs, hc, rfl⟩ := h
      obtain ⟨mid, mp, pre1, post1, pre2, post2, a, b, rfl, rfl⟩ := ih hc
      exact ⟨mid, mp, pre1 ++ sids ++ [i], post1, pre2, post2,
        ownCtx_consR hm hs a, b, by simp, rfl⟩

theorem ownCtx_hp_mem {m : Mem} {top tp : Option Nat} {c : List Frame} {hole hp : Option Nat}
    {pre post : List Nat} (h : OwnCtx m top tp c hole hp pre post) (hc : c ≠ []) :
    ∃ g, hp = some g ∧ g ∈ pre ++ post := by
  cases c with
  | nil => exact absurd rfl hc
  | cons f c =>
    cases f with
    | L k hh sib =>
      obtain ⟨i, rp, gp, sids, post', rfl, hm, hs, hc, rfl⟩ := h
      exact ⟨i, rfl, by simp⟩
    | R k hh sib =>
      obtain ⟨i, lp, gp, sids, pre', rfl, hm, hs, hc, rfl⟩ := h
      exact ⟨i, rfl, by simp⟩

theorem ownCtx_top_mem {m : Mem} {top tp : Option Nat} {c : List Frame} {hole hp : Option Nat}
    {pre post : List Nat} (h : OwnCtx m top tp c hole hp pre post) (hc : c ≠ []) :
    ∃ j, top = some j ∧ j ∈ pre ++ post := by
  induction c generalizing hole hp pre post with
  | nil => exact absurd rfl hc
  | cons f c ih =>
    cases f with
    | L k hh sib =>
      obtain ⟨i, rp, gp, sids, post', rfl, hm, hs, hc', rfl⟩ := h
      by_cases hn : c = []
      · subst hn
        exact ⟨i, hc'.1.symm, by simp⟩
      · obtain ⟨j, e, hj⟩ := ih hc' hn
        exact ⟨j, e, by rcases List.mem_append.1 hj with h | h <;> simp [h]⟩
    | R k hh sib =>
      obtain ⟨i, lp, gp, sids, pre', rfl, hm, hs, hc', rfl⟩ := h
      by_cases hn : c = []
      · subst hn
        exact ⟨i, hc'.1.symm, by simp⟩
      · obtain ⟨j, e, hj⟩ := ih hc' hn
        exact ⟨j, e, by rcases List.mem_append.1 hj with h | h <;> simp [h]⟩

/-- the top node of a non-empty context is the node of its outermost frame: split that frame
off, re-parent its node, and frame the rest -/
theorem ownCtx_retop {m m' : Mem} {top tp tp' : Option Nat} {c : List Frame}
    {hole hp : Option Nat} {pre post : List Nat}
    (h : OwnCtx m top tp c hole hp pre post) (hc : c ≠ []) (nd : (pre ++ post).Nodup)
    (hf : ∀ j ∈ pre ++ post, top ≠ some j → m' j = m j)
    (hp' : ∀ j n, top = some j → m j = some n → m' j = some { n with parent := tp' }) :
    OwnCtx m' top tp' c hole hp pre post := by
  obtain rfl | ⟨c', f, rfl⟩ := List.eq_nil_or_concat c
  · exact absurd rfl hc
  rw [List.concat_eq_append] at h ⊢
  obtain ⟨mid, mp, pre1, post1, pre2, post2, h1, h2, rfl, rfl⟩ := ownCtx_split h
  cases f with
  | L k hh sib =>
    obtain ⟨i, rp, gp, sids, _, rfl, hm, hs, ⟨rfl, rfl, rfl, rfl⟩, rfl⟩ := h2
    obtain ⟨_, _, hi1, hi2, _⟩ :=
      (nodup_node (il := pre1 ++ post1) (i := i) (ir := sids)).1 (by simpa using nd)
    refine ownCtx_append (ownCtx_frame h1 fun j hj => hf j ?_ fun e => hi1 (Option.some.inj e ▸ hj))
      ⟨i, rp, tp', sids, [], rfl, hp' i _ rfl hm,
        own_frame hs fun j hj => hf j (by simp [hj]) fun e => hi2 (Option.some.inj e ▸ hj),
        ownCtx_nil, rfl⟩
    rcases List.mem_append.1 hj with h | h <;> simp [h]
  | R k hh sib =>
    obtain ⟨i, lp, gp, sids, _, rfl, hm, hs, ⟨rfl, rfl, rfl, rfl⟩, rfl⟩ := h2
    obtain ⟨_, _, hi1, hi2, _⟩ :=
      (nodup_node (il := sids) (i := i) (ir := pre1 ++ post1)).1 (by simpa using nd)
    refine ownCtx_append (ownCtx_frame h1 fun j hj => hf j ?_ fun e => hi2 (Option.some.inj e ▸ hj))
      ⟨i, lp, tp', sids, [], rfl, hp' i _ rfl hm,
        own_frame hs fun j hj => hf j (by simp [hj]) fun e => hi1 (Option.some.inj e ▸ hj),
        ownCtx_nil, rfl⟩
    rcases List.mem_append.1 hj with h | h <;> simp [h]

/-- context + hole subtree, re-parented at the top; when the context is empty the hole's
root is the top, so its expected parent changes with it -/
theorem ctx_hole_retop {m m' : Mem} {top tp tp' : Option Nat} {c : List Frame}
    {hole hp : Option Nat} {pre post ids : List Nat} {t : Tree}
    (h : OwnCtx m top tp c hole hp pre post) (ht : Own m hole hp t ids)
    (nd : (pre ++ ids ++ post).Nodup)
    (hf : ∀ j ∈ pre ++ ids ++ post, top ≠ some j → m' j = m j)
    (hp' : ∀ j n, top = some j → m j = some n → m' j = some { n with parent := tp' }) :
    OwnCtx m' top tp' c hole (if c = [] then tp' else hp) pre post ∧
      Own m' hole (if c = [] then tp' else hp) t ids := by
  obtain ⟨ndc, ndi, di⟩ := nodup_ctx.1 nd
  by_cases hc : c = []
  · subst hc
    obtain ⟨rfl, rfl, rfl, rfl⟩ := h
    exact ⟨ownCtx_nil, own_retop ht ndi (fun j hj => hf j (by simp [hj])) hp'⟩
  · simp only [hc, if_false]
    obtain ⟨jt, rfl, hjt⟩ := ownCtx_top_mem h hc
    exact ⟨ownCtx_retop h hc ndc (fun j hj => hf j (mem_ctx.2 (.inl hj))) hp',
      own_frame ht fun j hj => hf j (mem_ctx.2 (.inr hj)) fun e => di j hj (Option.some.inj e ▸ hjt)⟩

theorem allR_post {m : Mem} {top tp : Option Nat} {c : List Frame} {hole hp : Option Nat}
    {pre post : List Nat} (h : OwnCtx m top tp c hole hp pre post) (hc : AllR c) : post = [] := by
  induction c generalizing hole hp pre post with
  | nil => exact h.2.2.2
  | cons f c ih =>
    obtain ⟨hf, hc0⟩ := List.forall_mem_cons.1 hc
    cases f with
    | L k hh sib => exact hf.elim
    | R k hh sib =>
      obtain ⟨i, lp, gp, sids, pre', rfl, hm, hs, hc', rfl⟩ := h
      exact ih hc' hc0

theorem allL_pre {m : Mem} {top tp : Option Nat} {c : List Frame} {hole hp : Option Nat}
    {pre post : List Nat} (h : OwnCtx m top tp c hole hp pre post) (hc : AllL c) : pre = [] := by
  induction c generalizing hole hp pre post with
  | nil => exact h.2.2.1
  | cons f c ih =>
    obtain ⟨hf, hc0⟩ := List.forall_mem_cons.1 hc
    cases f with
    | R k hh sib => exact hf.elim
    | L k hh sib =>
      obtain ⟨i, rp, gp, sids, post', rfl, hm, hs, hc', rfl⟩ := h
      exact ih hc' hc0

theorem own_find {m : Mem} {top tp : Option Nat} {T : Tree} {I : List Nat}
    (h : Own m top tp T I) {a : Nat} (ha : a ∈ I) :
    ∃ c l k hh r par pre post il ir lp rp, T = plug c (node l k hh r) ∧
      OwnCtx m top tp c (some a) par pre post ∧ m a = some ⟨k, lp, rp, par, hh⟩ ∧
      Own m lp (some a) l il ∧ Own m rp (some a) r ir ∧
      I = pre ++ (il ++ a :: ir) ++ post := by
  induction T generalizing top tp I with
  | nil => rw [h.2] at ha; cases ha
  | node l k hh r ihl ihr =>
    obtain ⟨i, lp, rp, il, ir, rfl, hm, hl, hr, rfl⟩ := h
    simp only [List.mem_append, List.mem_cons] at ha
    rcases ha with ha | rfl | ha
    · obtain ⟨c, l', k', hh', r', par, pre, post, il', ir', lp', rp', e, hc, hm', hl', hr', rfl⟩ := ihl hl ha
      refine ⟨c ++ [.L k hh r], l', k', hh', r', par, _, _, il', ir',
        lp', rp', by rw [plug_append, ← e]; rfl,
        ownCtx_append hc (c2 := [.L k hh r]) (ownCtx_consL hm hr ownCtx_nil), hm', hl', hr', by simp⟩
    · exact ⟨[], l, k, hh, r, tp, [], [], il, ir, lp, rp, rfl, ownCtx_nil, hm, hl, hr, by simp⟩
    · obtain ⟨c, l', k', hh', r', par, pre, post, il', ir', lp', rp', e, hc, hm', hl', hr', rfl⟩ := ihr hr ha
      refine ⟨c ++ [.R k hh l], l', k', hh', r', par, _, _, il', ir',
        lp', rp', by rw [plug_append, ← e]; rfl,
        ownCtx_append hc (c2 := [.R k hh l]) (ownCtx_consR hm hl ownCtx_nil), hm', hl', hr', by simp⟩

/-- `ref` is the address of the slot that holds the hole pointer of context `c` -/
def IsRef : List Frame → Option Nat → Ref → Prop
  | [], _, ref => ref = .root
  | .L .. :: _, hp, ref => ∃ g, hp = some g ∧ ref = .left g
  | .R .. :: _, hp, ref => ∃ g, hp = some g ∧ ref = .right g

def Ref.owner : Ref → Option Nat
  | .root => none
  | .left g => some g
  | .right g => some g

theorem isRef_owner {c : List Frame} {hp : Option Nat} {ref : Ref} (h : IsRef c hp ref) :
    ref.owner = none ∨ ref.owner = hp := by
  cases c with
  | nil => rw [h]; exact Or.inl rfl
  | cons f c =>
    cases f <;> (obtain ⟨g, rfl, rfl⟩ := h; exact Or.inr rfl)

theorem isRef_append {c1 c2 : List Frame} {hp : Option Nat} {ref : Ref} (hne : c1 ≠ []) :
    IsRef (c1 ++ c2) hp ref ↔ IsRef c1 hp ref := by
  cases c1 with
  | nil => exact absurd rfl hne
  | cons f c => cases f <;> exact Iff.rfl

theorem deref_ctx {m : Mem} {root : Option Nat} {c : List Frame} {hole hp : Option Nat}
    {pre post : List Nat} {ref : Ref}
    (hc : OwnCtx m root none c hole hp pre post) (hr : IsRef c hp ref) :
    deref ⟨m, root⟩ ref = some hole := by
  cases c with
  | nil => obtain ⟨rfl, _⟩ := hc; rw [hr]; rfl
  | cons f c =>
    cases f with
    | L k hh sib =>
      obtain ⟨i, rp, gp, sids, post', rfl, hm, hs, hc, rfl⟩ := hc
      obtain ⟨g, e, rfl⟩ := hr
      cases e
      simp [deref, hm]
    | R k hh sib =>
      obtain ⟨i, lp, gp, sids, pre', rfl, hm, hs, hc, rfl⟩ := hc
      obtain ⟨g, e, rfl⟩ := hr
      cases e
      simp [deref, hm]

theorem findReference_ctx {m : Mem} {root : Option Nat} {c : List Frame} {i : Nat}
    {hp : Option Nat} {pre post ids : List Nat} {t : Tree}
    (hc : OwnCtx m root none c (some i) hp pre post) (hi : Own m (some i) hp t ids)
    (hn : i ∉ pre ++ post) :
    ∃ ref, findReference ⟨m, root⟩ i = some ref ∧ IsRef c hp ref := by
  obtain ⟨l, k, hh, r, lp, rp, il, ir, rfl, hm, _, _, rfl⟩ := own_some hi
  cases c with
  | nil =>
    obtain ⟨_, rfl, _⟩ := hc
    exact ⟨.root, by simp [findReference, hm], rfl⟩
  | cons f c =>
    cases f with
    | L k' hh' sib =>
      obtain ⟨g, rp', gp, sids, post', rfl, hg, hs, hc, rfl⟩ := hc
      exact ⟨.left g, by simp [findReference, hm, hg], g, rfl, rfl⟩
    | R k' hh' sib =>
      obtain ⟨g, lp', gp, sids, pre', rfl, hg, hs, hc, rfl⟩ := hc
      have : lp' ≠ some i := own_ne hs fun h => hn (by simp [h])
      exact ⟨.right g, by simp [findReference, hm, hg, this], g, rfl, rfl⟩

theorem store_ctx_gen {m : Mem} {top tp : Option Nat} {c : List Frame} {hole hp : Option Nat}
    {pre post : List Nat} {ref : Ref}
    (hc : OwnCtx m top tp c hole hp pre post) (hne : c ≠ []) (hr : IsRef c hp ref)
    (nd : (pre ++ post).Nodup) (v : Option Nat) :
    ∃ m', (∀ root, store ⟨m, root⟩ ref v = some ⟨m', root⟩) ∧
      OwnCtx m' top tp c v hp pre post ∧ (∀ j, hp ≠ some j → m' j = m j) := by
  cases c with
  | nil => exact absurd rfl hne
  | cons f c =>
    cases f with
    | L k hh sib =>
      obtain ⟨g, rp, gp, sids, post', rfl, hg, hs, hc, rfl⟩ := hc
      obtain ⟨_, e, rfl⟩ := hr
      cases e
      obtain ⟨_, _, h1, h2, _⟩ := (nodup_node (il := pre) (i := g) (ir := sids ++ post')).1 nd
      simp only [List.mem_append, not_or] at h2
      exact ⟨upd m g ⟨k, v, rp, gp, hh⟩, fun root => by simp [store, hg, Heap.set],
        ⟨g, rp, gp, sids, post', rfl, upd_same .., own_upd hs h2.1 _,
          ownCtx_upd hc (by simp [h1, h2.2]) _, rfl⟩,
        fun j hj => upd_ne _ _ fun e => hj (e ▸ rfl)⟩
    | R k hh sib =>
      obtain ⟨g, lp, gp, sids, pre', rfl, hg, hs, hc, rfl⟩ := hc
      obtain ⟨_, e, rfl⟩ := hr
      cases e
      obtain ⟨_, _, h1, h2, _⟩ :=
        (nodup_node (il := pre' ++ sids) (i := g) (ir := post)).1 (by simpa using nd)
      simp only [List.mem_append, not_or] at h1
      exact ⟨upd m g ⟨k, lp, v, gp, hh⟩, fun root => by simp [store, hg, Heap.set],
        ⟨g, lp, gp, sids, pre', rfl, upd_same .., own_upd hs h1.2 _,
          ownCtx_upd hc (by simp [h1.1, h2]) _, rfl⟩,
        fun j hj => upd_ne _ _ fun e => hj (e ▸ rfl)⟩

theorem store_ctx {m : Mem} {root : Option Nat} {c : List Frame} {hole hp : Option Nat}
    {pre post : List Nat} {ref : Ref}
    (hc : OwnCtx m root none c hole hp pre post) (hr : IsRef c hp ref)
    (nd : (pre ++ post).Nodup) (v : Option Nat) :
    ∃ m' root', store ⟨m, root⟩ ref v = some ⟨m', root'⟩ ∧
      OwnCtx m' root' none c v hp pre post ∧ (∀ j, j ∉ pre ++ post → m' j = m j) := by
  cases c with
  | nil =>
    obtain ⟨rfl, rfl, rfl, rfl⟩ := hc
    rw [hr]
    exact ⟨m, v, rfl, ownCtx_nil, fun _ _ => rfl⟩
  | cons f c =>
    obtain ⟨m', e, h1, h2⟩ := store_ctx_gen hc (by simp) hr nd v
    obtain ⟨g, rfl, hg⟩ := ownCtx_hp_mem hc (by simp)
    exact ⟨m', root, e root, h1, fun j hj => h2 j fun e => hj (Option.some.inj e ▸ hg)⟩

theorem replaceReference_ctx {m : Mem} {root : Option Nat} {c : List Frame} {i : Nat}
    {hp : Option Nat} {pre post ids : List Nat} {t : Tree}
    (hc : OwnCtx m root none c (some i) hp pre post) (hi : Own m (some i) hp t ids)
    (nd : (pre ++ post).Nodup) (hn : i ∉ pre ++ post) (v : Option Nat) :
    ∃ m' root', replaceReference ⟨m, root⟩ i v = some ⟨m', root'⟩ ∧
      OwnCtx m' root' none c v hp pre post ∧ (∀ j, j ∉ pre ++ post → m' j = m j) := by
  obtain ⟨ref, e1, href⟩ := findReference_ctx hc hi hn
  obtain ⟨m', root', e2, h⟩ := store_ctx hc href nd v
  exact ⟨m', root', by simp [replaceReference, e1, e2], h⟩

theorem descendLeft_spec {m : Mem} {root : Option Nat} : ∀ (t : Tree) {i : Nat} {par : Option Nat}
    {ids : List Nat} (fuel : Nat), Own m (some i) par t ids → size t ≤ fuel →
    ∃ v rest, ids = v :: rest ∧ descendLeft fuel ⟨m, root⟩ i = some v := by
  intro t
  induction t with
  | nil => intro i par ids fuel h; cases h.1
  | node l k hh r ihl _ =>
    intro i par ids fuel h hf
    obtain ⟨lp, rp, il, ir, hm, hl, hr, rfl⟩ := own_some_node.1 h
    cases fuel with
    | zero => simp [size] at hf
    | succ fuel =>
      cases lp with
      | none =>
        obtain ⟨_, rfl⟩ := own_none hl
        exact ⟨i, ir, rfl, by simp [descendLeft, hm]⟩
      | some j =>
        obtain ⟨v, rest, rfl, e⟩ := ihl fuel hl (by simp [size] at hf; omega)
        exact ⟨v, rest ++ i :: ir, rfl, by simp [descendLeft, hm, e]⟩

theorem descendRight_spec {m : Mem} {root : Option Nat} : ∀ (t : Tree) {i : Nat} {par : Option Nat}
    {ids : List Nat} (fuel : Nat), Own m (some i) par t ids → size t ≤ fuel →
    ∃ v init, ids = init ++ [v] ∧ descendRight fuel ⟨m, root⟩ i = some v := by
  intro t
  induction t with
  | nil => intro i par ids fuel h; cases h.1
  | node l k hh r _ ihr =>
    intro i par ids fuel h hf
    obtain ⟨lp, rp, il, ir, hm, hl, hr, rfl⟩ := own_some_node.1 h
    cases fuel with
    | zero => simp [size] at hf
    | succ fuel =>
      cases rp with
      | none =>
        obtain ⟨_, rfl⟩ := own_none hr
        exact ⟨i, il, rfl, by simp [descendRight, hm]⟩
      | some j =>
        obtain ⟨v, init, rfl, e⟩ := ihr fuel hr (by simp [size] at hf; omega)
        exact ⟨v, il ++ i :: init, by simp, by simp [descendRight, hm, e]⟩

end Ivy.AvlPtr
