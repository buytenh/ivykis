import Ivy.L0.ListPtr
/-!
Refinement proofs for the pointer-level list model (`Ivy/L0/ListPtr.lean`).

A circular doubly-linked list is two singly-linked rings over the same nodes, one through
the `next` fields and one, in the opposite direction, through the `prev` fields:

* `Walk f a xs b` : starting at address `a` and following the field map `f` one visits
  exactly the addresses `xs`, in order, and then arrives at `b`;
* `Repr h head xs` : the addresses `head :: xs` are pairwise distinct, following `next` from
  `head` one visits `xs` and is back at `head`, following `prev` from `head` one visits
  `xs.reverse` and is back at `head`.

All list surgery is proved once for a generic field map (`walk_retarget`, `walk_replace`) and instantiated for
`next` (with `xs`) and `prev` (with `xs.reverse`) in `repr_replace`.  Each C function is then handled in three steps: compute
the resulting heap in closed form (`wrNext`/`wrPrev` = the stores), read off its `next`/`prev`
maps, apply the generic lemma.
-/
namespace Ivy.ListPtr

/-- `l.headD d` (`hd_eq_headD`) -/
def hd : List Nat → Nat → Nat
  | [], d => d
  | a :: _, _ => a

/-- `l.getLastD d` (`lst_eq_getLastD`), as a recursion that moves the default along: the neighbour
of a gap is `lst A head` / `hd B head` whether or not `A` / `B` is empty, and `lst_cons`,
`lst_append` unfold it without a side condition -/
def lst : List Nat → Nat → Nat
  | [], d => d
  | a :: l, _ => lst l a

@[simp] theorem hd_nil (d : Nat) : hd [] d = d := rfl
@[simp] theorem hd_cons (a : Nat) (l : List Nat) (d : Nat) : hd (a :: l) d = a := rfl
@[simp] theorem lst_nil (d : Nat) : lst [] d = d := rfl
@[simp] theorem lst_cons (a : Nat) (l : List Nat) (d : Nat) : lst (a :: l) d = lst l a := rfl

theorem hd_eq_headD (l : List Nat) (d : Nat) : hd l d = l.headD d := by cases l <;> rfl
theorem lst_eq_getLastD (l : List Nat) (d : Nat) : lst l d = l.getLastD d := by
  induction l generalizing d with
  | nil => rfl
  | cons a l ih => rw [lst_cons, ih, List.getLastD_cons]

@[simp] theorem hd_append (l₁ l₂ : List Nat) (d : Nat) : hd (l₁ ++ l₂) d = hd l₁ (hd l₂ d) := by
  cases l₁ <;> rfl

@[simp] theorem lst_append (l₁ l₂ : List Nat) (d : Nat) : lst (l₁ ++ l₂) d = lst l₂ (lst l₁ d) := by
  induction l₁ generalizing d with
  | nil => rfl
  | cons a l ih => simp [ih]

@[simp] theorem hd_reverse (l : List Nat) (d : Nat) : hd l.reverse d = lst l d := by
  induction l generalizing d with
  | nil => rfl
  | cons a l ih => simp [ih]

@[simp] theorem lst_reverse (l : List Nat) (d : Nat) : lst l.reverse d = hd l d := by
  cases l with
  | nil => rfl
  | cons a l => simp

theorem lst_mem (l : List Nat) (d : Nat) : lst l d ∈ d :: l := by
  induction l generalizing d with
  | nil => simp
  | cons a l ih =>
    rw [lst_cons]
    exact List.mem_cons_of_mem _ (ih a)

theorem nodup_reverse (l : List Nat) : l.reverse.Nodup ↔ l.Nodup :=
  (List.reverse_perm l).nodup_iff

theorem nodup_insert_seg {d : Nat} {A B Y : List Nat} (h : (d :: (A ++ B)).Nodup) (hy : Y.Nodup)
    (hdis : ∀ i ∈ Y, i ∉ d :: (A ++ B)) : (d :: (A ++ Y ++ B)).Nodup := by
  have p : (Y ++ d :: (A ++ B)).Perm (d :: (A ++ Y ++ B)) := by
    refine List.perm_middle.trans (List.Perm.cons d ?_)
    rw [← List.append_assoc]
    exact List.perm_append_comm.append_right B
  exact p.nodup_iff.1 (List.nodup_append.2 ⟨hy, h, fun a ha b hb e => hdis a ha (e ▸ hb)⟩)

theorem nodup_rev_swap {d : Nat} {A B : List Nat} (h : (d :: (A ++ B)).Nodup) :
    (d :: (B.reverse ++ A.reverse)).Nodup := by
  rw [← List.reverse_append]
  exact ((List.reverse_perm _).cons d).nodup_iff.2 h

theorem mem_rev_swap {i d : Nat} {A B : List Nat} (h : i ∈ d :: (B.reverse ++ A.reverse)) :
    i ∈ d :: (A ++ B) := by
  rw [← List.reverse_append] at h
  exact ((List.reverse_perm _).cons d).mem_iff.1 h

theorem hd_mem (l : List Nat) (d : Nat) : hd l d ∈ d :: l := by
  cases l <;> simp

theorem lst_mem_append (A B : List Nat) (d : Nat) : lst A d ∈ d :: (A ++ B) :=
  (List.mem_cons.1 (lst_mem A d)).elim (fun e => by rw [e]; exact List.mem_cons_self ..)
    fun h => List.mem_cons_of_mem _ (List.mem_append_left _ h)

theorem hd_mem_append (A B : List Nat) (d : Nat) : hd B d ∈ d :: (A ++ B) :=
  (List.mem_cons.1 (hd_mem B d)).elim (fun e => by rw [e]; exact List.mem_cons_self ..)
    fun h => List.mem_cons_of_mem _ (List.mem_append_right _ h)

theorem mem_mid {i d : Nat} {A B : List Nat} (x : Nat) (h : i ∈ d :: (A ++ B)) :
    i ∈ d :: (A ++ x :: B) := by
  simp only [List.mem_cons, List.mem_append] at h ⊢
  exact h.elim .inl fun h => .inr (h.elim .inl fun h => .inr (.inr h))

/-- `next` field at an address: `none` = not allocated, `some none` = NULL -/
def nextOf (h : Heap) (a : Nat) : Option (Option Nat) := (h a).map (·.next)
def prevOf (h : Heap) (a : Nat) : Option (Option Nat) := (h a).map (·.prev)

def wrNext (h : Heap) (a : Nat) (v : Option Nat) : Heap :=
  fun j => if j = a then (h j).map fun n => { n with next := v } else h j
def wrPrev (h : Heap) (a : Nat) (v : Option Nat) : Heap :=
  fun j => if j = a then (h j).map fun n => { n with prev := v } else h j

def Alloc (h : Heap) (a : Nat) : Prop := (h a).isSome

instance (h : Heap) (a : Nat) : Decidable (Alloc h a) := inferInstanceAs (Decidable ((h a).isSome = true))

theorem ldNext_some (h : Heap) (a : Nat) : ldNext h (some a) = nextOf h a := rfl
theorem ldPrev_some (h : Heap) (a : Nat) : ldPrev h (some a) = prevOf h a := rfl

theorem stNext_some {h : Heap} {a : Nat} (v : Option Nat) (ha : Alloc h a) :
    stNext h (some a) v = some (wrNext h a v) := by
  unfold Alloc at ha
  cases e : h a with
  | none => simp [e] at ha
  | some n =>
    simp only [stNext, e]
    congr 1; funext j
    by_cases hj : j = a <;> simp [wrNext, hj, e]

theorem stPrev_some {h : Heap} {a : Nat} (v : Option Nat) (ha : Alloc h a) :
    stPrev h (some a) v = some (wrPrev h a v) := by
  unfold Alloc at ha
  cases e : h a with
  | none => simp [e] at ha
  | some n =>
    simp only [stPrev, e]
    congr 1; funext j
    by_cases hj : j = a <;> simp [wrPrev, hj, e]

@[simp] theorem alloc_wrNext (h : Heap) (a : Nat) (v : Option Nat) (j : Nat) :
    Alloc (wrNext h a v) j ↔ Alloc h j := by
  by_cases hj : j = a <;> simp [Alloc, wrNext, hj]

@[simp] theorem alloc_wrPrev (h : Heap) (a : Nat) (v : Option Nat) (j : Nat) :
    Alloc (wrPrev h a v) j ↔ Alloc h j := by
  by_cases hj : j = a <;> simp [Alloc, wrPrev, hj]

theorem alloc_of_next {h : Heap} {a : Nat} {v : Option Nat} (e : nextOf h a = some v) : Alloc h a := by
  unfold nextOf at e; unfold Alloc
  cases e' : h a <;> simp [e'] at e ⊢

theorem alloc_of_prev {h : Heap} {a : Nat} {v : Option Nat} (e : prevOf h a = some v) : Alloc h a := by
  unfold prevOf at e; unfold Alloc
  cases e' : h a <;> simp [e'] at e ⊢

theorem nextOf_wrNext_self {h : Heap} {a : Nat} (v : Option Nat) (ha : Alloc h a) :
    nextOf (wrNext h a v) a = some v := by
  unfold Alloc at ha
  cases e : h a <;> simp_all [nextOf, wrNext]

theorem prevOf_wrPrev_self {h : Heap} {a : Nat} (v : Option Nat) (ha : Alloc h a) :
    prevOf (wrPrev h a v) a = some v := by
  unfold Alloc at ha
  cases e : h a <;> simp_all [prevOf, wrPrev]

theorem nextOf_wrNext_ne {h : Heap} {a j : Nat} (v : Option Nat) (hj : j ≠ a) :
    nextOf (wrNext h a v) j = nextOf h j := by
  simp [nextOf, wrNext, hj]

theorem prevOf_wrPrev_ne {h : Heap} {a j : Nat} (v : Option Nat) (hj : j ≠ a) :
    prevOf (wrPrev h a v) j = prevOf h j := by
  simp [prevOf, wrPrev, hj]

@[simp] theorem nextOf_wrPrev (h : Heap) (a : Nat) (v : Option Nat) (j : Nat) :
    nextOf (wrPrev h a v) j = nextOf h j := by
  by_cases hj : j = a
  · subst hj; cases e : h j <;> simp [nextOf, wrPrev, e]
  · simp [nextOf, wrPrev, hj]

@[simp] theorem prevOf_wrNext (h : Heap) (a : Nat) (v : Option Nat) (j : Nat) :
    prevOf (wrNext h a v) j = prevOf h j := by
  by_cases hj : j = a
  · subst hj; cases e : h j <;> simp [prevOf, wrNext, e]
  · simp [prevOf, wrNext, hj]

theorem wrNext_ne {h : Heap} {a j : Nat} (v : Option Nat) (hj : j ≠ a) : wrNext h a v j = h j := by
  simp [wrNext, hj]

theorem wrPrev_ne {h : Heap} {a j : Nat} (v : Option Nat) (hj : j ≠ a) : wrPrev h a v j = h j := by
  simp [wrPrev, hj]

theorem node_of_fields {h : Heap} {a : Nat} {n p : Option Nat}
    (hn : nextOf h a = some n) (hp : prevOf h a = some p) : h a = some ⟨n, p⟩ := by
  unfold nextOf at hn; unfold prevOf at hp
  cases e : h a with
  | none => simp [e] at hn
  | some nd =>
    cases nd
    simp_all

theorem fields_of_node {h : Heap} {a : Nat} {n p : Option Nat} (e : h a = some ⟨n, p⟩) :
    nextOf h a = some n ∧ prevOf h a = some p := by
  simp [nextOf, prevOf, e]

theorem heap_ext_at {h h' : Heap} {a : Nat} (hn : nextOf h' a = nextOf h a)
    (hp : prevOf h' a = prevOf h a) : h' a = h a := by
  unfold nextOf at hn; unfold prevOf at hp
  cases e : h a with
  | none => cases e' : h' a <;> simp_all
  | some nd =>
    cases e' : h' a with
    | none => simp_all
    | some nd' => cases nd; cases nd'; simp_all

abbrev FMap := Nat → Option (Option Nat)

def Walk (f : FMap) : Nat → List Nat → Nat → Prop
  | a, [], b => f a = some (some b)
  | a, x :: xs, b => f a = some (some x) ∧ Walk f x xs b

instance decWalk (f : FMap) : (a : Nat) → (xs : List Nat) → (b : Nat) → Decidable (Walk f a xs b)
  | a, [], b => inferInstanceAs (Decidable (f a = some (some b)))
  | a, x :: xs, b =>
    have := decWalk f x xs b
    inferInstanceAs (Decidable (f a = some (some x) ∧ Walk f x xs b))

/-- the part of a walk after its first hop; when `B` is empty that hop already arrived and there is
nothing left to say -/
def Tail (f : FMap) : List Nat → Nat → Prop
  | [], _ => True
  | t :: B, b => Walk f t B b

theorem walk_iff_tail {f : FMap} {a : Nat} {B : List Nat} {b : Nat} :
    Walk f a B b ↔ f a = some (some (hd B b)) ∧ Tail f B b := by
  cases B <;> simp [Walk, Tail]

theorem walk_append {f : FMap} {a : Nat} {A : List Nat} {y : Nat} {B : List Nat} {b : Nat} :
    Walk f a (A ++ y :: B) b ↔ Walk f a A y ∧ Walk f y B b := by
  induction A generalizing a with
  | nil => simp [Walk]
  | cons x A ih => simp [Walk, ih, and_assoc]

theorem walk_split {f : FMap} {a : Nat} {A B : List Nat} {b : Nat} :
    Walk f a (A ++ B) b ↔ Walk f a A (hd B b) ∧ Tail f B b := by
  cases B with
  | nil => simp [Tail]
  | cons t B => simp [walk_append, Tail]

theorem walk_frame {f f' : FMap} {a : Nat} {A : List Nat} {b : Nat}
    (hw : Walk f a A b) (hf : ∀ i ∈ a :: A, f' i = f i) : Walk f' a A b := by
  induction A generalizing a with
  | nil => simpa [Walk, hf a (by simp)] using hw
  | cons x A ih =>
    refine ⟨by simpa [hf a (by simp)] using hw.1, ih hw.2 ?_⟩
    intro i hi; exact hf i (List.mem_cons_of_mem _ hi)

theorem tail_frame {f f' : FMap} {B : List Nat} {b : Nat}
    (ht : Tail f B b) (hf : ∀ i ∈ B, f' i = f i) : Tail f' B b := by
  cases B with
  | nil => trivial
  | cons t B => exact walk_frame ht hf

theorem walk_retarget {f f' : FMap} {a : Nat} {A : List Nat} {c t : Nat}
    (hw : Walk f a A c) (nd : (a :: A).Nodup)
    (hl : f' (lst A a) = some (some t))
    (hf : ∀ i ∈ a :: A, i ≠ lst A a → f' i = f i) : Walk f' a A t := by
  induction A generalizing a with
  | nil => simpa [Walk] using hl
  | cons x A ih =>
    rw [lst_cons] at hl hf
    have hne : a ≠ lst A x := by
      intro e
      have := lst_mem A x
      rw [← e] at this
      exact (List.nodup_cons.1 nd).1 this
    refine ⟨?_, ih hw.2 (List.nodup_cons.1 nd).2 hl ?_⟩
    · rw [hf a (by simp) hne]; exact hw.1
    · intro i hi; exact hf i (List.mem_cons_of_mem _ hi)

theorem walk_retarget_keep {f f' : FMap} {a : Nat} {A B : List Nat} {c t b : Nat}
    (h1 : Walk f a A c) (h2 : Tail f B b) (nd : (a :: (A ++ B)).Nodup)
    (hl : f' (lst A a) = some (some t))
    (hf : ∀ i ∈ a :: (A ++ B), i ≠ lst A a → f' i = f i) : Walk f' a A t ∧ Tail f' B b := by
  have nd' : ((a :: A) ++ B).Nodup := nd
  obtain ⟨ndA, _, hdis⟩ := List.nodup_append.1 nd'
  exact ⟨walk_retarget h1 ndA hl fun i hi => hf i (List.mem_append_left B hi),
    tail_frame h2 fun i hi => hf i (List.mem_append_right (a :: A) hi) fun e =>
      hdis _ (lst_mem A a) _ hi e.symm⟩

theorem tail_append {f : FMap} {S B : List Nat} {b : Nat} :
    Tail f (S ++ B) b ↔ Tail f S (hd B b) ∧ Tail f B b := by
  cases S with
  | nil => simp [Tail]
  | cons s S => simp only [List.cons_append, Tail]; exact walk_split

theorem tail_retarget {f f' : FMap} {S : List Nat} {c t : Nat}
    (ht : Tail f S c) (nd : S.Nodup) (hl : f' (lst S c) = some (some t))
    (hf : ∀ i ∈ S, i ≠ lst S c → f' i = f i) : Tail f' S t := by
  cases S with
  | nil => trivial
  | cons s S => exact walk_retarget ht nd hl hf

/-- the segment `X` between `A` and `B` is replaced by `S` (removal: `S = []`; insertion: `X = []`): the hop out of `A`
is new, nothing else in `A` or `B` is written -/
theorem walk_replace {f f' : FMap} {a : Nat} {A X B S : List Nat} {b : Nat}
    (hw : Walk f a (A ++ X ++ B) b) (nd : (a :: (A ++ B)).Nodup)
    (hs : Walk f' (lst A a) S (hd B b))
    (hf : ∀ i ∈ a :: (A ++ B), i ≠ lst A a → f' i = f i) :
    Walk f' a (A ++ S ++ B) b := by
  rw [List.append_assoc] at hw ⊢
  obtain ⟨h1, h2⟩ := walk_split.1 hw
  obtain ⟨s1, s2⟩ := walk_iff_tail.1 hs
  obtain ⟨k1, k2⟩ := walk_retarget_keep h1 (tail_append.1 h2).2 nd (by simpa using s1) hf
  exact walk_split.2 ⟨by rw [hd_append]; exact k1, tail_append.2 ⟨s2, k2⟩⟩

theorem walk_last {f : FMap} {a : Nat} {A : List Nat} {t : Nat} (hw : Walk f a A t) :
    f (lst A a) = some (some t) := by
  induction A generalizing a with
  | nil => exact hw
  | cons x A ih => exact ih hw.2

def Repr (h : Heap) (head : Nat) (xs : List Nat) : Prop :=
  (head :: xs).Nodup ∧ Walk (nextOf h) head xs head ∧ Walk (prevOf h) head xs.reverse head

instance (h : Heap) (head : Nat) (xs : List Nat) : Decidable (Repr h head xs) :=
  inferInstanceAs (Decidable (_ ∧ _ ∧ _))

theorem repr_gap {h : Heap} {head : Nat} {A B : List Nat} (hR : Repr h head (A ++ B)) :
    nextOf h (lst A head) = some (some (hd B head)) ∧ prevOf h (hd B head) = some (some (lst A head)) := by
  refine ⟨walk_last (walk_split.1 hR.2.1).1, ?_⟩
  have := hR.2.2
  rw [List.reverse_append] at this
  simpa using walk_last (walk_split.1 this).1

theorem repr_head {h : Heap} {head : Nat} {xs : List Nat} (hR : Repr h head xs) :
    nextOf h head = some (some (hd xs head)) ∧ prevOf h head = some (some (lst xs head)) :=
  ⟨(repr_gap (A := []) hR).1, (repr_gap (B := []) (by simpa using hR)).2⟩

theorem repr_elem {h : Heap} {head : Nat} {A : List Nat} {x : Nat} {B : List Nat}
    (hR : Repr h head (A ++ x :: B)) :
    nextOf h x = some (some (hd B head)) ∧ prevOf h x = some (some (lst A head)) :=
  ⟨by simpa using (repr_gap (A := A ++ [x]) (by simpa using hR)).1, (repr_gap (B := x :: B) hR).2⟩

theorem repr_node {h : Heap} {head : Nat} {xs : List Nat} (hR : Repr h head xs) {a : Nat}
    (ha : a ∈ head :: xs) :
    ∃ n p, h a = some ⟨some n, some p⟩ ∧ n ∈ head :: xs ∧ p ∈ head :: xs := by
  rcases List.mem_cons.1 ha with rfl | hx
  · obtain ⟨e1, e2⟩ := repr_head hR
    exact ⟨_, _, node_of_fields e1 e2, hd_mem _ _, lst_mem _ _⟩
  · obtain ⟨A, B, rfl⟩ := List.append_of_mem hx
    obtain ⟨e1, e2⟩ := repr_elem hR
    exact ⟨_, _, node_of_fields e1 e2, mem_mid a (hd_mem_append ..), lst_mem_append ..⟩

theorem repr_alloc {h : Heap} {head : Nat} {xs : List Nat} (hR : Repr h head xs) {a : Nat}
    (ha : a ∈ head :: xs) : Alloc h a := by
  obtain ⟨n, p, e, _⟩ := repr_node hR ha
  simp [Alloc, e]

theorem repr_frame {h h' : Heap} {head : Nat} {xs : List Nat} (hR : Repr h head xs)
    (hf : ∀ i ∈ head :: xs, h' i = h i) : Repr h' head xs := by
  refine ⟨hR.1, walk_frame hR.2.1 ?_, walk_frame hR.2.2 ?_⟩
  · intro i hi; simp [nextOf, hf i hi]
  · intro i hi
    have : i ∈ head :: xs := by simpa using hi
    simp [prevOf, hf i this]

/-- mutual consistency: `a->next->prev == a` and `a->prev->next == a` all the way round -/
theorem repr_consistent {h : Heap} {head : Nat} {xs : List Nat} (hR : Repr h head xs) {a : Nat}
    (ha : a ∈ head :: xs) :
    ∃ n p, nextOf h a = some (some n) ∧ prevOf h a = some (some p) ∧
      prevOf h n = some (some a) ∧ nextOf h p = some (some a) := by
  rcases List.mem_cons.1 ha with rfl | hx
  · obtain ⟨e1, e3⟩ := repr_gap (A := []) hR
    obtain ⟨e4, e2⟩ := repr_gap (B := []) (by simpa using hR)
    exact ⟨_, _, e1, e2, e3, e4⟩
  · obtain ⟨A, B, rfl⟩ := List.append_of_mem hx
    obtain ⟨e1, e3⟩ := repr_gap (A := A ++ [a]) (by simpa using hR)
    obtain ⟨e4, e2⟩ := repr_gap (B := a :: B) hR
    exact ⟨_, _, by simpa using e1, e2, by simpa using e3, e4⟩

/-- the elements `s :: S` of a ring taken over as a segment between `p` and `n`: only the outer
links (`p->next`, `last->next`, `n->prev`, `s->prev`) are new -/
theorem repr_segment {h h' : Heap} {src s p n : Nat} {S : List Nat} (hRs : Repr h src (s :: S))
    (hpn : nextOf h' p = some (some s)) (hln : nextOf h' (lst S s) = some (some n))
    (hnp : prevOf h' n = some (some (lst S s))) (hsp : prevOf h' s = some (some p))
    (hfn : ∀ i ∈ s :: S, i ≠ lst S s → nextOf h' i = nextOf h i)
    (hfp : ∀ i ∈ s :: S, i ≠ s → prevOf h' i = prevOf h i) :
    Walk (nextOf h') p (s :: S) n ∧ Walk (prevOf h') n (s :: S).reverse p := by
  have nd := (List.nodup_cons.1 hRs.1).2
  refine ⟨walk_iff_tail.2 ⟨hpn, tail_retarget (walk_iff_tail.1 hRs.2.1).2 nd hln hfn⟩,
    walk_iff_tail.2 ⟨by simpa using hnp, tail_retarget (walk_iff_tail.1 hRs.2.2).2
      ((nodup_reverse _).2 nd) (by simpa using hsp) fun i hi hne => ?_⟩⟩
  exact hfp i (by simpa [or_comm] using hi) (by simpa using hne)

/-- the segment `X` of the ring is replaced by `S` (`iv_list_del`: `S = []`; the insertions and splices: `X = []`): the
links into and out of `S` are new, of `A` and `B` only `next` before the gap and `prev` after it are written -/
theorem repr_replace {h h' : Heap} {head : Nat} {A X B S : List Nat}
    (hR : Repr h head (A ++ X ++ B)) (nd : (head :: (A ++ S ++ B)).Nodup)
    (hn : Walk (nextOf h') (lst A head) S (hd B head))
    (hp : Walk (prevOf h') (hd B head) S.reverse (lst A head))
    (hfn : ∀ i ∈ head :: (A ++ B), i ≠ lst A head → nextOf h' i = nextOf h i)
    (hfp : ∀ i ∈ head :: (A ++ B), i ≠ hd B head → prevOf h' i = prevOf h i) :
    Repr h' head (A ++ S ++ B) := by
  have nd0 : (head :: (A ++ B)).Nodup :=
    hR.1.sublist (((List.sublist_append_left A X).append (List.Sublist.refl B)).cons_cons head)
  refine ⟨nd, walk_replace hR.2.1 nd0 hn hfn, ?_⟩
  have h2 := hR.2.2
  rw [List.reverse_append, List.reverse_append, ← List.append_assoc] at h2
  have := walk_replace (S := S.reverse) h2 (nodup_rev_swap nd0) (by simpa using hp) (by
    intro i hi hne
    exact hfp i (mem_rev_swap hi) (by simpa using hne))
  simpa [List.reverse_append, List.append_assoc] using this

theorem repr_insert_one {h h' : Heap} {head x : Nat} {A B : List Nat} (hR : Repr h head (A ++ B))
    (hfresh : x ∉ head :: (A ++ B))
    (h1 : nextOf h' (lst A head) = some (some x)) (h2 : nextOf h' x = some (some (hd B head)))
    (h3 : prevOf h' (hd B head) = some (some x)) (h4 : prevOf h' x = some (some (lst A head)))
    (hf : ∀ i ∈ head :: (A ++ B), i ≠ x → (i ≠ lst A head → nextOf h' i = nextOf h i) ∧
      (i ≠ hd B head → prevOf h' i = prevOf h i)) :
    Repr h' head (A ++ [x] ++ B) :=
  have hix : ∀ i ∈ head :: (A ++ B), i ≠ x := fun i hi e => hfresh (e ▸ hi)
  repr_replace (X := []) (by simpa using hR) (nodup_insert_seg hR.1 (by simp) (by simpa using hfresh))
    (by simpa [Walk] using And.intro h1 h2) (by simpa [Walk] using And.intro h3 h4)
    (fun i hi => (hf i hi (hix i hi)).1) (fun i hi => (hf i hi (hix i hi)).2)

/-- what an operation that only touches nodes of `big` preserves: every list all of whose
nodes are outside `big` -/
def Preserves (h h' : Heap) (big : List Nat) : Prop :=
  ∀ o ys, Repr h o ys → (∀ i ∈ o :: ys, i ∉ big) → Repr h' o ys

theorem preserves_of_frame {h h' : Heap} {T big : List Nat} (hf : ∀ j, j ∉ T → h' j = h j)
    (hsub : ∀ j ∈ T, j ∈ big) : Preserves h h' big :=
  fun _ _ hO hdis => repr_frame hO fun i hi => hf i fun hT => hdis i hi (hsub i hT)

theorem all_mem_cons {a : Nat} {T big : List Nat} (ha : a ∈ big) (hT : ∀ j ∈ T, j ∈ big) :
    ∀ j ∈ a :: T, j ∈ big :=
  List.forall_mem_cons.2 ⟨ha, hT⟩

def initH (h : Heap) (a : Nat) : Heap := wrPrev (wrNext h a (some a)) a (some a)

theorem init_eq {h : Heap} {a : Nat} (ha : Alloc h a) : init h a = some (initH h a) := by
  simp [init, initH, stNext_some, stPrev_some, ha]

theorem nextOf_initH_self {h : Heap} {a : Nat} (ha : Alloc h a) :
    nextOf (initH h a) a = some (some a) := by
  simp [initH, nextOf_wrNext_self, ha]

theorem prevOf_initH_self {h : Heap} {a : Nat} (ha : Alloc h a) :
    prevOf (initH h a) a = some (some a) := by
  simp [initH, prevOf_wrPrev_self, ha]

theorem initH_ne {h : Heap} {a j : Nat} (hj : j ≠ a) : initH h a j = h j := by
  simp [initH, wrPrev_ne, wrNext_ne, hj]

theorem nextOf_initH_ne {h : Heap} {a j : Nat} (hj : j ≠ a) : nextOf (initH h a) j = nextOf h j := by
  simp [nextOf, initH_ne hj]

theorem prevOf_initH_ne {h : Heap} {a j : Nat} (hj : j ≠ a) : prevOf (initH h a) j = prevOf h j := by
  simp [prevOf, initH_ne hj]

@[simp] theorem alloc_initH (h : Heap) (a j : Nat) : Alloc (initH h a) j ↔ Alloc h j := by
  simp [initH]

theorem repr_initH {h : Heap} {a : Nat} (ha : Alloc h a) : Repr (initH h a) a [] :=
  ⟨by simp, nextOf_initH_self ha, prevOf_initH_self ha⟩

theorem empty_spec {h : Heap} {head : Nat} {xs : List Nat} (hR : Repr h head xs) :
    empty h head = some xs.isEmpty := by
  have hn := (repr_head hR).1
  cases xs with
  | nil => simp [empty, ldNext_some, hn]
  | cons x xs =>
    have : x ≠ head := fun e => (List.nodup_cons.1 hR.1).1 (e ▸ List.mem_cons_self ..)
    simp [empty, ldNext_some, hn, this]

theorem add_refines {h : Heap} {head : Nat} {xs : List Nat} {x : Nat}
    (hR : Repr h head xs) (hx : Alloc h x) (hfresh : x ∉ head :: xs) :
    ∃ h', add h x head = some h' ∧ Repr h' head (x :: xs) ∧
      (∀ j, j ∉ [x, head, hd xs head] → h' j = h j) := by
  obtain ⟨hn, hp⟩ := repr_head hR
  have hxh : x ≠ head := fun e => hfresh (e ▸ List.mem_cons_self ..)
  have hhx : head ≠ x := Ne.symm hxh
  have hxf : x ≠ hd xs head := fun e => hfresh (e ▸ hd_mem _ _)
  have haf : Alloc h (hd xs head) := repr_alloc hR (hd_mem _ _)
  have hah : Alloc h head := repr_alloc hR (List.mem_cons_self ..)
  refine ⟨wrNext (wrPrev (wrPrev (wrNext h x (some (hd xs head))) x (some head))
      (hd xs head) (some x)) head (some x), ?_, ?_, ?_⟩
  · simp [add, ldNext_some, hn, stNext_some, stPrev_some, hx, haf, hah, nextOf_wrNext_ne, hhx]
  · refine repr_insert_one (A := []) (B := xs) hR hfresh ?_ ?_ ?_ ?_ fun i _ hix => ⟨?_, ?_⟩
    · simp [nextOf_wrNext_self, hah]
    · simp [nextOf_wrNext_ne, nextOf_wrNext_self, hx, hxh]
    · simp [prevOf_wrPrev_self, haf]
    · simp [prevOf_wrPrev_ne, prevOf_wrPrev_self, hx, hxf]
    · intro hne; simp only [lst_nil] at hne; simp [nextOf_wrNext_ne, hix, hne]
    · intro hne; simp [prevOf_wrPrev_ne, hix, hne]
  · intro j hj
    simp only [List.mem_cons, List.not_mem_nil, or_false, not_or] at hj
    simp [wrNext_ne, wrPrev_ne, hj]

theorem addTail_refines {h : Heap} {head : Nat} {xs : List Nat} {x : Nat}
    (hR : Repr h head xs) (hx : Alloc h x) (hfresh : x ∉ head :: xs) :
    ∃ h', addTail h x head = some h' ∧ Repr h' head (xs ++ [x]) ∧
      (∀ j, j ∉ [x, head, lst xs head] → h' j = h j) := by
  obtain ⟨hn, hp⟩ := repr_head hR
  have hxh : x ≠ head := fun e => hfresh (e ▸ List.mem_cons_self ..)
  have hhx : head ≠ x := Ne.symm hxh
  have hxl : x ≠ lst xs head := fun e => hfresh (e ▸ lst_mem _ _)
  have hal : Alloc h (lst xs head) := repr_alloc hR (lst_mem _ _)
  have hah : Alloc h head := repr_alloc hR (List.mem_cons_self ..)
  refine ⟨wrPrev (wrNext (wrPrev (wrNext h x (some head)) x (some (lst xs head)))
      (lst xs head) (some x)) head (some x), ?_, ?_, ?_⟩
  · simp [addTail, ldPrev_some, hp, stNext_some, stPrev_some, hx, hal, hah, prevOf_wrPrev_ne, hhx]
  · rw [← List.append_nil (xs ++ [x])]
    refine repr_insert_one (A := xs) (B := []) (by simpa using hR) (by simpa using hfresh)
      ?_ ?_ ?_ ?_ fun i _ hix => ⟨?_, ?_⟩
    · simp [nextOf_wrNext_self, hal]
    · simp [nextOf_wrNext_ne, nextOf_wrNext_self, hx, hxl]
    · simp [prevOf_wrPrev_self, hah]
    · simp [prevOf_wrPrev_ne, prevOf_wrPrev_self, hx, hxh]
    · intro hne; simp [nextOf_wrNext_ne, hix, hne]
    · intro hne; simp only [hd_nil] at hne; simp [prevOf_wrPrev_ne, hix, hne]
  · intro j hj
    simp only [List.mem_cons, List.not_mem_nil, or_false, not_or] at hj
    simp [wrNext_ne, wrPrev_ne, hj]

def unlinkH (h : Heap) (p n : Nat) : Heap := wrPrev (wrNext h p (some n)) n (some p)

theorem unlinkH_ne {h : Heap} {p n j : Nat} (hp : j ≠ p) (hn : j ≠ n) : unlinkH h p n j = h j := by
  simp [unlinkH, wrPrev_ne, wrNext_ne, hp, hn]

@[simp] theorem alloc_unlinkH (h : Heap) (p n j : Nat) : Alloc (unlinkH h p n) j ↔ Alloc h j := by
  simp [unlinkH]

theorem unlink_eq {h : Heap} {x p n : Nat} (hn : nextOf h x = some (some n))
    (hp : prevOf h x = some (some p)) (hap : Alloc h p) (han : Alloc h n) (hxp : x ≠ p) :
    unlink h x = some (unlinkH h p n) := by
  simp [unlink, unlinkH, ldNext_some, ldPrev_some, hn, hp, stNext_some, stPrev_some, hap, han,
    nextOf_wrNext_ne, hxp]

theorem mid_facts {h : Heap} {head : Nat} {A : List Nat} {x : Nat} {B : List Nat}
    (hR : Repr h head (A ++ x :: B)) :
    x ≠ lst A head ∧ x ≠ hd B head ∧ x ∉ head :: (A ++ B) ∧
      lst A head ∈ head :: (A ++ B) ∧ hd B head ∈ head :: (A ++ B) := by
  have nd : (x :: head :: (A ++ B)).Nodup :=
    ((List.perm_middle.cons head).trans (List.Perm.swap ..)).nodup_iff.1 hR.1
  have hxo := (List.nodup_cons.1 nd).1
  exact ⟨fun e => hxo (e ▸ lst_mem_append A B head), fun e => hxo (e ▸ hd_mem_append A B head),
    hxo, lst_mem_append .., hd_mem_append ..⟩

theorem repr_unlinkH {h : Heap} {head : Nat} {A : List Nat} {x : Nat} {B : List Nat}
    (hR : Repr h head (A ++ x :: B)) :
    Repr (unlinkH h (lst A head) (hd B head)) head (A ++ B) := by
  obtain ⟨hxp, hxn, hxo, hpm, hnm⟩ := mid_facts hR
  have hap : Alloc h (lst A head) := repr_alloc hR (mem_mid x hpm)
  have han : Alloc h (hd B head) := repr_alloc hR (mem_mid x hnm)
  have nd : (head :: (A ++ [] ++ B)).Nodup := by
    simpa using hR.1.sublist (((List.Sublist.refl A).append (List.sublist_cons_self x B)).cons_cons head)
  simpa using repr_replace (h' := unlinkH h (lst A head) (hd B head)) (X := [x]) (S := []) (by simpa using hR) nd
    (by simp [Walk, unlinkH, nextOf_wrNext_self, hap]) (by simp [Walk, unlinkH, prevOf_wrPrev_self, han])
    (fun i _ hne => by simp [unlinkH, nextOf_wrNext_ne, hne]) (fun i _ hne => by simp [unlinkH, prevOf_wrPrev_ne, hne])

/-- stated for any heap that agrees with the result of the two unlink stores away from `x`:
`iv_list_del` and `iv_list_del_init` only write `x` afterwards -/
theorem unlink_mid {h : Heap} {head : Nat} {A : List Nat} {x : Nat} {B : List Nat}
    (hR : Repr h head (A ++ x :: B)) :
    unlink h x = some (unlinkH h (lst A head) (hd B head)) ∧ Alloc h x ∧
    ∀ h' : Heap, (∀ j, j ≠ x → h' j = unlinkH h (lst A head) (hd B head) j) →
      Repr h' head (A ++ B) ∧ ∀ j, j ∉ [x, lst A head, hd B head] → h' j = h j := by
  obtain ⟨hxp, hxn, hxo, hpm, hnm⟩ := mid_facts hR
  obtain ⟨en, ep⟩ := repr_elem hR
  refine ⟨unlink_eq en ep (repr_alloc hR (mem_mid x hpm)) (repr_alloc hR (mem_mid x hnm)) hxp,
    alloc_of_next en, fun h' hf => ⟨repr_frame (repr_unlinkH hR) fun i hi =>
      hf i fun e => hxo (e ▸ hi), fun j hj => ?_⟩⟩
  simp only [List.mem_cons, List.not_mem_nil, or_false, not_or] at hj
  rw [hf j hj.1, unlinkH_ne hj.2.1 hj.2.2]

theorem del_mid {h : Heap} {head : Nat} {A : List Nat} {x : Nat} {B : List Nat}
    (hR : Repr h head (A ++ x :: B)) :
    ∃ h', del h x = some h' ∧ Repr h' head (A ++ B) ∧ h' x = some ⟨none, none⟩ ∧
      (∀ j, j ∉ [x, lst A head, hd B head] → h' j = h j) := by
  obtain ⟨hu, hax, hk⟩ := unlink_mid hR
  obtain ⟨r, f⟩ := hk (wrNext (wrPrev (unlinkH h (lst A head) (hd B head)) x none) x none)
    fun j hj => by simp [wrNext_ne, wrPrev_ne, hj]
  refine ⟨_, ?_, r, node_of_fields ?_ ?_, f⟩
  · simp [del, hu, stNext_some, stPrev_some, hax]
  · simp [nextOf_wrNext_self, hax]
  · simp [prevOf_wrPrev_self, hax]

theorem delInit_mid {h : Heap} {head : Nat} {A : List Nat} {x : Nat} {B : List Nat}
    (hR : Repr h head (A ++ x :: B)) :
    ∃ h', delInit h x = some h' ∧ Repr h' head (A ++ B) ∧ Repr h' x [] ∧
      (∀ j, j ∉ [x, lst A head, hd B head] → h' j = h j) := by
  obtain ⟨hu, hax, hk⟩ := unlink_mid hR
  have hax' : Alloc (unlinkH h (lst A head) (hd B head)) x := by simpa using hax
  obtain ⟨r, f⟩ := hk (initH (unlinkH h (lst A head) (hd B head)) x) fun j hj => initH_ne hj
  exact ⟨_, by simp [delInit, hu, init_eq hax'], r, repr_initH hax', f⟩

theorem erase_mid {A : List Nat} {x : Nat} {B : List Nat} (nd : (A ++ x :: B).Nodup) :
    (A ++ x :: B).erase x = A ++ B := by
  have hxA : x ∉ A := by
    simp only [List.nodup_append, List.mem_cons] at nd
    exact fun hx => nd.2.2 x hx x (Or.inl rfl) rfl
  simp [List.erase_append, hxA]

theorem erase_snoc {xs : List Nat} {x : Nat} (hx : x ∉ xs) : (xs ++ [x]).erase x = xs := by
  rw [List.erase_append_right _ hx]; simp

theorem mid_touch_sub {head : Nat} (A : List Nat) (x : Nat) (B : List Nat) :
    ∀ j ∈ [x, lst A head, hd B head], j ∈ head :: (A ++ x :: B) :=
  all_mem_cons (by simp) (all_mem_cons (lst_mem_append ..) (all_mem_cons (mem_mid x (hd_mem_append ..)) nofun))

/-- heap after `__iv_list_splice` with `first = s`, `last = l`, `prev = p`, `next = n` -/
def spliceH (h : Heap) (s l p n : Nat) : Heap :=
  wrPrev (wrNext (wrNext (wrPrev h s (some p)) p (some s)) l (some n)) n (some l)

theorem spliceH_ne {h : Heap} {s l p n j : Nat} (hj : j ∉ [s, l, p, n]) : spliceH h s l p n j = h j := by
  simp only [List.mem_cons, List.not_mem_nil, or_false, not_or] at hj
  simp [spliceH, wrPrev_ne, wrNext_ne, hj]

theorem splice'_mid {h : Heap} {src dst s : Nat} {S A B : List Nat}
    (hRs : Repr h src (s :: S)) (hRd : Repr h dst (A ++ B))
    (hdis : ∀ i ∈ src :: s :: S, i ∉ dst :: (A ++ B)) :
    splice' h src (some (lst A dst)) (some (hd B dst)) =
        some (spliceH h s (lst S s) (lst A dst) (hd B dst)) ∧
      Repr (spliceH h s (lst S s) (lst A dst) (hd B dst)) dst (A ++ s :: S ++ B) := by
  obtain ⟨sn, sp⟩ := repr_head hRs
  simp only [hd_cons, lst_cons] at sn sp
  have ndS := hRs.1
  have ndD := hRd.1
  have hpm := lst_mem_append A B dst
  have hnm := hd_mem_append A B dst
  have hlm : lst S s ∈ s :: S := lst_mem S s
  have hsm : s ∈ s :: S := List.mem_cons_self ..
  have has : Alloc h s := repr_alloc hRs (List.mem_cons_of_mem _ hsm)
  have hal : Alloc h (lst S s) := repr_alloc hRs (List.mem_cons_of_mem _ hlm)
  have hap : Alloc h (lst A dst) := repr_alloc hRd hpm
  have han : Alloc h (hd B dst) := repr_alloc hRd hnm
  have hSD : ∀ i ∈ s :: S, ∀ j ∈ dst :: (A ++ B), i ≠ j := by
    intro i hi j hj e; exact hdis i (List.mem_cons_of_mem _ hi) (e ▸ hj)
  have hlp : lst S s ≠ lst A dst := hSD _ hlm _ hpm
  have hsn : s ≠ hd B dst := hSD _ hsm _ hnm
  constructor
  · simp [splice', spliceH, ldNext_some, ldPrev_some, sn, sp, stNext_some, stPrev_some, has, hal,
      hap, han]
  · have nd : (dst :: (A ++ (s :: S) ++ B)).Nodup :=
      nodup_insert_seg ndD (List.nodup_cons.1 ndS).2 (fun i hi => hdis i (List.mem_cons_of_mem _ hi))
    obtain ⟨wn, wp⟩ := repr_segment (h' := spliceH h s (lst S s) (lst A dst) (hd B dst))
      (p := lst A dst) (n := hd B dst) hRs
      (by simp [spliceH, nextOf_wrNext_ne, nextOf_wrNext_self, hap, hlp.symm])
      (by simp [spliceH, nextOf_wrNext_self, hal])
      (by simp [spliceH, prevOf_wrPrev_self, han])
      (by simp [spliceH, prevOf_wrPrev_ne, prevOf_wrPrev_self, has, hsn])
      (fun i hi hne => by
        have : i ≠ lst A dst := hSD i hi _ hpm
        simp [spliceH, nextOf_wrNext_ne, hne, this])
      (fun i hi hne => by
        have : i ≠ hd B dst := hSD i hi _ hnm
        simp [spliceH, prevOf_wrPrev_ne, hne, this])
    refine repr_replace (X := []) (by simpa using hRd) nd wn wp (fun i hi hne => ?_) (fun i hi hne => ?_)
    · have : i ≠ lst S s := fun e => hSD _ hlm i hi e.symm
      simp [spliceH, nextOf_wrNext_ne, hne, this]
    · have : i ≠ s := fun e => hSD _ hsm i hi e.symm
      simp [spliceH, prevOf_wrPrev_ne, hne, this]

theorem splice_src_untouched {h : Heap} {src dst s : Nat} {S A B : List Nat}
    (hRs : Repr h src (s :: S)) (hdis : ∀ i ∈ src :: s :: S, i ∉ dst :: (A ++ B)) :
    src ∉ [s, lst S s, lst A dst, hd B dst] := by
  have hs : src ∉ s :: S := (List.nodup_cons.1 hRs.1).1
  have hd' := hdis src (List.mem_cons_self ..)
  intro hm
  simp only [List.mem_cons, List.not_mem_nil, or_false] at hm
  rcases hm with e | e | e | e
  · exact hs (e ▸ List.mem_cons_self ..)
  · exact hs (e ▸ lst_mem S s)
  · exact hd' (e ▸ lst_mem_append A B dst)
  · exact hd' (e ▸ hd_mem_append A B dst)

/-- `if (!iv_list_empty(src)) __iv_list_splice(src, prev, next)` with `prev` / `next` the nodes
around the gap between `A` and `B` of the list at `dst`: the elements of `src` fill the gap and
`src` itself is not written -/
theorem splice_gap {h : Heap} {src dst : Nat} {ys A B : List Nat}
    (hRs : Repr h src ys) (hRd : Repr h dst (A ++ B))
    (hdis : ∀ i ∈ src :: ys, i ∉ dst :: (A ++ B)) :
    ∃ h', (if ys.isEmpty then some h
        else splice' h src (some (lst A dst)) (some (hd B dst))) = some h' ∧
      Repr h' dst (A ++ ys ++ B) ∧ h' src = h src ∧ (ys = [] → h' = h) ∧
      (∀ j, j ∉ [hd ys src, lst ys src, lst A dst, hd B dst] → h' j = h j) := by
  cases ys with
  | nil => exact ⟨h, rfl, by simpa using hRd, rfl, fun _ => rfl, fun _ _ => rfl⟩
  | cons s S =>
    obtain ⟨e, r⟩ := splice'_mid hRs hRd hdis
    exact ⟨_, e, r, spliceH_ne (splice_src_untouched hRs hdis), by simp, fun j hj => spliceH_ne hj⟩

theorem splice_gap_init {h : Heap} {src dst : Nat} {ys A B : List Nat}
    (hRs : Repr h src ys) (hRd : Repr h dst (A ++ B))
    (hdis : ∀ i ∈ src :: ys, i ∉ dst :: (A ++ B)) :
    ∃ h', (if ys.isEmpty then some h
        else (splice' h src (some (lst A dst)) (some (hd B dst))).bind (init · src)) = some h' ∧
      Repr h' dst (A ++ ys ++ B) ∧ Repr h' src [] ∧ (ys = [] → h' = h) ∧
      (∀ j, j ∉ [src, hd ys src, lst ys src, lst A dst, hd B dst] → h' j = h j) := by
  obtain ⟨h1, e, r, hs, _, f⟩ := splice_gap hRs hRd hdis
  cases ys with
  | nil => cases e; exact ⟨h, rfl, r, hRs, fun _ => rfl, fun _ _ => rfl⟩
  | cons s S =>
    have ha : Alloc h1 src := by
      unfold Alloc; rw [hs]; exact repr_alloc hRs (List.mem_cons_self ..)
    have hsrc : src ∉ dst :: (A ++ (s :: S) ++ B) := by
      have h1 := hdis src (List.mem_cons_self ..)
      have h2 := (List.nodup_cons.1 hRs.1).1
      simp only [List.mem_cons, List.mem_append, not_or] at h1 h2 ⊢
      exact ⟨h1.1, ⟨h1.2.1, h2⟩, h1.2.2⟩
    refine ⟨initH h1 src, ?_, repr_frame r fun i hi => initH_ne fun e => hsrc (e ▸ hi),
      repr_initH ha, by simp, fun j hj => ?_⟩
    · rw [if_neg (by simp)] at e ⊢; rw [e]; exact init_eq ha
    · simp only [List.mem_cons, not_or] at hj
      rw [initH_ne hj.1]; exact f j (by simpa using hj.2)

theorem splice_touch_sub {src dst p n : Nat} {ys xs : List Nat} (hp : p ∈ dst :: xs)
    (hn : n ∈ dst :: xs) : ∀ j ∈ [src, hd ys src, lst ys src, p, n], j ∈ src :: ys ++ dst :: xs :=
  all_mem_cons (List.mem_append_left _ (List.mem_cons_self ..)) (all_mem_cons (List.mem_append_left _ (hd_mem ..))
    (all_mem_cons (List.mem_append_left _ (lst_mem ..)) (all_mem_cons (List.mem_append_right _ hp)
      (all_mem_cons (List.mem_append_right _ hn) nofun))))

theorem splice_eq {h : Heap} {src dst : Nat} {ys xs : List Nat} (hRs : Repr h src ys) (hRd : Repr h dst xs) :
    splice h src dst = if ys.isEmpty then some h else splice' h src (some dst) (some (hd xs dst)) := by
  simp [splice, empty_spec hRs, ldNext_some, (repr_head hRd).1]

theorem spliceTail_eq {h : Heap} {src dst : Nat} {ys xs : List Nat} (hRs : Repr h src ys) (hRd : Repr h dst xs) :
    spliceTail h src dst = if ys.isEmpty then some h else splice' h src (some (lst xs dst)) (some dst) := by
  simp [spliceTail, empty_spec hRs, ldPrev_some, (repr_head hRd).2]

theorem spliceInit_eq {h : Heap} {src dst : Nat} {ys xs : List Nat} (hRs : Repr h src ys) (hRd : Repr h dst xs) :
    spliceInit h src dst =
      if ys.isEmpty then some h else (splice' h src (some dst) (some (hd xs dst))).bind (init · src) := by
  simp [spliceInit, empty_spec hRs, ldNext_some, (repr_head hRd).1]

theorem spliceTailInit_eq {h : Heap} {src dst : Nat} {ys xs : List Nat} (hRs : Repr h src ys)
    (hRd : Repr h dst xs) : spliceTailInit h src dst =
      if ys.isEmpty then some h else (splice' h src (some (lst xs dst)) (some dst)).bind (init · src) := by
  simp [spliceTailInit, empty_spec hRs, ldPrev_some, (repr_head hRd).2]

theorem not_repr_of_foreign_first {h : Heap} {src s p : Nat} (hn : nextOf h src = some (some s))
    (hp : prevOf h s = some (some p)) (hne : p ≠ src) (zs : List Nat) : ¬ Repr h src zs := by
  intro hR
  obtain ⟨n, _, e1, _, e2, _⟩ := repr_consistent hR (List.mem_cons_self ..)
  rw [hn] at e1
  cases e1
  rw [hp] at e2
  cases e2
  exact hne rfl

/-- after a non-`_init` splice of a non-empty list the source head is stale: its record is
unchanged (still pointing at the old first/last element) but it is the head of no list -/
theorem splice_stale {h h' : Heap} {src dst : Nat} {ys xs : List Nat}
    (hRs : Repr h src ys) (hRd : Repr h dst xs) (hdis : ∀ i ∈ src :: ys, i ∉ dst :: xs)
    (hne : ys ≠ []) (he : splice h src dst = some h' ∨ spliceTail h src dst = some h') :
    h' src = some ⟨some (hd ys src), some (lst ys src)⟩ ∧ ∀ zs, ¬ Repr h' src zs := by
  obtain ⟨e1, e2⟩ := repr_head hRs
  have hsrc := node_of_fields e1 e2
  have hsd : ∀ j ∈ dst :: xs, j ≠ src := fun j hj e => hdis src (List.mem_cons_self ..) (e ▸ hj)
  cases ys with
  | nil => exact absurd rfl hne
  | cons s S =>
    rcases he with he | he
    · obtain ⟨h'', e, r, sr, _⟩ := splice_gap (A := []) (B := xs) hRs hRd hdis
      cases he.symm.trans ((splice_eq hRs hRd).trans e)
      refine ⟨sr.trans hsrc, not_repr_of_foreign_first (fields_of_node (sr.trans hsrc)).1
        (repr_elem (A := []) r).2 (hsd _ (List.mem_cons_self ..))⟩
    · obtain ⟨h'', e, r, sr, _⟩ := splice_gap (A := xs) (B := []) hRs ((List.append_nil xs).symm ▸ hRd)
        ((List.append_nil xs).symm ▸ hdis)
      cases he.symm.trans ((spliceTail_eq hRs hRd).trans e)
      refine ⟨sr.trans hsrc, not_repr_of_foreign_first (fields_of_node (sr.trans hsrc)).1
        (repr_elem (A := xs) (B := S) (by simpa using r)).2 (hsd _ (lst_mem _ _))⟩

theorem steal_refines {h : Heap} {oldh newh : Nat} {xs : List Nat}
    (hR : Repr h oldh xs) (hnew : Alloc h newh) (hfresh : newh ∉ oldh :: xs) :
    ∃ h', steal h oldh newh = some h' ∧ Repr h' newh xs ∧ Repr h' oldh [] ∧
      (∀ j, j ∉ [oldh, newh, hd xs oldh, lst xs oldh] → h' j = h j) := by
  obtain ⟨hn, hp⟩ := repr_head hR
  have hao : Alloc h oldh := repr_alloc hR (List.mem_cons_self ..)
  have hno : newh ≠ oldh := fun e => hfresh (e ▸ List.mem_cons_self ..)
  have hon : oldh ≠ newh := Ne.symm hno
  cases xs with
  | nil =>
    simp only [hd_nil, lst_nil] at hn hp
    refine ⟨initH (wrPrev (wrNext (wrPrev (wrNext h oldh (some newh)) oldh (some newh))
        newh (some newh)) newh (some newh)) oldh, ?_, ?_, repr_initH (by simpa using hao), ?_⟩
    · simp [steal, ldNext_some, ldPrev_some, hn, hp, stNext_some, stPrev_some, hao, hnew,
        nextOf_wrNext_self, prevOf_wrPrev_self, initH]
    · refine ⟨by simp, ?_, ?_⟩
      · simp [Walk, nextOf_initH_ne hno, nextOf_wrNext_self, hnew]
      · simp [Walk, prevOf_initH_ne hno, prevOf_wrPrev_self, hnew]
    · intro j hj
      simp only [List.mem_cons, List.not_mem_nil, or_false, not_or, hd_nil, lst_nil] at hj
      simp [initH_ne hj.1, wrPrev_ne, wrNext_ne, hj]
  | cons s S =>
    simp only [hd_cons, lst_cons] at hn hp
    have nd := hR.1
    have hlm : lst S s ∈ s :: S := lst_mem S s
    have hsm : s ∈ s :: S := List.mem_cons_self ..
    have has : Alloc h s := repr_alloc hR (List.mem_cons_of_mem _ hsm)
    have hal : Alloc h (lst S s) := repr_alloc hR (List.mem_cons_of_mem _ hlm)
    have hos : oldh ≠ s := fun e => (List.nodup_cons.1 nd).1 (e ▸ hsm)
    have hol : oldh ≠ lst S s := fun e => (List.nodup_cons.1 nd).1 (e ▸ hlm)
    have hns : newh ≠ s := by
      intro e; subst e; exact hfresh (List.mem_cons_of_mem _ hsm)
    have hnl : newh ≠ lst S s := by
      intro e; subst e; exact hfresh (List.mem_cons_of_mem _ hlm)
    refine ⟨initH (wrPrev (wrNext (wrPrev (wrNext h (lst S s) (some newh)) s (some newh))
        newh (some s)) newh (some (lst S s))) oldh, ?_, ?_, repr_initH (by simpa using hao), ?_⟩
    · simp [steal, ldNext_some, ldPrev_some, hn, hp, stNext_some, stPrev_some, hao, hnew, has, hal,
        nextOf_wrNext_ne, prevOf_wrPrev_ne, hol, hos, initH]
    · have ndn : (newh :: s :: S).Nodup := List.nodup_cons.2 ⟨fun hm => hfresh (List.mem_cons_of_mem _ hm),
        (List.nodup_cons.1 nd).2⟩
      have out : ∀ i ∈ s :: S, i ≠ oldh ∧ i ≠ newh := fun i hi =>
        ⟨fun e => (List.nodup_cons.1 nd).1 (e ▸ hi), fun e => hfresh (e ▸ List.mem_cons_of_mem _ hi)⟩
      exact ⟨ndn, repr_segment (p := newh) (n := newh) hR
        (by simp [nextOf_initH_ne hno, nextOf_wrNext_self, hnew])
        (by simp [nextOf_initH_ne hol.symm, nextOf_wrNext_ne, hnl.symm, nextOf_wrNext_self, hal])
        (by simp [prevOf_initH_ne hno, prevOf_wrPrev_self, hnew])
        (by simp [prevOf_initH_ne hos.symm, prevOf_wrPrev_ne, hns.symm, prevOf_wrPrev_self, has])
        (fun i hi hne => by simp [nextOf_initH_ne (out i hi).1, nextOf_wrNext_ne, (out i hi).2, hne])
        (fun i hi hne => by simp [prevOf_initH_ne (out i hi).1, prevOf_wrPrev_ne, (out i hi).2, hne])⟩
    · intro j hj
      simp only [List.mem_cons, List.not_mem_nil, or_false, not_or, hd_cons, lst_cons] at hj
      simp [initH_ne hj.1, wrPrev_ne, wrNext_ne, hj]

theorem forEachLoop_tail {h : Heap} {head : Nat} {L : List Nat} {fuel : Nat}
    (ht : Tail (nextOf h) L head) (hh : head ∉ L) (hf : L.length ≤ fuel) :
    forEachLoop h head fuel (some (hd L head)) = some L := by
  induction L generalizing fuel with
  | nil => cases fuel <;> simp [forEachLoop]
  | cons c L ih =>
    have hc : c ≠ head := fun e => hh (e ▸ List.mem_cons_self ..)
    obtain ⟨e, t⟩ := walk_iff_tail.1 (show Walk (nextOf h) c L head from ht)
    cases fuel with
    | zero => simp at hf
    | succ fuel =>
      have := ih t (fun hm => hh (List.mem_cons_of_mem _ hm)) (by simpa using hf)
      simp [forEachLoop, hc, ldNext_some, e, this]

/-- the elements that survive `for_each_safe` when the body deletes the element visited at
position `i` iff `d i` -/
def survivors (d : Nat → Bool) : Nat → List Nat → List Nat
  | _, [] => []
  | i, x :: xs => if d i then survivors d (i + 1) xs else x :: survivors d (i + 1) xs

theorem survivors_sub (d : Nat → Bool) (i : Nat) (xs : List Nat) :
    ∀ x ∈ survivors d i xs, x ∈ xs := by
  induction xs generalizing i with
  | nil => simp [survivors]
  | cons y xs ih =>
    intro x hx
    simp only [survivors] at hx
    split at hx
    · exact List.mem_cons_of_mem _ (ih _ x hx)
    · rcases List.mem_cons.1 hx with rfl | hx
      · exact List.mem_cons_self ..
      · exact List.mem_cons_of_mem _ (ih _ x hx)

theorem survivors_eq (d : Nat → Bool) (i : Nat) (xs : List Nat) :
    survivors d i xs = ((xs.zipIdx i).filter (fun p => !d p.2)).map (·.1) := by
  induction xs generalizing i with
  | nil => rfl
  | cons x xs ih =>
    simp only [survivors, List.zipIdx_cons, List.filter_cons]
    cases hdi : d i <;> simp [ih]

/-- what the loop reads as `ilh2 = ilh->next`: defined at every position, and the next element
(or the head) while elements remain -/
theorem ldNext_rest {h : Heap} {head : Nat} {S R : List Nat} (hR : Repr h head (S ++ R)) :
    ∃ v, ldNext h (some (hd R head)) = some v ∧ (R ≠ [] → v = some (hd R.tail head)) := by
  cases R with
  | nil => exact ⟨_, by simpa [ldNext_some] using (repr_head hR).1, by simp⟩
  | cons c R => exact ⟨_, by simpa [ldNext_some] using (repr_elem hR).1, by simp⟩

theorem forEachSafeLoop_spec {head : Nat} {d : Nat → Bool} (R : List Nat) :
    ∀ (S : List Nat) (h : Heap) (fuel pos : Nat) (nxt : Option Nat),
      Repr h head (S ++ R) → R.length ≤ fuel → (R ≠ [] → nxt = some (hd R.tail head)) →
      ∃ h', forEachSafeLoop head d fuel h pos (some (hd R head)) nxt = some (h', R) ∧
        Repr h' head (S ++ survivors d pos R) ∧
        (∀ j, j ∉ head :: (S ++ R) → h' j = h j) ∧
        (∀ x ∈ R, x ∉ survivors d pos R → h' x = some ⟨none, none⟩) := by
  induction R with
  | nil =>
    intro S h fuel pos nxt hR _ _
    refine ⟨h, ?_, by simpa [survivors] using hR, fun _ _ => rfl, by simp⟩
    cases fuel <;> simp [forEachSafeLoop]
  | cons c R ih =>
    intro S h fuel pos nxt hR hf hnx
    have hnxt : nxt = some (hd R head) := hnx (by simp)
    subst hnxt
    have nd := hR.1
    have hc : c ≠ head := by
      intro e; subst e
      simp [List.nodup_cons] at nd
    cases fuel with
    | zero => simp at hf
    | succ fuel =>
      have hf' : R.length ≤ fuel := by simpa using hf
      by_cases hd' : d pos = true
      · obtain ⟨h1, e1, r1, n1, f1⟩ := del_mid hR
        obtain ⟨v, ev, hv⟩ := ldNext_rest r1
        obtain ⟨h', e', r', f', n'⟩ := ih S h1 fuel (pos + 1) v r1 hf' hv
        have hcout : c ∉ head :: (S ++ R) := (mid_facts hR).2.2.1
        refine ⟨h', ?_, by simpa [survivors, hd'] using r', ?_, ?_⟩
        · simp [forEachSafeLoop, hc, hd', e1, ev, e']
        · intro j hj
          rw [f' j (by
            simp only [List.mem_cons, List.mem_append, not_or] at hj ⊢
            exact ⟨hj.1, hj.2.1, hj.2.2.2⟩)]
          exact f1 j fun hm => hj (mid_touch_sub S c R j hm)
        · intro x hx hns
          simp only [survivors, hd', if_true] at hns
          by_cases hxc : x = c
          · subst hxc
            rw [f' x hcout]; exact n1
          · exact n' x ((List.mem_cons.1 hx).resolve_left hxc) hns
      · have hR' : Repr h head ((S ++ [c]) ++ R) := by simpa using hR
        obtain ⟨v, ev, hv⟩ := ldNext_rest hR'
        obtain ⟨h', e', r', f', n'⟩ := ih (S ++ [c]) h fuel (pos + 1) v hR' hf' hv
        refine ⟨h', ?_, by simpa [survivors, hd'] using r', ?_, ?_⟩
        · simp [forEachSafeLoop, hc, hd', ev, e']
        · intro j hj
          exact f' j (by simpa using hj)
        · intro x hx hns
          simp only [survivors, hd'] at hns
          simp only [Bool.false_eq_true, if_false, List.mem_cons, not_or] at hns
          exact n' x ((List.mem_cons.1 hx).resolve_left hns.1) hns.2

end Ivy.ListPtr
