import Ivy.L0.AvlPtrIns
import Ivy.L0.AvlPtrDelMain
import Ivy.L0.AvlPtrTrav
/-!
The pointer-level AVL model refines the functional model.

* `Repr h t ids` (`AvlPtrRepr.lean`): heap `h` represents the functional tree `t`; `ids` is
  the in-order list of node addresses; all parent pointers are the actual parents; addresses
  are pairwise distinct.  `repr_parents` spells the parent consistency out.
* `insert_refines` (`AvlPtrIns.lean`), `delete_refines` (here): the transcribed C code
  computes exactly `Avl.insert` / `Avl.delete` on the represented tree, never faults when the
  functional model does not, and re-establishes `Repr` (so every rotation, the victim splice
  and the early stop of `rebalance_path` keep the parent pointers right).
* The traversal functions (`AvlPtrTrav.lean`) return addresses; their key-level corollaries
  are here.
-/
namespace Ivy.AvlPtr
open Ivy.Avl (Tree toList size)
open Ivy.Avl.Tree

theorem own_parents {m : Mem} {p par : Option Nat} {t : Tree} {ids : List Nat}
    (h : Own m p par t ids) :
    (∀ i, p = some i → ∃ n, m i = some n ∧ n.parent = par) ∧
    (∀ i ∈ ids, ∃ n, m i = some n ∧
      (∀ c, n.left = some c → ∃ nc, m c = some nc ∧ nc.parent = some i) ∧
      (∀ c, n.right = some c → ∃ nc, m c = some nc ∧ nc.parent = some i)) := by
  induction t generalizing p par ids with
  | nil => obtain ⟨rfl, rfl⟩ := h; exact ⟨fun _ e => (by cases e), fun _ e => (by cases e)⟩
  | node l k hh r ihl ihr =>
    obtain ⟨i, lp, rp, il, ir, rfl, hm, hl, hr, rfl⟩ := h
    obtain ⟨l1, l2⟩ := ihl hl
    obtain ⟨r1, r2⟩ := ihr hr
    refine ⟨fun j e => by cases e; exact ⟨_, hm, rfl⟩, ?_⟩
    intro j hj
    simp only [List.mem_append, List.mem_cons] at hj
    rcases hj with hj | rfl | hj
    · exact l2 j hj
    · exact ⟨_, hm, fun c e => l1 c e, fun c e => r1 c e⟩
    · exact r2 j hj

theorem repr_parents {h : Heap} {t : Tree} {ids : List Nat} (hR : Repr h t ids) :
    (∀ i, h.root = some i → ∃ n, h.mem i = some n ∧ n.parent = none) ∧
    (∀ i ∈ ids, ∃ n, h.mem i = some n ∧
      (∀ c, n.left = some c → ∃ nc, h.mem c = some nc ∧ nc.parent = some i) ∧
      (∀ c, n.right = some c → ∃ nc, h.mem c = some nc ∧ nc.parent = some i)) :=
  own_parents hR.1

/-- Pointer-level delete computes the functional delete of the key stored in node `a`:
it does not fault, leaves a heap representing `Avl.delete key t` whose address list is the
old one with `a` removed, all parent pointers correct, nothing outside the tree touched. -/
theorem delete_refines {h : Heap} {t T : Tree} {ids : List Nat} {a : Nat} {na : Node}
    {fuel : Nat}
    (hR : Repr h t ids) (ha : a ∈ ids) (hna : h.mem a = some na) (hord : Avl.Ordered t)
    (hf : size t < fuel) (hdel : Avl.delete na.key t = some T) :
    ∃ h' A B, delete fuel h a = some h' ∧ ids = A ++ a :: B ∧ Repr h' T (A ++ B) ∧
      (∀ j, j ∉ ids → h'.mem j = h.mem j) := by
  obtain ⟨m, root⟩ := h
  obtain ⟨ho, nd⟩ := hR
  simp only at ho hna
  obtain ⟨c, l, k, hh, r, par, pre, post, il, ir, lp, rp, rfl, hc, hma, hl, hr, rfl⟩ :=
    own_find ho ha
  have hk : na.key = k := by rw [hma] at hna; cases hna; rfl
  rw [hk] at hdel
  have halong : Along k c := along_of_ordered k c _ hord (by simp [toList])
  have hsz := size_plug c (node l k hh r)
  simp only [size] at hsz
  simp only [Avl.delete, Option.map_eq_some_iff] at hdel
  obtain ⟨⟨T', s⟩, hdel, rfl⟩ := hdel
  suffices hmain : ∃ m' root' A B, delete fuel ⟨m, root⟩ a = some ⟨m', root'⟩ ∧
      pre ++ (il ++ a :: ir) ++ post = A ++ a :: B ∧ Own m' root' none T' (A ++ B) ∧
      (∀ j, j ∉ pre ++ (il ++ a :: ir) ++ post → m' j = m j) by
    obtain ⟨m', root', A, B, e, eids, ho', fr⟩ := hmain
    exact ⟨⟨m', root'⟩, A, B, e, eids, ⟨ho', (nodup_remove (eids ▸ nd)).1⟩, fr⟩
  by_cases hleaf : l = nil ∧ r = nil
  · obtain ⟨rfl, rfl⟩ := hleaf
    obtain ⟨rfl, rfl⟩ := hl
    obtain ⟨rfl, rfl⟩ := hr
    rw [del_plug k c _ halong] at hdel
    have : Avl.del k (node nil k hh nil) = some (nil, false) := by simp [Avl.del]
    simp only [this, Option.bind_some] at hdel
    obtain ⟨m', root', e, ho', fr⟩ :=
      delete_leaf_case (fuel := fuel) hc hma nd hdel (by simp [size] at hsz; omega)
    exact ⟨m', root', pre, post, e, by simp, ho', fr⟩
  · rw [del_node_plug c l r k hh halong hleaf] at hdel
    by_cases hgt : Avl.height l > Avl.height r
    · simp only [hgt, if_true] at hdel
      cases hsp : spineR l [] with
      | none => simp [hsp] at hdel
      | some q =>
        obtain ⟨cF, vl, mk, vh⟩ := q
        simp only [hsp] at hdel
        obtain ⟨cR, rfl, hR, hp, hlen⟩ := spineR_spec l [] cF vl mk vh hsp
        simp only [List.append_nil] at hdel
        cases lp with
        | none =>
          obtain ⟨rfl, _⟩ := own_none hl
          simp [size] at hlen
        | some j0 =>
          exact delete_left_case hc hma hl hr nd hp hR hgt hdel (by omega) (by omega)
    · simp only [hgt, if_false] at hdel
      cases hsp : spineL r [] with
      | none => simp [hsp] at hdel
      | some q =>
        obtain ⟨cF, vr, mk, vh⟩ := q
        simp only [hsp] at hdel
        obtain ⟨cL, rfl, hL, hp, hlen⟩ := spineL_spec r [] cF vr mk vh hsp
        simp only [List.append_nil] at hdel
        cases rp with
        | none =>
          obtain ⟨rfl, _⟩ := own_none hr
          simp [size] at hlen
        | some j0 =>
          exact delete_right_case hc hma hl hr nd hp hL hgt hdel (by omega) (by omega)

def keyAt (h : Heap) (i : Nat) : Option Int := (h.mem i).map (·.key)

theorem keyAt_ids {h : Heap} {t : Tree} {ids : List Nat} (hR : Repr h t ids) :
    ids.map (keyAt h) = (toList t).map some := own_keys hR.1

theorem opt_bind_of_map {α β : Type} {f : α → Option β} {o : Option α} {o' : Option β}
    (h : o.map f = o'.map some) : o.bind f = o' := by
  cases o <;> cases o' <;> simp_all

theorem keyAt_index {h : Heap} {t : Tree} {ids : List Nat} (hR : Repr h t ids) (n : Nat) :
    ids[n]?.bind (keyAt h) = (toList t)[n]? := by
  have := congrArg (fun l => l[n]?) (keyAt_ids hR)
  simp only [List.getElem?_map] at this
  exact opt_bind_of_map this

theorem forEach_keys {h : Heap} {t : Tree} {ids : List Nat} {fuel : Nat}
    (hR : Repr h t ids) (hf : size t ≤ fuel) :
    (forEach fuel h).map (keysOf h) = some ((toList t).map some) := by
  rw [forEach_spec hR hf]; exact congrArg some (keyAt_ids hR)

theorem forEachRev_keys {h : Heap} {t : Tree} {ids : List Nat} {fuel : Nat}
    (hR : Repr h t ids) (hf : size t ≤ fuel) :
    (forEachRev fuel h).map (keysOf h) = some ((toList t).reverse.map some) := by
  rw [forEachRev_spec hR hf, Option.map_some, keysOf_reverse]
  exact congrArg (some ∘ List.reverse) (keyAt_ids hR) |>.trans (by simp)

theorem min_key {h : Heap} {t : Tree} {ids : List Nat} {fuel : Nat}
    (hR : Repr h t ids) (hf : size t ≤ fuel) :
    min fuel h = some ids.head? ∧ ids.head?.bind (keyAt h) = (toList t).head? := by
  refine ⟨min_spec hR hf, ?_⟩
  have hk := congrArg List.head? (keyAt_ids hR)
  simp only [List.head?_map] at hk
  exact opt_bind_of_map hk

theorem max_key {h : Heap} {t : Tree} {ids : List Nat} {fuel : Nat}
    (hR : Repr h t ids) (hf : size t ≤ fuel) :
    max fuel h = some ids.getLast? ∧ ids.getLast?.bind (keyAt h) = (toList t).getLast? := by
  refine ⟨max_spec hR hf, ?_⟩
  have hk := congrArg List.getLast? (keyAt_ids hR)
  simp only [List.getLast?_map] at hk
  exact opt_bind_of_map hk

end Ivy.AvlPtr
