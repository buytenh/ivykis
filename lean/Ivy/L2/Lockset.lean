/-!
# C14 — lockset discipline: generic happens-before theorem, policy, compliance

Part 1 (generic, proved once, no bound on trace length / threads / locks):
an execution is a list of events `(thread, op)` with
`op ∈ {acq l, rel l, rd x, wr x, fork t, join t, post c, recv c}`; happens-before `HB` is the transitive
closure of program order, release → later acquire of the same lock, fork → child, child → join and
post → recv of the same message.  Mutual exclusion is the well-formedness predicate `WF`
(a lock is acquired only when free and released only by its holder).  `lockset_sound`: two events whose
threads both hold a common lock at the time of the event are ordered by `HB`.

Part 2 (the discipline): `Access` rows (generated from the C source into `Ivy/Generated/AccessTable.lean`),
`policy : record → location → Discipline`, the executable check `complies`, and `drf_of_comply`: in any
well-formed execution, two conflicting accesses to one memory word that are instances of complying rows
are ordered by `HB` or are both atomic operations — unless the word is a listed one-way flag, or one of the two rows relies on a listed
exemption (private phase of the object's life: initialisation before publication, tear-down after
unpublication, detached stolen list, refcount-guarded read, libpthread absent), which is an assumption.
-/
namespace Ivy.L2.Lockset


abbrev Tid := Nat

inductive Op (L X C : Type) where
  | acq (l : L)
  | rel (l : L)
  | rd (x : X)
  | wr (x : X)
  | fork (t : Tid)
  | join (t : Tid)
  | post (c : C)
  | recv (c : C)

structure Ev (L X C : Type) where
  tid : Tid
  op : Op L X C

abbrev Trace (L X C : Type) := List (Ev L X C)

section generic
variable {L X C : Type} [DecidableEq L]

/-- effect of one event on the lock table (lock ↦ holder) -/
def step (σ : L → Option Tid) (e : Ev L X C) : L → Option Tid :=
  match e.op with
  | .acq l => fun l' => if l' = l then some e.tid else σ l'
  | .rel l => fun l' => if l' = l then none else σ l'
  | _ => σ

/-- lock table just before event number `n` (all locks free initially) -/
def stateAt (tr : Trace L X C) : Nat → (L → Option Tid)
  | 0 => fun _ => none
  | n + 1 =>
    match tr[n]? with
    | some e => step (stateAt tr n) e
    | none => stateAt tr n

/-- mutual exclusion: a lock is acquired only when free, released only by its holder -/
def WF (tr : Trace L X C) : Prop :=
  ∀ (n : Nat) (e : Ev L X C), tr[n]? = some e →
    match e.op with
    | .acq l => stateAt tr n l = none
    | .rel l => stateAt tr n l = some e.tid
    | _ => True

/-- happens-before between event indices -/
inductive HB (tr : Trace L X C) : Nat → Nat → Prop
  | po {i j : Nat} {ei ej : Ev L X C} : i < j → tr[i]? = some ei → tr[j]? = some ej → ei.tid = ej.tid → HB tr i j
  | sync {i j : Nat} {ei ej : Ev L X C} {l : L} :
      i < j → tr[i]? = some ei → tr[j]? = some ej → ei.op = .rel l → ej.op = .acq l → HB tr i j
  | fork {i j : Nat} {ei ej : Ev L X C} :
      i < j → tr[i]? = some ei → tr[j]? = some ej → ei.op = .fork ej.tid → HB tr i j
  | join {i j : Nat} {ei ej : Ev L X C} :
      i < j → tr[i]? = some ei → tr[j]? = some ej → ej.op = .join ei.tid → HB tr i j
  | msg {i j : Nat} {ei ej : Ev L X C} {c : C} :
      i < j → tr[i]? = some ei → tr[j]? = some ej → ei.op = .post c → ej.op = .recv c → HB tr i j
  | trans {i k j : Nat} : HB tr i k → HB tr k j → HB tr i j

omit [DecidableEq L] in
theorem HB.lt {tr : Trace L X C} {i j : Nat} (h : HB tr i j) : i < j := by
  induction h with
  | po h _ _ _ => exact h
  | sync h _ _ _ _ => exact h
  | fork h _ _ _ => exact h
  | join h _ _ _ => exact h
  | msg h _ _ _ _ => exact h
  | trans _ _ ih1 ih2 => exact Nat.lt_trans ih1 ih2

omit [DecidableEq L] in
theorem HB.extend {tr : Trace L X C} {i p r j : Nat} {ei ep er ej : Ev L X C} (h : HB tr p r)
    (hip : i ≤ p) (hrj : r ≤ j) (hi : tr[i]? = some ei) (hp : tr[p]? = some ep) (hr : tr[r]? = some er)
    (hj : tr[j]? = some ej) (t1 : ei.tid = ep.tid) (t2 : er.tid = ej.tid) : HB tr i j := by
  have a : HB tr i r := by
    by_cases e : i = p
    · subst e; exact h
    · exact HB.trans (HB.po (by omega) hi hp t1) h
  by_cases e : r = j
  · subst e; exact a
  · exact HB.trans a (HB.po (by omega) hr hj t2)

theorem stateAt_succ_some (tr : Trace L X C) (n : Nat) (e : Ev L X C) (h : tr[n]? = some e) :
    stateAt tr (n + 1) = step (stateAt tr n) e := by
  simp [stateAt, h]

theorem stateAt_succ_none (tr : Trace L X C) (n : Nat) (h : tr[n]? = none) :
    stateAt tr (n + 1) = stateAt tr n := by
  simp [stateAt, h]

theorem step_acq {σ : L → Option Tid} {e : Ev L X C} {l : L} (h : e.op = .acq l) : step σ e l = some e.tid := by
  simp [step, h]

theorem step_rel {σ : L → Option Tid} {e : Ev L X C} {l : L} (h : e.op = .rel l) : step σ e l = none := by
  simp [step, h]

theorem step_frame {σ : L → Option Tid} {e : Ev L X C} {l : L} (ha : e.op ≠ .acq l) (hr : e.op ≠ .rel l) :
    step σ e l = σ l := by
  unfold step
  cases h : e.op with
  | acq l' => exact if_neg fun (hl : l = l') => ha (hl ▸ h)
  | rel l' => exact if_neg fun (hl : l = l') => hr (hl ▸ h)
  | _ => rfl

/-- Following lock `l` from a moment `i` at which `t` holds it: once `t` no longer holds it, `t` has released it at
some `k ≥ i`, and whoever holds it then acquired it after `k`. -/
theorem handover (tr : Trace L X C) (wf : WF tr) (l : L) (t : Tid) (i : Nat) (hi : stateAt tr i l = some t) :
    ∀ d, stateAt tr (i + d) l ≠ some t →
      ∃ k ek, i ≤ k ∧ k < i + d ∧ tr[k]? = some ek ∧ ek.op = .rel l ∧ ek.tid = t ∧
        ∀ u, stateAt tr (i + d) l = some u →
          ∃ b eb, k < b ∧ b < i + d ∧ tr[b]? = some eb ∧ eb.op = .acq l ∧ eb.tid = u := by
  intro d
  induction d with
  | zero => exact fun h => absurd hi h
  | succ d ih =>
    intro h
    by_cases hsame : stateAt tr (i + d + 1) l = stateAt tr (i + d) l
    · obtain ⟨k, ek, h1, h2, h3, h4, h5, h6⟩ := ih (hsame ▸ h)
      refine ⟨k, ek, h1, Nat.lt_succ_of_lt h2, h3, h4, h5, fun u hu => ?_⟩
      obtain ⟨b, eb, g1, g2, g⟩ := h6 u (hsame ▸ hu)
      exact ⟨b, eb, g1, Nat.lt_succ_of_lt g2, g⟩
    -- event `i + d` changes the holder of `l`: it acquires or releases `l`
    cases hk : tr[i + d]? with
    | none => exact absurd (congrFun (stateAt_succ_none tr _ hk) l) hsame
    | some e =>
      have hs := congrFun (stateAt_succ_some tr _ e hk) l
      have w := wf (i + d) e hk
      by_cases ha : e.op = .acq l
      · -- acquired when free: the release is earlier, and this is the acquisition
        rw [ha] at w
        obtain ⟨k, ek, h1, h2, h3, h4, h5, _⟩ := ih (by rw [w]; exact nofun)
        refine ⟨k, ek, h1, Nat.lt_succ_of_lt h2, h3, h4, h5, fun u hu => ⟨i + d, e, h2, Nat.lt_succ_self _, hk, ha, ?_⟩⟩
        exact Option.some.inj ((step_acq ha).symm.trans (hs.symm.trans hu))
      · by_cases hr : e.op = .rel l
        · -- released by its holder: by `t` now or earlier; nobody holds `l` afterwards
          rw [hr] at w
          have hn : ∀ u, stateAt tr (i + d + 1) l ≠ some u := fun u hu => nomatch (hs.trans (step_rel hr)).symm.trans hu
          by_cases hd : stateAt tr (i + d) l = some t
          · exact ⟨i + d, e, Nat.le_add_right _ _, Nat.lt_succ_self _, hk, hr, Option.some.inj (w.symm.trans hd),
              fun u hu => absurd hu (hn u)⟩
          · obtain ⟨k, ek, h1, h2, h3, h4, h5, _⟩ := ih hd
            exact ⟨k, ek, h1, Nat.lt_succ_of_lt h2, h3, h4, h5, fun u hu => absurd hu (hn u)⟩
        · exact absurd (hs.trans (step_frame ha hr)) hsame

/-- **Lockset soundness.**  In a well-formed execution, if the thread of event `i` holds lock `l` at `i` and the
thread of the later event `j` holds the same lock at `j`, then `i` happens-before `j`.  (For two accesses to
one location this says: a common lock excludes a data race.) -/
theorem lockset_sound (tr : Trace L X C) (wf : WF tr) {i j : Nat} {ei ej : Ev L X C} {l : L}
    (hij : i < j) (hi : tr[i]? = some ei) (hj : tr[j]? = some ej)
    (hli : stateAt tr i l = some ei.tid) (hlj : stateAt tr j l = some ej.tid) : HB tr i j := by
  by_cases ht : ei.tid = ej.tid
  · exact HB.po hij hi hj ht
  · have e : i + (j - i) = j := by omega
    obtain ⟨k, ek, hk1, _, hk3, hk4, hk5, hb⟩ := handover tr wf l ei.tid i hli (j - i)
      (by rw [e, hlj]; exact fun h => ht (Option.some.inj h).symm)
    obtain ⟨b, eb, hb1, hb2, hb3, hb4, hb5⟩ := hb ej.tid (by rw [e]; exact hlj)
    exact (HB.sync hb1 hk3 hb3 hk4 hb4).extend hk1 (by omega) hi hk3 hb3 hj hk5.symm hb5

end generic


inductive Kind where
  | read | write
deriving DecidableEq, Repr

inductive Ctx where
  | owner | foreign
deriving DecidableEq, Repr

/-- one row of the generated table -/
structure Access where
  file : String
  fn : String
  line : Nat
  /-- record the location belongs to ("" for a global variable) -/
  recd : String
  /-- `record.field[@variant]` or the name of the global -/
  loc : String
  kind : Kind
  /-- canonical names of the locks held (incl. the pseudo locks `sigmask`, `nothreads`) -/
  locks : List String
  ctx : Ctx
  /-- walked under a cross-thread / signal-handler entry point -/
  entry : Bool
  /-- reached through a thread-private stolen list -/
  priv : Bool
  /-- the access is an atomic operation (`__atomic_load_n` / `__atomic_store_n` / read-modify-write builtin) -/
  atomic : Bool
deriving Repr

inductive Discipline where
  /-- every access holds `l`; `exempt` lists the functions that touch the object only while it is private to the
  calling thread (before publication / after unpublication / never-shared variant); `stolenOk`: rows reached
  through a detached stolen list are private as well -/
  | lockedBy (l : String) (exempt : List String) (stolenOk : Bool)
  /-- only ever accessed by the thread that owns the object (`ctx = owner`) -/
  | ownerOnly (exempt : List String)
  /-- written only by the owner with `l` held; read by the owner, or by anyone with `l` held -/
  | ownerWritesLocked (l : String) (exempt : List String)
  /-- written only in the listed initialisation functions (before publication), read-only afterwards -/
  | immutableAfterPublication (init : List String)
  /-- touched by the owning thread only, always with every signal blocked (handler context included) -/
  | signalSafe (exempt : List String)
  /-- written with `l` held (on the 0→1 transition of a reference count kept under `l`); the listed functions
  read it without `l` while the reading thread or the destination holds a reference -/
  | guardedPublish (l : String) (readers : List String)
  /-- every access after publication is an atomic operation (atomics never form a data race with each other); plain
  accesses only in the listed initialisation functions, before publication -/
  | atomicOnly (init : List String)
  /-- idempotent one-way feature-detection flag: exempt -/
  | oneWayFlag
  | unknown
deriving Repr

open Discipline in
/-- the discipline of every shared location of the files covered by C14 -/
def policy (rec loc : String) : Discipline :=
  match loc with
  -- one-way flags (exempt; every writer stores the same value, or the value only ever moves one way)
  | "inited" => oneWayFlag
  | "eventfd_in_use" => oneWayFlag
  | "epoll_support" => oneWayFlag
  | "epoll_pwait2_support" => oneWayFlag
  | "iv_event_use_event_raw" => oneWayFlag
  | "splice_available" => oneWayFlag
  | "pipe2_support" => oneWayFlag
  | "clock_source" => oneWayFlag
  | "method" => oneWayFlag
  | "iv_thread_debug" => oneWayFlag
  | "iv_state_key_allocated" => oneWayFlag      -- set by the first iv_init(), which completes before other threads start
  | "sig_owner_pid" => oneWayFlag               -- only ever getpid() (0 in a fresh child); stored under sig_lock before the handler is installed
  -- process-wide state of iv_tls.c / iv_main_posix.c / iv_thread_posix.c: written by constructors / first init only
  | "last_offset" => immutableAfterPublication ["iv_tls_user_register"]
  | "iv_tls_users" => immutableAfterPublication ["iv_tls_user_register"]
  | "iv_state_key" => immutableAfterPublication ["pthr_key_create"]
  | "iv_thread_key" => immutableAfterPublication ["pthr_key_create"]
  -- iv_signal.c
  | "process_sigs" => lockedBy "sig_lock" ["iv_signal_init", "iv_signal_child_reset_postfork"] false
  | "total_num_interests" => lockedBy "sig_lock" ["iv_signal_child_reset_postfork"] false
  | "sig_mask_fork" => lockedBy "sig_lock" [] false
  | "iv_signal_thr_info.thr_sigs" => signalSafe ["iv_signal_tls_init_thread", "iv_signal_child_reset_postfork"]
  | "iv_signal.active@process" => lockedBy "sig_lock" [] false
  | "iv_signal.active@thread" => signalSafe []
  | "iv_signal.an@process" => lockedBy "sig_lock" [] false
  | "iv_signal.an@thread" => signalSafe []
  | "iv_signal.signum@process" => immutableAfterPublication ["iv_wait_tls_init_thread"]
  | "iv_signal.signum@thread" => immutableAfterPublication ["iv_wait_tls_init_thread"]
  | "iv_signal.flags@process" => immutableAfterPublication ["iv_wait_tls_init_thread"]
  | "iv_signal.flags@thread" => immutableAfterPublication ["iv_wait_tls_init_thread"]
  | "iv_signal.handler@process" => immutableAfterPublication ["iv_wait_tls_init_thread"]
  | "iv_signal.handler@thread" => immutableAfterPublication ["iv_wait_tls_init_thread"]
  | "iv_signal.cookie@process" => immutableAfterPublication []
  | "iv_signal.cookie@thread" => immutableAfterPublication []
  -- iv_wait.c
  | "iv_wait_interests" => lockedBy "iv_wait_lock" [] false
  | "iv_wait_interest.avl_node" => lockedBy "iv_wait_lock" [] false
  | "iv_wait_interest.pid" => lockedBy "iv_wait_lock" [] false
  | "iv_wait_interest.flags" => lockedBy "iv_wait_lock" ["__iv_wait_interest_register"] false
  | "iv_wait_interest.events_pending" =>
      lockedBy "iv_wait_lock" ["__iv_wait_interest_register", "__iv_wait_interest_unregister"] false
  | "iv_wait_interest.dummy" => ownerOnly []
  | "iv_wait_interest.handler" => immutableAfterPublication []
  | "iv_wait_interest.cookie" => immutableAfterPublication []
  | "wait_event.list" => lockedBy "iv_wait_lock" ["__iv_wait_interest_unregister"] true
  | "wait_event.status" => lockedBy "iv_wait_lock" [] true
  | "wait_event.rusage" => lockedBy "iv_wait_lock" [] true
  -- iv_event.c
  | "iv_state.events_pending" => lockedBy "event_list_mutex(owner)" ["iv_event_init"] false
  | "iv_event.list" => lockedBy "event_list_mutex(owner)" ["iv_event_register"] false
  | "iv_event.owner" => immutableAfterPublication ["iv_event_register"]
  | "iv_event.cookie" =>
      immutableAfterPublication ["iv_work_thread", "iv_work_pool_create", "iv_thread_create", "__iv_wait_interest_register"]
  | "iv_event.handler" =>
      immutableAfterPublication ["iv_work_thread", "iv_work_pool_create", "iv_thread_create", "__iv_wait_interest_register"]
  -- iv_event_raw_posix.c
  | "iv_event_raw.event_wfd" => immutableAfterPublication ["iv_event_raw_register"]
  | "iv_event_raw.cookie" => immutableAfterPublication ["iv_event_init", "iv_signal_register"]
  | "iv_event_raw.handler" => immutableAfterPublication ["iv_event_init", "iv_signal_register"]
  -- iv_fd_epoll.c: the shared always-active descriptor
  | "iv_active_fd_refcount" => lockedBy "iv_fd_epoll_active_fd_mutex" [] false
  | "iv_active_fd_wr" => lockedBy "iv_fd_epoll_active_fd_mutex" [] false
  | "iv_active_fd" =>
      guardedPublish "iv_fd_epoll_active_fd_mutex" ["iv_fd_epoll_event_rx_on", "iv_fd_epoll_event_rx_off", "iv_fd_epoll_event_send"]
  | "iv_state.u.epoll.epoll_fd" => immutableAfterPublication ["iv_fd_epoll_init"]
  -- iv_work.c
  | "work_pool_priv.shutting_down" => ownerWritesLocked "pool->lock" ["iv_work_pool_create"]
  | "work_pool_priv.started_threads" => lockedBy "pool->lock" ["iv_work_pool_create"] false
  | "work_pool_priv.idle_threads" => lockedBy "pool->lock" ["iv_work_pool_create"] false
  | "work_pool_priv.seq_head" => lockedBy "pool->lock" ["iv_work_pool_create"] false
  | "work_pool_priv.seq_tail" => lockedBy "pool->lock" ["iv_work_pool_create"] false
  | "work_pool_priv.work_items" => lockedBy "pool->lock" ["iv_work_pool_create"] false
  | "work_pool_priv.work_done" => lockedBy "pool->lock" ["iv_work_pool_create"] false
  | "work_pool_priv.max_threads" => immutableAfterPublication ["iv_work_pool_create"]
  | "work_pool_priv.cookie" => immutableAfterPublication ["iv_work_pool_create"]
  | "work_pool_priv.thread_start" => immutableAfterPublication ["iv_work_pool_create"]
  | "work_pool_priv.thread_stop" => immutableAfterPublication ["iv_work_pool_create"]
  | "work_pool_priv.tid" => immutableAfterPublication ["iv_work_pool_create"]
  | "work_pool_thread.pool" => immutableAfterPublication ["iv_work_start_thread"]
  | "work_pool_thread.list" => lockedBy "pool->lock" ["iv_work_thread"] false
  | "work_pool_thread.kicked" => lockedBy "pool->lock" ["iv_work_thread"] false
  | "iv_work_item.list" => lockedBy "pool->lock" ["iv_work_submit_local"] true
  | "iv_work_item.work" => immutableAfterPublication []
  | "iv_work_item.cookie" => immutableAfterPublication []
  | "iv_work_item.completion" => immutableAfterPublication []
  | "iv_work_pool.priv" => immutableAfterPublication ["iv_work_pool_create", "iv_work_pool_put"]
  | "iv_work_pool.max_threads" => immutableAfterPublication []
  | "iv_work_pool.cookie" => immutableAfterPublication []
  | "iv_work_pool.thread_start" => immutableAfterPublication []
  | "iv_work_pool.thread_stop" => immutableAfterPublication []
  -- iv_thread_posix.c
  | "iv_thread.name" => immutableAfterPublication ["iv_thread_create"]
  | "iv_thread.start_routine" => immutableAfterPublication ["iv_thread_create"]
  | "iv_thread.arg" => immutableAfterPublication ["iv_thread_create"]
  | "iv_thread.tid" => atomicOnly ["iv_thread_create"]
  | "iv_thread.orphaned" => lockedBy "iv_thread_lock" ["iv_thread_create"] false   -- hand-over flags of the creator-deinit repair
  | "iv_thread.exited" => lockedBy "iv_thread_lock" ["iv_thread_create"] false
  | "iv_thread.list" => ownerOnly []
  | "iv_thread.thread_id" => ownerOnly []
  | _ =>
    -- whole records that belong to exactly one thread
    match rec with
    | "iv_state" => ownerOnly []                -- the remaining fields of the per-thread loop state
    | "iv_fd_" => ownerOnly []
    | "iv_fd" => ownerOnly []
    | "iv_task" => ownerOnly []
    | "iv_task_" => ownerOnly []
    | "iv_timer" => ownerOnly []
    | "iv_timer_" => ownerOnly []
    | "iv_fd_pump" => ownerOnly []
    | "iv_fd_pump_buf" => ownerOnly []
    | "iv_fd_pump_thr_info" => ownerOnly []
    | "iv_wait_thr_info" => ownerOnly []
    | "iv_thread_thr_info" => ownerOnly []
    | "iv_work_thr_info" => ownerOnly []
    | "iv_tls_user" => immutableAfterPublication ["iv_tls_user_register"]
    | "iv_fd_poll_method" => immutableAfterPublication []
    | _ => unknown

def isWrite (a : Access) : Bool := a.kind == .write
def isOwner (a : Access) : Bool := a.ctx == .owner
def holds (a : Access) (l : String) : Bool := a.locks.contains l

/-- the row satisfies the checked condition of its discipline without using any exemption -/
def strong (a : Access) : Bool :=
  match policy a.recd a.loc with
  | .lockedBy l _ _ => holds a l
  | .ownerOnly _ => isOwner a
  | .ownerWritesLocked l _ => if isWrite a then isOwner a && holds a l else isOwner a || holds a l
  | .immutableAfterPublication _ => !isWrite a
  | .signalSafe _ => isOwner a && holds a "sigmask"
  | .guardedPublish l _ => holds a l
  | .atomicOnly _ => a.atomic
  | .oneWayFlag => false
  | .unknown => false

/-- the row relies on a listed exemption (its ordering w.r.t. other accesses is ASSUMED, not derived) -/
def usesExemption (a : Access) : Bool :=
  holds a "nothreads" ||
  match policy a.recd a.loc with
  | .lockedBy _ ex st => ex.contains a.fn || (st && a.priv)
  | .ownerOnly ex => ex.contains a.fn
  | .ownerWritesLocked _ ex => ex.contains a.fn
  | .immutableAfterPublication init => init.contains a.fn
  | .signalSafe ex => ex.contains a.fn
  | .guardedPublish _ rs => !isWrite a && rs.contains a.fn
  | .atomicOnly init => init.contains a.fn
  | .oneWayFlag => false
  | .unknown => false

def isOneWay (rec loc : String) : Bool :=
  match policy rec loc with
  | .oneWayFlag => true
  | _ => false

def complies (a : Access) : Bool :=
  isOneWay a.recd a.loc || strong a || usesExemption a

def compliesAll (l : List Access) : Bool := l.all complies

theorem compliesAll_mem {l : List Access} (h : compliesAll l = true) : ∀ a ∈ l, complies a = true := by
  intro a ha
  exact List.all_eq_true.mp h a ha

theorem compliesAll_flatten {ls : List (List Access)} (h : ∀ l ∈ ls, compliesAll l = true) :
    ∀ a ∈ ls.flatten, complies a = true := by
  intro a ha
  obtain ⟨l, hl, hal⟩ := List.mem_flatten.mp ha
  exact compliesAll_mem (h l hl) a hal

/-- how the abstract rows are read in a concrete execution (this is the TRUSTED aliasing classification of the
extractor, made explicit): which abstract location a memory word belongs to, which concrete lock a canonical
lock name denotes for the object containing that word, and which thread owns that object -/
structure Interp (L X : Type) where
  absRec : X → String
  absLoc : X → String
  lockOf : String → X → L
  ownerOf : X → Tid

/-- event `i` of the execution is an instance of row `a` on memory word `x` -/
structure Inst {L X C : Type} [DecidableEq L] (I : Interp L X) (tr : Trace L X C) (i : Nat) (e : Ev L X C) (x : X)
    (a : Access) : Prop where
  at_ : tr[i]? = some e
  acc : (e.op = .rd x ∧ a.kind = .read) ∨ (e.op = .wr x ∧ a.kind = .write)
  recd_ : a.recd = I.absRec x
  loc_ : a.loc = I.absLoc x
  /-- every lock the row claims is held by the accessing thread at that moment -/
  locks_ : ∀ ln, a.locks.contains ln = true → stateAt tr i (I.lockOf ln x) = some e.tid
  /-- a row with context `owner` is executed by the thread owning the object -/
  owner_ : a.ctx = .owner → e.tid = I.ownerOf x

theorem strong_pair_ordered {L X C : Type} [DecidableEq L] (I : Interp L X) (tr : Trace L X C) (wf : WF tr)
    {i j : Nat} {ei ej : Ev L X C} {x : X} {a b : Access} (hij : i < j)
    (hi : Inst I tr i ei x a) (hj : Inst I tr j ej x b)
    (hw : a.kind = .write ∨ b.kind = .write) (sa : strong a = true) (sb : strong b = true) :
    HB tr i j ∨ (a.atomic = true ∧ b.atomic = true) := by
  have hloc : policy b.recd b.loc = policy a.recd a.loc := by rw [hi.recd_, hi.loc_, hj.recd_, hj.loc_]
  have byLock : ∀ l, holds a l = true → holds b l = true → HB tr i j := fun l ha hb =>
    lockset_sound tr wf hij hi.at_ hj.at_ (hi.locks_ l ha) (hj.locks_ l hb)
  have byOwner : isOwner a = true → isOwner b = true → HB tr i j := fun ha hb => by
    have e1 := hi.owner_ (by simpa [isOwner] using ha)
    have e2 := hj.owner_ (by simpa [isOwner] using hb)
    exact HB.po hij hi.at_ hj.at_ (e1.trans e2.symm)
  unfold strong at sa sb
  rw [hloc] at sb
  cases hp : policy a.recd a.loc with
  | lockedBy l ex st => rw [hp] at sa sb; exact Or.inl (byLock l sa sb)
  | ownerOnly ex => rw [hp] at sa sb; exact Or.inl (byOwner sa sb)
  | atomicOnly init => rw [hp] at sa sb; exact Or.inr ⟨sa, sb⟩
  | ownerWritesLocked l ex =>
    rw [hp] at sa sb
    simp only [] at sa sb
    by_cases wa : isWrite a = true
    · simp [wa] at sa
      by_cases wb : isWrite b = true
      · simp [wb] at sb; exact Or.inl (byOwner sa.1 sb.1)
      · simp [wb] at sb
        cases sb with
        | inl h => exact Or.inl (byOwner sa.1 h)
        | inr h => exact Or.inl (byLock l sa.2 h)
    · have wb : isWrite b = true := by
        cases hw with
        | inl h => simp [isWrite, h] at wa
        | inr h => simp [isWrite, h]
      simp [wa] at sa
      simp [wb] at sb
      cases sa with
      | inl h => exact Or.inl (byOwner h sb.1)
      | inr h => exact Or.inl (byLock l h sb.2)
  | immutableAfterPublication init =>
    rw [hp] at sa sb
    cases hw with
    | inl h => simp [isWrite, h] at sa
    | inr h => simp [isWrite, h] at sb
  | signalSafe ex =>
    rw [hp] at sa sb
    simp at sa sb
    exact Or.inl (byOwner sa.1 sb.1)
  | guardedPublish l rs => rw [hp] at sa sb; exact Or.inl (byLock l sa sb)
  | oneWayFlag => rw [hp] at sa; simp at sa
  | unknown => rw [hp] at sa; simp at sa

/-- **Race freedom from compliance.**  Let every row of `tbl` comply.  In any well-formed execution, take two
events `i < j` that access the same memory word `x`, at least one of them writing, and that are instances of rows
`a`, `b` of the table.  Then `i` happens-before `j`, or both are atomic operations (either way: no data race) —
unless `x` is a listed one-way flag, or one
of the two rows relies on a listed exemption (then the order is an assumption: private phase / refcount guard /
no threads). -/
theorem drf_of_comply {L X C : Type} [DecidableEq L] (tbl : List Access) (hc : ∀ a ∈ tbl, complies a = true)
    (I : Interp L X) (tr : Trace L X C) (wf : WF tr)
    {i j : Nat} {ei ej : Ev L X C} {x : X} {a b : Access} (hij : i < j) (ha : a ∈ tbl) (hb : b ∈ tbl)
    (hi : Inst I tr i ei x a) (hj : Inst I tr j ej x b) (hw : a.kind = .write ∨ b.kind = .write) :
    HB tr i j ∨ (a.atomic = true ∧ b.atomic = true) ∨ isOneWay (I.absRec x) (I.absLoc x) = true ∨
      usesExemption a = true ∨ usesExemption b = true := by
  have ca := hc a ha
  have cb := hc b hb
  unfold complies at ca cb
  by_cases ow : isOneWay (I.absRec x) (I.absLoc x) = true
  · exact Or.inr (Or.inr (Or.inl ow))
  · by_cases ea : usesExemption a = true
    · exact Or.inr (Or.inr (Or.inr (Or.inl ea)))
    · by_cases eb : usesExemption b = true
      · exact Or.inr (Or.inr (Or.inr (Or.inr eb)))
      · have owa : isOneWay a.recd a.loc = false := by rw [hi.recd_, hi.loc_]; simpa using ow
        have owb : isOneWay b.recd b.loc = false := by rw [hj.recd_, hj.loc_]; simpa using ow
        have sa : strong a = true := by simpa [owa, ea] using ca
        have sb : strong b = true := by simpa [owb, eb] using cb
        cases strong_pair_ordered I tr wf hij hi hj hw sa sb with
        | inl h => exact Or.inl h
        | inr h => exact Or.inr (Or.inl h)

/-! ### reporting helpers (used by the plugin through `#eval`) -/

def kindStr : Kind → String
  | .read => "read"
  | .write => "write"

def ctxStr : Ctx → String
  | .owner => "owner"
  | .foreign => "foreign"

def discStr : Discipline → String
  | .lockedBy l _ _ => s!"lockedBy {l}"
  | .ownerOnly _ => "ownerOnly"
  | .ownerWritesLocked l _ => s!"ownerWritesLocked {l}"
  | .immutableAfterPublication _ => "immutableAfterPublication"
  | .signalSafe _ => "signalSafe"
  | .guardedPublish l _ => s!"guardedPublish {l}"
  | .atomicOnly _ => "atomicOnly"
  | .oneWayFlag => "oneWayFlag"
  | .unknown => "unknown"

def rowStr (a : Access) : String :=
  s!"{a.file}:{a.line} {a.fn} {a.loc} {kindStr a.kind} locks=[{",".intercalate a.locks}] ctx={ctxStr a.ctx}{if a.atomic then " atomic" else ""} policy={discStr (policy a.recd a.loc)}"

/-- one line per row: `NONCOMPLY …` / `ROW <class> …` — class ∈ oneway | strong | exempt -/
def report (tbl : List Access) : List String :=
  tbl.map fun a =>
    if !complies a then "NONCOMPLY " ++ rowStr a
    else if isOneWay a.recd a.loc then "ROW oneway " ++ rowStr a
    else if strong a then "ROW strong " ++ rowStr a
    else "ROW exempt " ++ rowStr a

end Ivy.L2.Lockset
