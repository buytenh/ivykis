import Ivy.L2.SignalSpec
/-! Proofs for C10 (model `Ivy.Signal`, statements in `Ivy/Props/C10.lean`).  `iv_signal_compare` is a strict total
order, and a wake walk over a set sorted by it posts what the documented rule selects (`wake_spec`).  `Inv` is preserved
action by action (`step_inv`): a wake walk by any thread through `inv_mark`, a registration or unregistration through
the bookkeeping lemmas in front of `add_inv` and `rem_inv`.  The properties follow from `Inv` and the equations of
the steps (`*Step_eq`). -/
namespace Ivy.Signal
namespace Proofs

@[simp] theorem upd_same {α : Type} (f : Nat → α) (k : Nat) (v : α) : upd f k v k = v := by simp [upd]
theorem upd_other {α : Type} (f : Nat → α) (k x : Nat) (v : α) (h : x ≠ k) : upd f k v x = f x := by simp [upd, h]
theorem upd_apply {α : Type} (f : Nat → α) (k x : Nat) (v : α) : upd f k v x = if x = k then v else f x := rfl
theorem setAll_apply (f : Nat → Bool) (ps : List Nat) (j : Nat) : setAll f ps j = if j ∈ ps then true else f j := rfl
@[simp] theorem setAll_nil (f : Nat → Bool) : setAll f [] = f := by funext j; simp [setAll]

theorem less_iff (st : State) (a b : Nat) : less st a b = true ↔
    st.sig a < st.sig b ∨ (st.sig a = st.sig b ∧ ((st.excl a = true ∧ st.excl b = false) ∨ (st.excl a = st.excl b ∧ a < b))) := by
  unfold less
  cases ha : st.excl a <;> cases hb : st.excl b <;> simp <;> omega

/-- `iv_signal_compare` is the lexicographic order on (signal number, exclusive before shared, address) -/
theorem less_lex (st : State) (a b : Nat) : less st a b = true ↔
    st.sig a < st.sig b ∨ (st.sig a = st.sig b ∧
      ((!st.excl a).toNat < (!st.excl b).toNat ∨ ((!st.excl a).toNat = (!st.excl b).toNat ∧ a < b))) := by
  rw [less_iff]
  cases st.excl a <;> cases st.excl b <;> simp

theorem less_irrefl (st : State) (a : Nat) : less st a a = false := by
  rw [← Bool.not_eq_true, less_lex]
  omega

theorem less_trans (st : State) (a b c : Nat) (h1 : less st a b = true) (h2 : less st b c = true) : less st a c = true := by
  rw [less_lex] at *
  omega

theorem less_total (st : State) (a b : Nat) (h : a ≠ b) (h1 : less st a b = false) : less st b a = true := by
  rw [← Bool.not_eq_true, less_lex] at h1
  rw [less_lex]
  omega

theorem less_congr (st st' : State) (a b : Nat) (ha : st'.sig a = st.sig a ∧ st'.excl a = st.excl a)
    (hb : st'.sig b = st.sig b ∧ st'.excl b = st.excl b) : less st' a b = less st a b := by
  unfold less; rw [ha.1, ha.2, hb.1, hb.2]

theorem sorted_congr (st st' : State) (l : List Nat)
    (h : ∀ x, x ∈ l → st'.sig x = st.sig x ∧ st'.excl x = st.excl x) (hs : Sorted st l) : Sorted st' l := by
  unfold Sorted at *
  induction l with
  | nil => simp
  | cons a tl ih =>
    rw [List.pairwise_cons] at hs ⊢
    refine ⟨fun b hb => ?_, ih (fun x hx => h x (List.mem_cons_of_mem _ hx)) hs.2⟩
    rw [less_congr st st' a b (h a (by simp)) (h b (List.mem_cons_of_mem _ hb))]
    exact hs.1 b hb

theorem sorted_nodup (st : State) (l : List Nat) (hs : Sorted st l) : l.Nodup := by
  unfold Sorted at hs
  refine List.Pairwise.imp ?_ hs
  intro a b hab heq
  subst heq
  rw [less_irrefl] at hab
  exact Bool.noConfusion hab

theorem mem_insertS (st : State) (i : Nat) (l : List Nat) (x : Nat) : x ∈ insertS st i l ↔ x = i ∨ x ∈ l := by
  induction l with
  | nil => simp [insertS]
  | cons a tl ih =>
    unfold insertS
    split
    · simp
    · simp [ih]; grind

theorem sorted_insertS (st : State) (i : Nat) (l : List Nat) (hs : Sorted st l) (hi : i ∉ l) : Sorted st (insertS st i l) := by
  unfold Sorted at *
  induction l with
  | nil => simp [insertS]
  | cons a tl ih =>
    rw [List.pairwise_cons] at hs
    unfold insertS
    split
    · rename_i hlt
      rw [List.pairwise_cons]
      refine ⟨fun b hb => ?_, List.pairwise_cons.mpr hs⟩
      rcases List.mem_cons.mp hb with rfl | hb
      · exact hlt
      · exact less_trans st i a b hlt (hs.1 b hb)
    · rename_i hlt
      have hia : i ≠ a := fun h => hi (by simp [h])
      have hai : less st a i = true := less_total st i a hia (by simpa using hlt)
      rw [List.pairwise_cons]
      refine ⟨fun b hb => ?_, ih hs.2 (fun h => hi (List.mem_cons_of_mem _ h))⟩
      rcases (mem_insertS st i tl b).mp hb with rfl | hb
      · exact hai
      · exact hs.1 b hb

theorem sorted_erase (st : State) (i : Nat) (l : List Nat) (hs : Sorted st l) : Sorted st (l.erase i) :=
  List.Pairwise.sublist (List.erase_sublist) hs

theorem walk_sublist (st : State) (n : Nat) (l : List Nat) : (walk st n l).Sublist l := by
  induction l with
  | nil => exact .slnil
  | cons a tl ih =>
    unfold walk
    split
    · exact List.nil_sublist _
    · split
      · exact (List.nil_sublist _).cons_cons a
      · exact ih.cons_cons a

theorem findFirst_sub (st : State) (l : List Nat) (n : Nat) : (findFirst st l n).Sublist l := by
  unfold findFirst
  have h := List.dropWhile_sublist (l := l) (fun i => decide (st.sig i < n))
  split
  · simp
  · rename_i i tl heq
    split
    · rw [← heq]; exact h
    · simp

theorem findFirst_cons (st : State) (a : Nat) (tl : List Nat) (n : Nat) :
    findFirst st (a :: tl) n =
      if st.sig a < n then findFirst st tl n else if st.sig a = n then a :: tl else [] := by
  unfold findFirst
  by_cases h1 : st.sig a < n <;> simp [List.dropWhile, h1]

theorem walk_findFirst (st : State) (n : Nat) (l : List Nat) (hge : ∀ j, j ∈ l → n ≤ st.sig j) :
    walk st n (findFirst st l n) = walk st n l := by
  cases l with
  | nil => rfl
  | cons b tl =>
    have := hge b (by simp)
    rw [findFirst_cons, if_neg (by omega)]
    split
    · rfl
    · next hb => simp [walk, hb]

theorem wake_sublist (st : State) (l : List Nat) (n : Nat) : (wake st l n).Sublist l :=
  (walk_sublist st n _).trans (findFirst_sub st l n)

theorem wake_spec (st : State) (n : Nat) (l : List Nat) (hs : Sorted st l) :
    ∀ i, i ∈ wake st l n ↔ Selected (· ∈ l) st n i := by
  induction l with
  | nil => intro i; simp [wake, findFirst, walk, Selected]
  | cons a tl ih =>
    unfold wake at ih ⊢
    unfold Sorted at hs
    rw [List.pairwise_cons] at hs
    have hlt : ∀ b, b ∈ tl → _ := fun b hb => (less_iff st a b).mp (hs.1 b hb)
    intro i
    simp only [Selected, List.mem_cons, forall_eq_or_imp]
    by_cases h1 : st.sig a < n
    · -- skipped by the descent: `a` is no interest for `n`
      have hne : st.sig a ≠ n := by omega
      rw [findFirst_cons, if_pos h1, ih hs.2]
      simp only [Selected, hne, false_imp_iff, true_and]
      constructor
      · rintro ⟨hm, hr⟩; exact ⟨.inr hm, hr⟩
      · rintro ⟨rfl | hm, hsg, hr⟩
        · exact absurd hsg hne
        · exact ⟨hm, hsg, hr⟩
    · by_cases h2 : st.sig a = n
      · rw [findFirst_cons, if_neg h1, if_pos h2]
        unfold walk
        cases hea : st.excl a
        · -- first interest for n is shared: no exclusive one exists
          have hsh : ∀ j, j ∈ tl → st.sig j = n → st.excl j = false := by
            intro j hj hjs
            have := hlt j hj
            grind
          have hge : ∀ j, j ∈ tl → n ≤ st.sig j := by
            intro j hj; have := hlt j hj; omega
          -- the rest of the walk is the walk over the tail, which the induction hypothesis describes
          rw [← walk_findFirst st n tl hge]
          simp only [h2, ne_eq, not_true_eq_false, if_false, Bool.false_eq_true, List.mem_cons, ih hs.2 i, Selected,
            imp_self, true_and]
          constructor
          · rintro (rfl | ⟨hm, hsg, _⟩)
            · exact ⟨.inl rfl, h2, .inr ⟨hea, hsh⟩⟩
            · exact ⟨.inr hm, hsg, .inr ⟨hsh i hm hsg, hsh⟩⟩
          · rintro ⟨rfl | hm, hsg, _⟩
            · exact .inl rfl
            · exact .inr ⟨hm, hsg, .inr ⟨hsh i hm hsg, hsh⟩⟩
        · -- first interest for n is exclusive: only it
          simp only [h2, ne_eq, not_true_eq_false, if_false, if_true, List.mem_singleton]
          constructor
          · rintro rfl
            refine ⟨.inl rfl, h2, .inl ⟨hea, fun _ _ => Nat.le_refl _, fun j hj hjs hje => ?_⟩⟩
            have := hlt j hj
            grind
          · rintro ⟨rfl | hm, hsg, hr⟩
            · rfl
            · have := hlt i hm
              grind
      · -- the set starts beyond n: nothing for n
        simp only [findFirst_cons, if_neg h1, if_neg h2, walk, List.not_mem_nil, false_iff, not_and]
        rintro (rfl | hm) hsg
        · exact absurd hsg h2
        · have := hlt i hm; omega

@[simp] theorem startPosts_sig (st : State) (T : Nat) (ps : List Nat) (l : Bool) : (startPosts st T ps l).sig = st.sig := rfl
@[simp] theorem startPosts_excl (st : State) (T : Nat) (ps : List Nat) (l : Bool) : (startPosts st T ps l).excl = st.excl := rfl
@[simp] theorem startPosts_this (st : State) (T : Nat) (ps : List Nat) (l : Bool) : (startPosts st T ps l).this = st.this := rfl
@[simp] theorem startPosts_owner (st : State) (T : Nat) (ps : List Nat) (l : Bool) : (startPosts st T ps l).owner = st.owner := rfl
@[simp] theorem startPosts_reg (st : State) (T : Nat) (ps : List Nat) (l : Bool) : (startPosts st T ps l).reg = st.reg := rfl
@[simp] theorem startPosts_active (st : State) (T : Nat) (ps : List Nat) (l : Bool) : (startPosts st T ps l).active = st.active := rfl
@[simp] theorem startPosts_owed (st : State) (T : Nat) (ps : List Nat) (l : Bool) : (startPosts st T ps l).owed = st.owed := rfl
@[simp] theorem startPosts_noted (st : State) (T : Nat) (ps : List Nat) (l : Bool) : (startPosts st T ps l).noted = st.noted := rfl
@[simp] theorem startPosts_stage (st : State) (T : Nat) (ps : List Nat) (l : Bool) : (startPosts st T ps l).stage = st.stage := rfl
@[simp] theorem startPosts_proc (st : State) (T : Nat) (ps : List Nat) (l : Bool) : (startPosts st T ps l).proc = st.proc := rfl
@[simp] theorem startPosts_thr (st : State) (T : Nat) (ps : List Nat) (l : Bool) : (startPosts st T ps l).thr = st.thr := rfl
@[simp] theorem startPosts_count (st : State) (T : Nat) (ps : List Nat) (l : Bool) : (startPosts st T ps l).count = st.count := rfl
@[simp] theorem startPosts_disp (st : State) (T : Nat) (ps : List Nat) (l : Bool) : (startPosts st T ps l).disp = st.disp := rfl
@[simp] theorem startPosts_ownerPid (st : State) (T : Nat) (ps : List Nat) (l : Bool) : (startPosts st T ps l).ownerPid = st.ownerPid := rfl
@[simp] theorem startPosts_pid (st : State) (T : Nat) (ps : List Nat) (l : Bool) : (startPosts st T ps l).pid = st.pid := rfl
@[simp] theorem startPosts_pc (st : State) (T : Nat) (ps : List Nat) (l : Bool) : (startPosts st T ps l).pc = st.pc := rfl
@[simp] theorem startPosts_pend (st : State) (T : Nat) (ps : List Nat) (l : Bool) : (startPosts st T ps l).pend = upd st.pend T ps := rfl
@[simp] theorem startPosts_lock (st : State) (T : Nat) (ps : List Nat) (l : Bool) : (startPosts st T ps l).lock = if l && !ps.isEmpty then some T else st.lock := rfl

theorem markSt_rule (r : State) (T : Nat) (ps : List Nat) (l : Bool) :
    Fanout (markSt r T ps l) = Fanout r ∧ InProc (markSt r T ps l) = InProc r ∧
    ∀ P, Selected P (markSt r T ps l) = Selected P r := ⟨rfl, rfl, fun _ => rfl⟩

theorem busy_false (st : State) (T : Nat) : busy st T = false ↔ st.pc T = none ∧ st.pend T = [] := by
  unfold busy
  cases h1 : st.pc T <;> cases h2 : st.pend T <;> simp

theorem not_busy_true (st : State) (T : Nat) : ¬ busy st T = true ↔ st.pc T = none ∧ st.pend T = [] := by
  rw [← busy_false]; cases busy st T <;> simp

theorem sigThreadStep_eq {st : State} {T n : Nat} {st' o} (hs : sigThreadStep st T n = some (st', o)) :
    st.pc T = none ∧ st.pend T = [] ∧
    ((¬ (st.ownerPid ≠ 0 ∧ st.ownerPid = st.pid) ∧ st' = st ∧ o = []) ∨
     (st.ownerPid = st.pid ∧
       ((wake st (st.thr T) n = [] ∧ st' = { st with pc := upd st.pc T (some n) } ∧ o = []) ∨
        (wake st (st.thr T) n ≠ [] ∧ st' = markSt st T (wake st (st.thr T) n) false ∧
          o = (wake st (st.thr T) n).map Out.post)))) := by
  unfold sigThreadStep at hs
  cases hbb : busy st T <;> simp only [hbb, if_true, Bool.false_eq_true, if_false] at hs
  · refine ⟨((busy_false st T).mp hbb).1, ((busy_false st T).mp hbb).2, ?_⟩
    split at hs
    · next hc => cases hs; exact .inl ⟨by simp at hc ⊢; omega, rfl, rfl⟩
    · next hc =>
      simp at hc
      refine .inr ⟨hc.2, ?_⟩
      split at hs
      · next he => cases hs; exact .inl ⟨List.isEmpty_iff.1 he, rfl, rfl⟩
      · next he => cases hs; exact .inr ⟨by simpa using he, rfl, rfl⟩
  · cases hs

theorem sigProcStep_eq {st : State} {T : Nat} {st' o} (hs : sigProcStep st T = some (st', o)) :
    ∃ n, st.pc T = some n ∧ st.lock = none ∧ st.pend T = [] ∧
      st' = markSt { st with pc := upd st.pc T none } T (wake st st.proc n) true ∧
      o = (wake st st.proc n).map Out.post := by
  unfold sigProcStep at hs
  split at hs
  · cases hs
  · next n hpc =>
    split at hs
    · cases hs
    · next hc => cases hs; simp at hc; exact ⟨n, hpc, hc.1, hc.2, rfl, rfl⟩

theorem postedStep_eq {st : State} {T : Nat} {st' o} (hs : postedStep st T = some (st', o)) :
    ∃ i rest, st.pend T = i :: rest ∧ st.reg i = true ∧ o = [] ∧
      st' = { st with owed := upd st.owed i true, pend := upd st.pend T rest,
                      lock := if rest.isEmpty && st.lock == some T then none else st.lock } := by
  unfold postedStep at hs
  split at hs
  · cases hs
  · next i rest hp =>
    split at hs
    · cases hs
    · next hr => cases hs; exact ⟨i, rest, hp, by simpa using hr, rfl, rfl⟩

theorem fork_eq {st : State} {p : Nat} {st' o} (hs : step st (.fork p) = some (st', o)) :
    p ≠ 0 ∧ p ≠ st.pid ∧ st.lock = none ∧ o = [] ∧
    st' = { st with pid := p, pc := fun _ => none, pend := fun _ => [], noted := fun _ => false } := by
  simp only [step] at hs
  split at hs
  · cases hs
  · next hc => cases hs; simpa [and_assoc] using hc

def InTree (st : State) (t : Bool) (T i : Nat) : Prop :=
  st.reg i = true ∧ st.this i = t ∧ (t = true → st.owner i = T)

def Trees (st : State) : Prop :=
  ∀ t T, (∀ i, i ∈ tree st t T ↔ InTree st t T i) ∧ Sorted st (tree st t T)

theorem trees_iff (st : State) : Trees st ↔
    (∀ i, i ∈ st.proc ↔ InProc st i) ∧ (∀ T i, i ∈ st.thr T ↔ InThr st T i) ∧
    Sorted st st.proc ∧ ∀ T, Sorted st (st.thr T) := by
  constructor
  · intro h
    refine ⟨fun i => ?_, fun T i => ?_, (h false 0).2, fun T => (h true T).2⟩
    · simpa [tree, InTree, InProc] using (h false 0).1 i
    · simpa [tree, InTree, InThr] using (h true T).1 i
  · rintro ⟨h1, h2, h3, h4⟩ t T
    cases t
    · exact ⟨fun i => by simpa [tree, InTree, InProc] using h1 i, h3⟩
    · exact ⟨fun i => by simpa [tree, InTree, InThr] using h2 T i, h4 T⟩

theorem trees_of_inv {st : State} (h : Inv st) : Trees st :=
  (trees_iff st).2 ⟨h.proc_mem, h.thr_mem, h.proc_sorted, h.thr_sorted⟩

theorem wake_mem (st : State) (h : Inv st) (t : Bool) (T n i : Nat) (hi : i ∈ wake st (tree st t T) n) :
    InTree st t T i :=
  ((trees_of_inv h t T).1 i).mp ((wake_sublist st _ n).subset hi)

/-- Only thread `T`'s part of the walker state changes: `pc T`, `pend T`, whether `T` holds `sig_lock`.  What the
clauses `pc_main … lock_pend` say of `T` afterwards (`hT`) and `noted_ok` (`hn`) are the caller's. -/
theorem inv_walker (st : State) (h : Inv st) (T : Nat) (pc' : Nat → Option Nat) (ps : List Nat) (lock' : Option Nat)
    (active owed noted : Nat → Bool)
    (hpc : ∀ U, U ≠ T → pc' U = st.pc U)
    (hlock : ∀ U, U ≠ T → (lock' = some U ↔ st.lock = some U))
    (hT : (∀ m, pc' T = some m → ps = [] ∧ st.ownerPid = st.pid) ∧ (ps ≠ [] → st.ownerPid = st.pid) ∧
      (∀ i, i ∈ ps → st.reg i = true ∧ ((st.this i = true ∧ st.owner i = T) ∨ lock' = some T)) ∧
      (lock' = some T → ps ≠ []))
    (hn : ∀ i, st.reg i = true → noted i = true →
      active i = true ∧ (owed i = true ∨ st.stage i = 1 ∨ ∃ U, i ∈ upd st.pend T ps U)) :
    Inv { st with pc := pc', pend := upd st.pend T ps, lock := lock', active := active, owed := owed, noted := noted } := by
  refine { h with pc_main := fun U m hU => ?_, pc_pend := fun U m hU => ?_, pend_main := fun U hU => ?_,
                  pend_reg := fun U i hi => ?_, lock_pend := fun U hU => ?_, noted_ok := hn } <;>
    by_cases hUT : U = T
  · exact (hT.1 m (hUT ▸ hU)).2
  · exact h.pc_main U m (hpc U hUT ▸ hU)
  · subst hUT; exact (upd_same _ _ _).trans (hT.1 m hU).1
  · exact (upd_other _ _ _ _ hUT).trans (h.pc_pend U m (hpc U hUT ▸ hU))
  · subst hUT; exact hT.2.1 (by simpa using hU)
  · exact h.pend_main U (by simpa [upd_apply, hUT] using hU)
  · subst hUT; exact hT.2.2.1 i (by simpa using hi)
  · have := h.pend_reg U i (by simpa [upd_apply, hUT] using hi)
    exact ⟨this.1, this.2.imp_right (hlock U hUT).2⟩
  · subst hUT; simpa using hT.2.2.2 hU
  · simpa [upd_apply, hUT] using h.lock_pend U ((hlock U hUT).1 hU)

theorem markSt_pend_mem (r : State) (T : Nat) (ps : List Nat) (l : Bool) (hp : r.pend T = []) (i : Nat)
    (hi : ∃ U, i ∈ r.pend U) : ∃ U, i ∈ (markSt r T ps l).pend U := by
  obtain ⟨U, hU⟩ := hi
  have hUT : U ≠ T := by intro h; rw [h, hp] at hU; cases hU
  exact ⟨U, by simp [markSt, upd_apply, hUT, hU]⟩

/-- Thread `T`, with no write pending (`hpend`), walks a set and is about to post `ps` (`markSt`), under `sig_lock`
iff `locked`; in the same step its `pc` may change (`pc'`, `hpc1`), to "second half still to come" only if nothing
was found (`hpc2`).  `hmain`: posts are made in the owner process only; `hps`: each target is registered and is
`T`'s own this-thread interest or protected by the lock; `hlock`: the lock was free. -/
theorem inv_mark (st : State) (h : Inv st) (T : Nat) (ps : List Nat) (locked : Bool) (pc' : Nat → Option Nat)
    (hpend : st.pend T = [])
    (hpc1 : ∀ U, U ≠ T → pc' U = st.pc U)
    (hpc2 : ∀ m, pc' T = some m → ps = [] ∧ st.ownerPid = st.pid)
    (hmain : ps ≠ [] → st.ownerPid = st.pid)
    (hps : ∀ i, i ∈ ps → st.reg i = true ∧ ((st.this i = true ∧ st.owner i = T) ∨ locked = true))
    (hlock : locked = true → st.lock = none) : Inv (markSt { st with pc := pc' } T ps locked) := by
  have hlk : st.lock ≠ some T := fun hU => h.lock_pend T hU hpend
  refine inv_walker st h T pc' ps _ _ st.owed _ hpc1 (fun U hUT => ?_) ⟨hpc2, hmain, fun i hi => ?_, fun hl => ?_⟩
    fun i hr hn => ?_
  · -- `T` takes the lock only if it was free
    by_cases hc : (locked && !ps.isEmpty) = true
    · rw [if_pos hc, hlock (by simp at hc; exact hc.1)]; simp [Ne.symm hUT]
    · rw [if_neg hc]
  · have hne : ps.isEmpty = false := by cases ps <;> simp at hi ⊢
    exact ⟨(hps i hi).1, (hps i hi).2.imp_right fun h1 => by simp [h1, hne]⟩
  · by_cases hc : (locked && !ps.isEmpty) = true
    · simp at hc; exact fun h0 => by simp [h0] at hc
    · rw [if_neg hc] at hl; exact absurd hl hlk
  · simp only [setAll_apply] at hn ⊢
    by_cases hi : i ∈ ps
    · exact ⟨if_pos hi, .inr (.inr ⟨T, by simp [hi]⟩)⟩
    · simp only [hi, if_false] at hn ⊢
      exact ⟨(h.noted_ok i hr hn).1, (h.noted_ok i hr hn).2.imp_right (.imp_right (markSt_pend_mem st T ps false hpend i))⟩

theorem sigProc_inv (st : State) (h : Inv st) (T : Nat) {st' o} (hs : sigProcStep st T = some (st', o)) : Inv st' := by
  obtain ⟨n, hpc, hl, hpe, rfl, _⟩ := sigProcStep_eq hs
  exact inv_mark st h T _ true (upd st.pc T none) (hpend := hpe) (hpc1 := fun U hU => by simp [upd_apply, hU])
    (hpc2 := fun m hm => by simp at hm) (hmain := fun _ => h.pc_main T n hpc)
    (hps := fun i hi => ⟨(wake_mem st h false 0 n i hi).1, Or.inr rfl⟩) (hlock := fun _ => hl)

theorem sigThread_inv (st : State) (h : Inv st) (T n : Nat) {st' o} (hs : sigThreadStep st T n = some (st', o)) : Inv st' := by
  obtain ⟨hpc, hpe, ⟨_, rfl, _⟩ | ⟨hpid, ⟨_, rfl, _⟩ | ⟨_, rfl, _⟩⟩⟩ := sigThreadStep_eq hs
  · exact h
  · -- nothing found in `T`'s own set: only `pc T` changes
    refine { h with pc_main := fun U m hU => ?_, pc_pend := fun U m hU => ?_ }
    · by_cases hUT : U = T
      · exact hpid
      · exact h.pc_main U m (by simpa [upd_apply, hUT] using hU)
    · by_cases hUT : U = T
      · exact hUT ▸ hpe
      · exact h.pc_pend U m (by simpa [upd_apply, hUT] using hU)
  · exact inv_mark st h T _ false st.pc (hpend := hpe) (hpc1 := fun U _ => rfl)
      (hpc2 := fun m hm => by rw [hpc] at hm; cases hm) (hmain := fun _ => hpid)
      (hps := fun i hi => by
        have := wake_mem st h true T n i hi
        exact ⟨this.1, Or.inl ⟨this.2.1, this.2.2 rfl⟩⟩) (hlock := fun hf => by cases hf)

theorem pend_tail_mem {st : State} {T i j : Nat} {rest : List Nat} (hp : st.pend T = i :: rest) (hji : j ≠ i) :
    (∃ U, j ∈ st.pend U) → ∃ U, j ∈ upd st.pend T rest U := by
  rintro ⟨U, hU⟩
  by_cases hUT : U = T
  · subst hUT
    rw [hp] at hU
    exact ⟨U, by simpa [hji] using hU⟩
  · exact ⟨U, by simpa [upd_apply, hUT] using hU⟩

theorem posted_inv (st : State) (h : Inv st) (T : Nat) {st' o} (hs : postedStep st T = some (st', o)) : Inv st' := by
  obtain ⟨i, rest, hp, hr, _, rfl⟩ := postedStep_eq hs
  have hT := h.pend_reg T
  rw [hp] at hT
  refine inv_walker st h T st.pc rest _ st.active _ st.noted (fun _ _ => rfl) (fun U hUT => ?_)
    ⟨fun m hm => ?_, fun _ => h.pend_main T (by simp [hp]), fun j hj => ?_, fun hl => ?_⟩ fun j hrj hn => ?_
  · by_cases hc : (rest.isEmpty && st.lock == some T) = true
    · simp at hc; simp [hc, Ne.symm hUT]
    · simp [hc]
  · have := h.pc_pend T m hm; rw [hp] at this; cases this
  · have hne : rest.isEmpty = false := by cases rest <;> simp at hj ⊢
    exact ⟨(hT j (List.mem_cons_of_mem _ hj)).1, (hT j (List.mem_cons_of_mem _ hj)).2.imp_right fun h1 => by simp [hne, h1]⟩
  · rintro rfl
    by_cases hc : st.lock = some T <;> simp [hc] at hl
  · have := h.noted_ok j hrj hn
    refine ⟨this.1, ?_⟩
    by_cases hji : j = i
    · left; simp [hji]
    · exact this.2.imp (fun h1 => by simp [upd_apply, hji, h1]) (.imp_right (pend_tail_mem hp hji))

theorem ev_frame (st : State) (h : Inv st) (owed active noted : Nat → Bool) (stage : Nat → Nat)
    (d : ∀ i, st.reg i = true → noted i = true →
      active i = true ∧ (owed i = true ∨ stage i = 1 ∨ ∃ T, i ∈ st.pend T)) :
    Inv { st with owed := owed, active := active, noted := noted, stage := stage } :=
  { h with noted_ok := d }

theorem evRead_inv (st : State) (h : Inv st) (i : Nat) {st' o} (hs : step st (.evRead i) = some (st', o)) : Inv st' := by
  obtain ⟨_, hs⟩ := Option.ite_none_right_eq_some.1 hs
  cases hs
  refine ev_frame st h _ _ _ _ fun j hr hn => ?_
  have := h.noted_ok j hr hn
  refine ⟨this.1, ?_⟩
  by_cases hji : j = i
  · simp [hji]
  · simpa [upd_apply, hji] using this.2

theorem evClear_inv (st : State) (h : Inv st) (i : Nat) {st' o} (hs : step st (.evClear i) = some (st', o)) : Inv st' := by
  obtain ⟨_, hs⟩ := Option.ite_none_right_eq_some.1 hs
  cases hs
  refine ev_frame st h _ _ _ _ fun j hr hn => ?_
  by_cases hji : j = i
  · simp [hji] at hn
  · simp only [upd_apply, hji, if_false] at hn ⊢
    exact h.noted_ok j hr hn

theorem evEnd_inv (st : State) (h : Inv st) (i : Nat) {st' o} (hs : step st (.evEnd i) = some (st', o)) : Inv st' := by
  obtain ⟨hc, hs⟩ := Option.ite_none_right_eq_some.1 hs
  cases hs
  refine ev_frame st h _ _ _ _ fun j hr hn => ?_
  have := h.noted_ok j hr hn
  refine ⟨this.1, ?_⟩
  by_cases hji : j = i
  · subst hji
    simp at hc
    exact this.2.imp_right (.imp_left fun h1 => by omega)
  · simpa [upd_apply, hji] using this.2

theorem fork_inv (st : State) (h : Inv st) (p : Nat) {st' o} (hs : step st (.fork p) = some (st', o)) : Inv st' := by
  obtain ⟨h0, _, hl, _, rfl⟩ := fork_eq hs
  exact { h with pid_pos := h0, pc_main := nofun, pc_pend := nofun, pend_main := fun _ hU => (hU rfl).elim,
                 pend_reg := nofun, lock_pend := fun U hU => by simp [hl] at hU, noted_ok := nofun }

theorem regStep_eq (st : State) (T i n : Nat) (e t : Bool) {st' o} (hs : regStep st T i n e t = some (st', o)) :
    busy st T = false ∧ st.reg i = false ∧
    ((NSIG ≤ n ∧ st' = st ∧ o = [Out.err]) ∨
     (st.lock = none ∧ n < NSIG ∧ st' = addSt (baseSt st) T i n e t ∧
      o = baseOut st ++ (if (baseSt st).count n == 0 then [Out.disp n true] else []))) := by
  unfold regStep at hs
  cases hb : busy st T <;> simp [hb] at hs
  by_cases hn : NSIG ≤ n
  · simp [hn] at hs
    cases hr : st.reg i <;> simp [hr] at hs
    exact ⟨rfl, rfl, Or.inl ⟨hn, hs.1.symm, hs.2.symm⟩⟩
  · simp [hn] at hs
    cases hl : st.lock <;> simp [hl] at hs
    cases hr : st.reg i <;> simp [hr] at hs
    exact ⟨rfl, rfl, Or.inr ⟨rfl, by omega, hs.1.symm, by rw [← hs.2]; simp⟩⟩

theorem count_zero_of_range (st : State) (h : Inv st) (n : Nat) (hn : NSIG ≤ n) : st.count n = 0 := by
  obtain ⟨regs, _, hm, hc⟩ := h.count_card
  rw [hc n]
  simp only [List.length_eq_zero_iff, List.filter_eq_nil_iff]
  intro i hi
  have := h.sig_range i ((hm i).mp hi)
  simp; omega

theorem count_zero_iff (st : State) (h : Inv st) (n : Nat) : st.count n = 0 ↔ ∀ i, st.reg i = true → st.sig i ≠ n := by
  obtain ⟨regs, _, hmem, hcnt⟩ := h.count_card
  rw [hcnt n]
  simp only [List.length_eq_zero_iff, List.filter_eq_nil_iff]
  constructor
  · intro hh i hi; have := hh i ((hmem i).mpr hi); simpa using this
  · intro hh i hi; have := hh i ((hmem i).mp hi); simpa using this

theorem count_pos_of_reg (st : State) (h : Inv st) (i : Nat) (hr : st.reg i = true) : 1 ≤ st.count (st.sig i) :=
  Nat.pos_of_ne_zero fun h0 => (count_zero_iff st h _).1 h0 i hr rfl

theorem baseSt_self {st : State} (hown : st.ownerPid = st.pid) : baseSt st = st := by
  unfold baseSt
  rw [if_neg (by simp [hown])]
  cases st; cases hown; rfl

theorem base_inv (st : State) (h : Inv st) : Inv (baseSt st) ∧ (baseSt st).ownerPid = (baseSt st).pid ∧
    ∀ i, st.reg i = false → (baseSt st).reg i = false := by
  by_cases hown : st.ownerPid = st.pid
  · rw [baseSt_self hown]; exact ⟨h, hown, fun _ hi => hi⟩
  -- outside the owner process no thread is inside the handler or a walk
  have hpc : ∀ U m, st.pc U = some m → False := fun U m hU => hown (h.pc_main U m hU)
  have hpe : ∀ U, st.pend U = [] := fun U => Classical.byContradiction fun hU => hown (h.pend_main U hU)
  unfold baseSt
  cases hc : (st.ownerPid != 0 && st.ownerPid != st.pid)
  · -- first registration ever
    simp only [Bool.false_eq_true, if_false]
    refine ⟨?_, trivial, fun _ hi => hi⟩
    exact { h with fresh := fun h1 => absurd h1 h.pid_pos, pc_main := fun U m hU => (hpc U m hU).elim,
                   pend_main := fun U hU => absurd (hpe U) hU }
  · -- forked child: post-fork reset
    simp only [if_true, childReset]
    refine ⟨?_, trivial, fun _ _ => trivial⟩
    exact { pid_pos := h.pid_pos, fresh := fun h1 => absurd h1 h.pid_pos
            proc_mem := by intro i; simp [InProc], thr_mem := by intro U i; simp [InThr]
            proc_sorted := by simp [Sorted], thr_sorted := by intro U; simp [Sorted]
            count_card := ⟨[], by simp, by simp, by
              intro n; simp
              intro hn; exact count_zero_of_range st h n (by omega)⟩
            disp_count := by
              intro n
              have hz : NSIG ≤ n → st.count n = 0 := count_zero_of_range st h n
              have hd := h.disp_count n
              by_cases hcn : st.count n = 0
              · have : st.disp n = false := by
                  cases hdn : st.disp n
                  · rfl
                  · exact absurd hcn (hd.mp hdn)
                simp [hcn, this]
              · by_cases hn : n < NSIG
                · simp [hn, hcn]
                · exact absurd (hz (by omega)) hcn
            sig_range := by intro i hi; simp at hi
            pc_main := fun U m hU => (hpc U m hU).elim, pc_pend := h.pc_pend
            pend_main := fun U hU => absurd (hpe U) hU
            pend_reg := fun U i hi => by simp [hpe U] at hi
            lock_pend := h.lock_pend
            noted_ok := by intro i hi; simp at hi }

/-- `count` gives, per signal, the number of registered interests (clause `count_card` of `Inv`) -/
def Counted (reg : Nat → Bool) (sig count : Nat → Nat) : Prop :=
  ∃ regs : List Nat, regs.Nodup ∧ (∀ i, i ∈ regs ↔ reg i = true) ∧
    ∀ n, count n = (regs.filter (fun i => sig i == n)).length

theorem counted_add {reg : Nat → Bool} {sig count : Nat → Nat} {i : Nat} (n : Nat) (hr : reg i = false)
    (h : Counted reg sig count) : Counted (upd reg i true) (upd sig i n) (upd count n (count n + 1)) := by
  obtain ⟨regs, hnd, hmem, hcnt⟩ := h
  have hir : i ∉ regs := fun hi => by have := (hmem i).mp hi; rw [hr] at this; cases this
  refine ⟨i :: regs, List.nodup_cons.mpr ⟨hir, hnd⟩, fun x => ?_, fun m => ?_⟩
  · by_cases hx : x = i <;> simp [upd_apply, hx, hmem x]
  · have hf : regs.filter (fun x => upd sig i n x == m) = regs.filter (fun x => sig x == m) :=
      List.filter_congr fun x hx => by
        have : x ≠ i := fun hxi => hir (hxi ▸ hx)
        simp [upd_apply, this]
    rw [List.filter_cons, hf]
    by_cases hm : m = n
    · subst hm; simp [hcnt]
    · have : ¬ (n = m) := fun h => hm h.symm
      simp [upd_apply, hm, this, hcnt]

theorem filter_length_erase (regs : List Nat) (i : Nat) (hi : i ∈ regs) (p : Nat → Bool) :
    (regs.filter p).length = (if p i then 1 else 0) + ((regs.erase i).filter p).length := by
  have hp := (List.perm_cons_erase hi).filter p
  have := hp.length_eq
  rw [this, List.filter_cons]
  split <;> simp <;> omega

theorem counted_rem {reg : Nat → Bool} {sig count : Nat → Nat} {i : Nat} (hr : reg i = true)
    (h : Counted reg sig count) : Counted (upd reg i false) sig (upd count (sig i) (count (sig i) - 1)) := by
  obtain ⟨regs, hnd, hmem, hcnt⟩ := h
  refine ⟨regs.erase i, hnd.erase i, fun x => ?_, fun m => ?_⟩
  · rw [List.Nodup.mem_erase_iff hnd]
    by_cases hx : x = i <;> simp [upd_apply, hx, hmem x]
  · have := filter_length_erase regs i ((hmem i).mpr hr) (fun x => sig x == m)
    rw [← hcnt m] at this
    by_cases hm : m = sig i
    · subst hm; simp at this ⊢; omega
    · have hm' : ¬ (sig i = m) := fun h => hm h.symm
      simp [upd_apply, hm, hm'] at this ⊢; omega

theorem disp_count_upd {disp : Nat → Bool} {count : Nat → Nat} (h : ∀ m, disp m = true ↔ count m ≠ 0)
    (n c : Nat) (p b : Bool) (hp : p = true → (b = true ↔ c ≠ 0)) (hn : p = false → count n ≠ 0 ∧ c ≠ 0) (m : Nat) :
    (if p then upd disp n b else disp) m = true ↔ upd count n c m ≠ 0 := by
  by_cases hm : m = n
  · subst hm
    cases p
    · simpa [(hn rfl).2] using (h m).2 (hn rfl).1
    · simpa using hp rfl
  · cases p <;> simpa [upd_apply, hm] using h m

theorem trees_setTree (s s' : State) (t : Bool) (T : Nat) (l : List Nat)
    (hp : s'.proc = (setTree s t T l).proc) (ht : s'.thr = (setTree s t T l).thr)
    (h : ∀ t' U, (∀ i, i ∈ (if t = t' ∧ (t' = true → T = U) then l else tree s t' U) ↔ InTree s' t' U i) ∧
      Sorted s' (if t = t' ∧ (t' = true → T = U) then l else tree s t' U)) : Trees s' := by
  intro t' U
  have e : tree s' t' U = if t = t' ∧ (t' = true → T = U) then l else tree s t' U := by
    cases t <;> cases t' <;> simp [tree, hp, ht, setTree, upd_apply, eq_comm (a := U)]
  rw [e]
  exact h t' U

/-- the same when `s'` is `setTree s t T l` itself: `InTree` and `Sorted` read neither `proc` nor `thr` -/
theorem trees_of_setTree (s : State) (t : Bool) (T : Nat) (l : List Nat)
    (h : ∀ t' U, (∀ i, i ∈ (if t = t' ∧ (t' = true → T = U) then l else tree s t' U) ↔ InTree s t' U i) ∧
      Sorted s (if t = t' ∧ (t' = true → T = U) then l else tree s t' U)) : Trees (setTree s t T l) :=
  trees_setTree s _ t T l rfl rfl (by cases t <;> exact h)

/-- registering `i`: the membership condition `P` of a set becomes `P'`, which differs at `i` only; a set that
does not receive `i`, and the set it is inserted into -/
theorem mem_other {i : Nat} {l : List Nat} {P P' : Nat → Prop} (hm : ∀ x, x ∈ l ↔ P x)
    (hne : ∀ x, x ≠ i → (P' x ↔ P x)) (hi : ¬ P i) (hi' : ¬ P' i) (x : Nat) : x ∈ l ↔ P' x := by
  by_cases hx : x = i
  · subst hx; simp [hm, hi, hi']
  · rw [hm, hne x hx]

theorem mem_insertS_new (st : State) {i : Nat} {l : List Nat} {P P' : Nat → Prop} (hm : ∀ x, x ∈ l ↔ P x)
    (hne : ∀ x, x ≠ i → (P' x ↔ P x)) (hi' : P' i) (x : Nat) : x ∈ insertS st i l ↔ P' x := by
  rw [mem_insertS]
  by_cases hx : x = i
  · subst hx; simp [hi']
  · simp [hx, hm, hne x hx]

/-- the state of `addSt` before the insertion.  `addSt` ends in `setTree` and `remSt` updates the result of one; its
`if isThis` blocks the reduction of every field projection that passes through it; `addSt_eq` and `remSt_eq` restate
them as one record update whose fields reduce. -/
def add3 (s : State) (T i n : Nat) (e t : Bool) : State :=
  { s with sig := upd s.sig i n, excl := upd s.excl i e, this := upd s.this i t,
           owner := upd s.owner i T, reg := upd s.reg i true,
           active := upd s.active i false, owed := upd s.owed i false, noted := upd s.noted i false,
           count := upd s.count n (s.count n + 1),
           disp := if s.count n == 0 then upd s.disp n true else s.disp }

theorem addSt_eq (s : State) (T i n : Nat) (e t : Bool) :
    addSt s T i n e t = { add3 s T i n e t with
      proc := (setTree (add3 s T i n e t) t T (insertS (add3 s T i n e t) i (tree (add3 s T i n e t) t T))).proc
      thr := (setTree (add3 s T i n e t) t T (insertS (add3 s T i n e t) i (tree (add3 s T i n e t) t T))).thr } := by
  cases t <;> rfl

theorem add_inv (s : State) (h : Inv s) (T i n : Nat) (e t : Bool) (hown : s.ownerPid = s.pid)
    (hr : s.reg i = false) (hn : n < NSIG) : Inv (addSt s T i n e t) := by
  have hne : ∀ x, s.reg x = true → x ≠ i := fun x hx hxi => by rw [hxi, hr] at hx; cases hx
  have hso : ∀ l, i ∉ l → Sorted s l → Sorted (add3 s T i n e t) l := fun l hil hl =>
    sorted_congr s _ l (fun x hx => by
      have : x ≠ i := fun hxi => hil (hxi ▸ hx)
      simp [add3, upd_apply, this]) hl
  have hrange : ∀ x, upd s.reg i true x = true → upd s.sig i n x < NSIG := by
    intro x
    by_cases hx : x = i
    · simp [hx, hn]
    · simp only [upd_apply, hx, if_false]; exact h.sig_range x
  have hnoted : ∀ x, upd s.reg i true x = true → upd s.noted i false x = true →
      upd s.active i false x = true ∧ (upd s.owed i false x = true ∨ s.stage x = 1 ∨ ∃ U, x ∈ s.pend U) := by
    intro x
    by_cases hx : x = i
    · simp [hx]
    · simp only [upd_apply, hx, if_false]; exact h.noted_ok x
  have hpr : ∀ U x, x ∈ s.pend U → upd s.reg i true x = true ∧
      ((upd s.this i t x = true ∧ upd s.owner i T x = U) ∨ s.lock = some U) := by
    intro U x hx
    have := hne x (h.pend_reg U x hx).1
    simp only [upd_apply, this, if_false]
    exact h.pend_reg U x hx
  have ht : Trees (addSt s T i n e t) := trees_of_setTree (add3 s T i n e t) t T
      (insertS (add3 s T i n e t) i (tree (add3 s T i n e t) t T)) fun t' U => by
    obtain ⟨hm, hs⟩ := trees_of_inv h t' U
    have hni : i ∉ tree s t' U := fun hi => by have := ((hm i).mp hi).1; rw [hr] at this; cases this
    have hne' : ∀ x, x ≠ i → (InTree (add3 s T i n e t) t' U x ↔ InTree s t' U x) :=
      fun x hx => by simp [InTree, add3, upd_apply, hx]
    split
    · next hc =>
      -- the set that receives `i`
      have e : tree (add3 s T i n e t) t T = tree s t' U := by
        obtain ⟨rfl, hU⟩ := hc
        cases t <;> simp [tree, add3, hU]
      rw [e]
      exact ⟨mem_insertS_new (i := i) _ hm hne' (by simpa [InTree, add3] using hc),
        sorted_insertS _ i _ (hso _ hni hs) hni⟩
    · next hc =>
      exact ⟨mem_other (i := i) hm hne' (by simp [InTree, hr]) (by simpa [InTree, add3] using hc),
        hso _ hni hs⟩
  rw [addSt_eq] at ht ⊢
  obtain ⟨hpm, htm, hps, hts⟩ := (trees_iff _).1 ht
  exact { pid_pos := h.pid_pos, fresh := fun h0 => absurd (hown ▸ h0) h.pid_pos
          proc_mem := hpm, thr_mem := htm, proc_sorted := hps, thr_sorted := hts
          count_card := counted_add n hr h.count_card
          disp_count := disp_count_upd h.disp_count n _ _ true (fun _ => by simp) fun hp => by simpa using hp
          sig_range := hrange
          pc_main := fun U m hU => hown, pc_pend := h.pc_pend, pend_main := fun U _ => hown
          pend_reg := hpr, lock_pend := h.lock_pend, noted_ok := hnoted }

theorem reg_inv (st : State) (h : Inv st) (T i n : Nat) (e t : Bool) {st' o} (hs : regStep st T i n e t = some (st', o)) : Inv st' := by
  obtain ⟨_, hr, hcase⟩ := regStep_eq st T i n e t hs
  rcases hcase with ⟨_, rfl, _⟩ | ⟨_, hn, rfl, _⟩
  · exact h
  · obtain ⟨hb, hown, hreg⟩ := base_inv st h
    exact add_inv _ hb T i n e t hown (hreg i hr) hn

theorem unregStep_eq (st : State) (T i : Nat) {st' o} (hs : unregStep st T i = some (st', o)) :
    busy st T = false ∧ st.lock = none ∧ st.reg i = true ∧ st.owner i = T ∧ st.stage i ≠ 1 ∧ st.ownerPid = st.pid ∧
    st' = markSt (remSt st T i) T
      (if st.count (st.sig i) - 1 == 0 then [] else if st.excl i && st.active i then handoff (remSt st T i) T (st.sig i) (st.this i) else []) true ∧
    o = (if st.count (st.sig i) - 1 == 0 then [Out.disp (st.sig i) false] else []) ++
      (if st.count (st.sig i) - 1 == 0 then [] else if st.excl i && st.active i then handoff (remSt st T i) T (st.sig i) (st.this i) else []).map Out.post := by
  unfold unregStep at hs
  cases hb : busy st T <;> cases hl : st.lock <;> simp [hb, hl] at hs
  obtain ⟨⟨⟨⟨h1, h2⟩, h3⟩, h4⟩, h5, h6⟩ := hs
  exact ⟨rfl, rfl, h1, h2, h3, h4, by simpa using h5.symm, by simpa using h6.symm⟩

/-- un-registering `i`: a set that does not hold it, and a set it is erased from, still hold exactly their
registered interests (`Q` is the part of the membership condition that does not change) -/
theorem mem_unreg_of_not_mem (st : State) (i : Nat) (l : List Nat) (Q : Nat → Prop) (hni : i ∉ l)
    (hm : ∀ x, x ∈ l ↔ st.reg x = true ∧ Q x) (x : Nat) : x ∈ l ↔ upd st.reg i false x = true ∧ Q x := by
  rw [upd_apply]
  by_cases hx : x = i
  · subst hx; simp [hni]
  · simp only [hx, if_false]; exact hm x

theorem mem_erase_unreg (st : State) (i : Nat) (l : List Nat) (Q : Nat → Prop) (hs : Sorted st l)
    (hm : ∀ x, x ∈ l ↔ st.reg x = true ∧ Q x) (x : Nat) :
    x ∈ l.erase i ↔ upd st.reg i false x = true ∧ Q x := by
  rw [(sorted_nodup st l hs).mem_erase_iff, hm x, upd_apply]
  by_cases hx : x = i <;> simp [hx]

theorem remSt_eq (st : State) (T i : Nat) :
    remSt st T i = { st with
      proc := (setTree st (st.this i) T ((tree st (st.this i) T).erase i)).proc
      thr := (setTree st (st.this i) T ((tree st (st.this i) T).erase i)).thr
      count := upd st.count (st.sig i) (st.count (st.sig i) - 1)
      disp := if st.count (st.sig i) - 1 == 0 then upd st.disp (st.sig i) false else st.disp
      reg := upd st.reg i false, owed := upd st.owed i false, noted := upd st.noted i false } := by
  unfold remSt
  cases st.this i <;> rfl

theorem rem_inv (st : State) (h : Inv st) (T i : Nat) (hb : busy st T = false) (hl : st.lock = none)
    (hr : st.reg i = true) (ho : st.owner i = T) : Inv (remSt st T i) := by
  have hbb := (busy_false st T).mp hb
  have hnp : ∀ U, i ∉ st.pend U := by
    intro U hi
    rcases (h.pend_reg U i hi).2 with h1 | h1
    · have : U = T := by rw [← ho, h1.2]
      rw [this, hbb.2] at hi; simp at hi
    · rw [hl] at h1; cases h1
  have hc1 := count_pos_of_reg st h i hr
  have hnoted : ∀ x, upd st.reg i false x = true → upd st.noted i false x = true →
      st.active x = true ∧ (upd st.owed i false x = true ∨ st.stage x = 1 ∨ ∃ U, x ∈ st.pend U) := by
    intro x
    simp only [upd_apply]
    by_cases hx : x = i
    · simp [hx]
    · simp only [hx, if_false]; exact h.noted_ok x
  have hpr : ∀ U x, x ∈ st.pend U → upd st.reg i false x = true ∧ ((st.this x = true ∧ st.owner x = U) ∨ st.lock = some U) := by
    intro U x hx
    have : x ≠ i := fun hxi => hnp U (hxi ▸ hx)
    simp only [upd_apply, this, if_false]
    exact h.pend_reg U x hx
  have hfresh : st.ownerPid = 0 → ∀ x, upd st.reg i false x = false := by
    intro h0 x; have := h.fresh h0 i; rw [hr] at this; cases this
  have hrange : ∀ x, upd st.reg i false x = true → st.sig x < NSIG := by
    intro x; simp only [upd_apply]; split
    · intro hh; cases hh
    · exact h.sig_range x
  have ht : Trees (remSt st T i) := trees_setTree st _ (st.this i) T ((tree st (st.this i) T).erase i) rfl rfl fun t' U => by
    rw [remSt_eq]
    obtain ⟨hm, hs⟩ := trees_of_inv h t' U
    split
    · next hc =>
      -- the set `i` is erased from
      have e : tree st (st.this i) T = tree st t' U := by
        obtain ⟨ht, hU⟩ := hc
        rw [ht]; cases t' <;> simp [tree, hU]
      rw [e]
      exact ⟨mem_erase_unreg st i _ _ hs hm, sorted_erase st i _ hs⟩
    · next hc =>
      have hni : i ∉ tree st t' U := fun hi => hc (by
        obtain ⟨_, h1, h2⟩ := (hm i).mp hi
        exact ⟨h1, fun ht => ho.symm.trans (h2 ht)⟩)
      exact ⟨mem_unreg_of_not_mem st i _ _ hni hm, hs⟩
  rw [remSt_eq] at ht ⊢
  obtain ⟨hpm, htm, hps, hts⟩ := (trees_iff _).1 ht
  exact { pid_pos := h.pid_pos, fresh := hfresh
          proc_mem := hpm, thr_mem := htm, proc_sorted := hps, thr_sorted := hts
          count_card := counted_rem hr h.count_card
          disp_count := disp_count_upd h.disp_count _ _ _ false (fun hp => by simpa using hp)
            fun hp => ⟨by omega, by simpa using hp⟩
          sig_range := hrange
          pc_main := h.pc_main, pc_pend := h.pc_pend, pend_main := h.pend_main
          pend_reg := hpr, lock_pend := h.lock_pend, noted_ok := hnoted }

theorem handoff_reg (r : State) (hr : Inv r) (T n : Nat) (isThis : Bool) (j : Nat) (hj : j ∈ handoff r T n isThis) :
    r.reg j = true := by
  simp only [handoff] at hj
  split at hj
  · exact (wake_mem r hr false 0 n j hj).1
  · exact (wake_mem r hr isThis T n j hj).1

theorem unreg_inv (st : State) (h : Inv st) (T i : Nat) {st' o} (hs : unregStep st T i = some (st', o)) : Inv st' := by
  obtain ⟨hb, hl, hr, ho, _, hown, rfl, _⟩ := unregStep_eq st T i hs
  have hri := rem_inv st h T i hb hl hr ho
  have hbb := (busy_false st T).mp hb
  refine inv_mark (remSt st T i) hri T _ true (remSt st T i).pc (hpend := ?_) (hpc1 := fun _ _ => rfl) (hpc2 := ?_)
    (hmain := fun _ => ?_) (hps := ?_) (hlock := fun _ => ?_)
  · simp [remSt_eq, hbb.2]
  · intro m hm
    have : (remSt st T i).pc T = st.pc T := by simp [remSt_eq]
    rw [this, hbb.1] at hm; cases hm
  · simp [remSt_eq, hown]
  · intro j hj
    refine ⟨?_, Or.inr rfl⟩
    split at hj
    · simp at hj
    · split at hj
      · exact handoff_reg _ hri T _ _ j hj
      · simp at hj
  · simp [remSt_eq, hl]

theorem step_inv (st : State) (h : Inv st) (a : Action) {st' o} (hs : step st a = some (st', o)) : Inv st' := by
  cases a with
  | reg T i n e t => exact reg_inv st h T i n e t hs
  | unreg T i => exact unreg_inv st h T i hs
  | sigThread T n => exact sigThread_inv st h T n hs
  | sigProc T => exact sigProc_inv st h T hs
  | evRead i => exact evRead_inv st h i hs
  | evClear i => exact evClear_inv st h i hs
  | evEnd i => exact evEnd_inv st h i hs
  | posted T => exact posted_inv st h T hs
  | fork p => exact fork_inv st h p hs

theorem init_inv (pid : Nat) (hp : pid ≠ 0) : Inv (State.init pid) := by
  constructor <;> simp [State.init, InProc, InThr, Sorted, hp]
  exact ⟨[], by simp⟩

theorem run_cons {st : State} {a : Action} {as : List Action} {st' o} (hr : run st (a :: as) = some (st', o)) :
    ∃ st1 o1 o2, step st a = some (st1, o1) ∧ run st1 as = some (st', o2) ∧ o = o1 ++ o2 := by
  simp only [run] at hr
  split at hr
  · cases hr
  · split at hr
    · cases hr
    · cases hr; exact ⟨_, _, _, ‹_›, ‹_›, rfl⟩

theorem run_inv (st : State) (h : Inv st) (as : List Action) {st' o} (hr : run st as = some (st', o)) : Inv st' := by
  induction as generalizing st o with
  | nil => cases hr; exact h
  | cons a as ih =>
    obtain ⟨st1, o1, o2, hs, hr2, _⟩ := run_cons hr
    exact ih st1 (step_inv st h a hs) hr2

theorem posts_map (ps : List Nat) : posts (ps.map Out.post) = ps := by
  induction ps with
  | nil => rfl
  | cons a tl ih => simp [posts, ih]

theorem posts_append (a b : List Out) : posts (a ++ b) = posts a ++ posts b := by
  induction a with
  | nil => rfl
  | cons x tl ih => cases x <;> simp [posts, ih]

theorem selected_congr {P Q : Nat → Prop} (hm : ∀ i, P i ↔ Q i) (st : State) (n i : Nat) :
    Selected P st n i ↔ Selected Q st n i := by
  simp only [Selected, hm]

theorem wake_thr_spec (st : State) (h : Inv st) (T n i : Nat) :
    i ∈ wake st (st.thr T) n ↔ Selected (InThr st T) st n i := by
  rw [wake_spec st n _ (h.thr_sorted T), selected_congr (h.thr_mem T)]

theorem wake_proc_spec (st : State) (h : Inv st) (n i : Nat) :
    i ∈ wake st st.proc n ↔ Selected (InProc st) st n i := by
  rw [wake_spec st n _ h.proc_sorted, selected_congr h.proc_mem]

theorem wake_nodup (st : State) (l : List Nat) (n : Nat) (hs : Sorted st l) : (wake st l n).Nodup :=
  (wake_sublist st l n).nodup (sorted_nodup st l hs)

theorem wake_nonempty (st : State) (n : Nat) (l : List Nat) (hs : Sorted st l) (hex : ∃ j, j ∈ l ∧ st.sig j = n) :
    wake st l n ≠ [] := by
  induction l with
  | nil => obtain ⟨j, hj, _⟩ := hex; cases hj
  | cons a tl ih =>
    obtain ⟨hlt, hs'⟩ := List.pairwise_cons.1 hs
    obtain ⟨j, hj, hjn⟩ := hex
    unfold wake
    rw [findFirst_cons]
    split
    · next h1 =>
      refine ih hs' ?_
      rcases List.mem_cons.mp hj with rfl | hj
      · omega
      · exact ⟨j, hj, hjn⟩
    · next h1 =>
      -- the set is sorted by signal number, so it cannot start beyond `n`
      have h2 : st.sig a = n := by
        rcases List.mem_cons.mp hj with rfl | hj
        · exact hjn
        · have := (less_iff st a j).mp (hlt j hj)
          omega
      rw [if_pos h2]
      unfold walk
      cases st.excl a <;> simp [h2]

theorem wake_thr_empty_iff (st : State) (h : Inv st) (T n : Nat) : wake st (st.thr T) n = [] ↔ ¬ HasThr st T n := by
  constructor
  · intro he ⟨j, hj, hjn⟩
    exact wake_nonempty st n _ (h.thr_sorted T) ⟨j, (h.thr_mem T j).mpr hj, hjn⟩ he
  · intro hn
    cases hw : wake st (st.thr T) n with
    | nil => rfl
    | cons a tl =>
      exfalso
      have ha : a ∈ wake st (st.thr T) n := by rw [hw]; simp
      have := (wake_thr_spec st h T n a).mp ha
      exact hn ⟨a, this.1, this.2.1⟩

theorem sel_congr (P : Nat → Prop) (st st' : State) (e1 : st'.sig = st.sig) (e2 : st'.excl = st.excl) (n i : Nat) :
    Selected P st' n i ↔ Selected P st n i := by
  unfold Selected; rw [e1, e2]

theorem fanout_of_has {st : State} {T n : Nat} (hh : HasThr st T n) (i : Nat) :
    Fanout st T n i ↔ Selected (InThr st T) st n i :=
  ⟨fun h => h.elim (·.2) (fun h => absurd hh h.1), fun h => .inl ⟨hh, h⟩⟩

theorem fanout_of_not {st : State} {T n : Nat} (hh : ¬ HasThr st T n) (i : Nat) :
    Fanout st T n i ↔ Selected (InProc st) st n i :=
  ⟨fun h => h.elim (fun h => absurd h.1 hh) (·.2), fun h => .inr ⟨hh, h⟩⟩

theorem fanout_spec_thread (st : State) (h : Inv st) (T n : Nat) (hp : st.ownerPid = st.pid) {st' o}
    (hs : step st (.sigThread T n) = some (st', o)) :
    (∀ i, i ∈ posts o ↔ Selected (InThr st T) st n i) ∧ (posts o).Nodup ∧ o = (posts o).map Out.post ∧
    (st'.pc T = some n ↔ ¬ HasThr st T n) ∧ (HasThr st T n → st'.pc T = none) ∧ st'.pend T = posts o ∧
    (∀ i, i ∈ posts o → st'.active i = true ∧ st'.noted i = true) ∧
    (¬ HasThr st T n → st' = { st with pc := upd st.pc T (some n) }) := by
  have hemp := wake_thr_empty_iff st h T n
  obtain ⟨hpc, hpe, ⟨hc, _⟩ | ⟨_, ⟨hps, rfl, rfl⟩ | ⟨hne, rfl, rfl⟩⟩⟩ := sigThreadStep_eq hs
  · exact absurd ⟨hp ▸ h.pid_pos, hp⟩ hc
  · have hno := hemp.mp hps
    refine ⟨fun i => ?_, by simp [posts], by simp [posts], by simp [hno], fun hh => absurd hh hno, by simp [posts, hpe],
      by simp [posts], fun _ => rfl⟩
    rw [← wake_thr_spec st h T n i, hps]; simp [posts]
  · have hhas : HasThr st T n := Classical.not_not.1 fun hh => hne (hemp.mpr hh)
    rw [posts_map]
    refine ⟨fun i => wake_thr_spec st h T n i, wake_nodup st _ n (h.thr_sorted T), rfl, ?_, fun _ => ?_, ?_, ?_,
      fun hh => absurd hhas hh⟩
    · simp [markSt, hpc, hhas]
    · simp [markSt, hpc]
    · simp [markSt]
    · intro i hi; simp [markSt, setAll_apply, hi]

/-- second half of the handler: the process-wide set, whatever happened in between -/
theorem fanout_spec_process (st : State) (h : Inv st) (T n : Nat) (hpc : st.pc T = some n) {st' o}
    (hs : step st (.sigProc T) = some (st', o)) :
    (∀ i, i ∈ posts o ↔ Selected (InProc st) st n i) ∧ (posts o).Nodup ∧ o = (posts o).map Out.post ∧
    st'.pc T = none ∧ st'.pend T = posts o ∧ (posts o ≠ [] → st'.lock = some T) ∧
    (∀ i, i ∈ posts o → st'.active i = true ∧ st'.noted i = true) := by
  obtain ⟨m, hm, _, _, rfl, rfl⟩ := sigProcStep_eq hs
  cases hpc.symm.trans hm
  rw [posts_map]
  refine ⟨fun i => wake_proc_spec st h n i, wake_nodup st _ n h.proc_sorted, rfl, by simp [markSt], by simp [markSt], ?_, ?_⟩
  · intro hne
    have : (wake st st.proc n).isEmpty = false := by simpa using hne
    simp [markSt, this]
  · intro i hi; simp [markSt, setAll_apply, hi]

theorem handoff_spec (r : State) (hr : Inv r) (T n : Nat) (isThis : Bool) (j : Nat) :
    j ∈ handoff r T n isThis ↔ (if isThis then Fanout r T n j else Selected (InProc r) r n j) := by
  unfold handoff
  cases isThis
  · simp [tree]; exact wake_proc_spec r hr n j
  · simp only [tree, if_true, Bool.and_true]
    have hemp := wake_thr_empty_iff r hr T n
    split
    · next he => rw [wake_proc_spec r hr n j, fanout_of_not (hemp.mp (List.isEmpty_iff.mp he))]
    · next he =>
      rw [wake_thr_spec r hr T n j, fanout_of_has (Classical.not_not.1 fun hh => he (by simp [hemp.mpr hh]))]

theorem handoff_nodup (r : State) (hr : Inv r) (T n : Nat) (isThis : Bool) : (handoff r T n isThis).Nodup := by
  simp only [handoff]
  split
  · exact wake_nodup r _ n hr.proc_sorted
  · exact wake_nodup r _ n (trees_of_inv hr isThis T).2

theorem handoff_on_unregister (st : State) (h : Inv st) (T i : Nat) {st' o}
    (hs : step st (.unreg T i) = some (st', o))
    (hex : st.excl i = true) (hact : st.active i = true) (hmore : st.count (st.sig i) ≠ 1) :
    (∀ j, j ∈ posts o ↔ (if st.this i then Fanout st' T (st.sig i) j else Selected (InProc st') st' (st.sig i) j)) ∧
    (posts o).Nodup ∧ o = (posts o).map Out.post ∧ st'.pend T = posts o ∧
    (∀ j, j ∈ posts o → st'.active j = true ∧ st'.noted j = true ∧ st'.reg j = true) := by
  simp only [step] at hs
  obtain ⟨hb, hl, hr, ho, _, hown, rfl, rfl⟩ := unregStep_eq st T i hs
  have hri := rem_inv st h T i hb hl hr ho
  have hc1 := count_pos_of_reg st h i hr
  have hc : (st.count (st.sig i) - 1 == 0) = false := by simp; omega
  simp only [hc, hex, hact, Bool.and_self, Bool.false_eq_true, if_false, if_true, List.nil_append, posts_map]
  refine ⟨fun j => ?_, handoff_nodup _ hri T _ _, by simp, by simp [markSt], fun j hj => ?_⟩
  · obtain ⟨e1, e2, e3⟩ := markSt_rule (remSt st T i) T (handoff (remSt st T i) T (st.sig i) (st.this i)) true
    rw [handoff_spec _ hri T _ _ j, e1, e2, e3]
  · refine ⟨by simp [markSt, setAll_apply, hj], by simp [markSt, setAll_apply, hj], ?_⟩
    exact handoff_reg _ hri T _ _ j hj

/-- a noted delivery implies the `active` flag, the condition under which `iv_signal_unregister` hands an exclusive
interest's delivery on (`handoff_on_unregister` assumes `active`) -/
theorem noted_active (st : State) (h : Inv st) (i : Nat) (hr : st.reg i = true) (hn : st.noted i = true) :
    st.active i = true := (h.noted_ok i hr hn).1

theorem default_restored (st : State) (h : Inv st) (n : Nat) :
    (st.disp n = false ↔ st.count n = 0) ∧ (st.count n = 0 ↔ ∀ i, st.reg i = true → st.sig i ≠ n) := by
  refine ⟨?_, count_zero_iff st h n⟩
  have := h.disp_count n
  cases hd : st.disp n <;> simp [hd] at this ⊢ <;> exact this

theorem default_restored_step (st : State) (h : Inv st) (T i : Nat) {st' o} (hs : step st (.unreg T i) = some (st', o)) :
    (Out.disp (st.sig i) false ∈ o ↔ ∀ j, st.reg j = true → j ≠ i → st.sig j ≠ st.sig i) ∧
    (∀ m b, Out.disp m b ∈ o → m = st.sig i ∧ b = false) := by
  simp only [step] at hs
  obtain ⟨hb, hl, hr, ho, _, hown, rfl, rfl⟩ := unregStep_eq st T i hs
  have hri := rem_inv st h T i hb hl hr ho
  have hz := count_zero_iff _ hri (st.sig i)
  have hreg : ∀ j, upd st.reg i false j = true ↔ (st.reg j = true ∧ j ≠ i) := fun j => by
    by_cases hj : j = i <;> simp [upd_apply, hj]
  simp only [remSt_eq, upd_same] at hz
  constructor
  · by_cases hc : st.count (st.sig i) - 1 = 0
    · simp only [hc, beq_self_eq_true, if_true, List.map_nil, List.append_nil, List.mem_singleton, true_iff]
      intro j hj hji; exact hz.mp hc j ((hreg j).mpr ⟨hj, hji⟩)
    · have hc' : (st.count (st.sig i) - 1 == 0) = false := by simpa using hc
      simp only [hc', Bool.false_eq_true, if_false, List.nil_append, List.mem_map, reduceCtorEq, and_false, exists_false, false_iff]
      intro hh; exact hc (hz.mpr (fun j hj => hh j ((hreg j).mp hj).1 ((hreg j).mp hj).2))
  · intro m b hmb
    simp only [List.mem_append, List.mem_map] at hmb
    rcases hmb with hmb | ⟨x, _, hx⟩
    · split at hmb
      · simp at hmb; exact hmb
      · simp at hmb
    · cases hx

theorem child_is_silent (st : State) (T n : Nat) (hp : st.ownerPid ≠ st.pid) {st' o}
    (hs : step st (.sigThread T n) = some (st', o)) : st' = st ∧ o = [] := by
  obtain ⟨_, _, ⟨_, h⟩ | ⟨h, _⟩⟩ := sigThreadStep_eq hs
  · exact h
  · exact absurd h hp

def handlerAction : Action → Bool
  | .sigThread _ _ => true
  | .sigProc _ => true
  | .posted _ => true
  | _ => false

theorem child_is_silent_run (st : State) (h : Inv st) (hp : st.ownerPid ≠ st.pid) (as : List Action)
    (hall : ∀ a, a ∈ as → handlerAction a = true) {st' o} (hr : run st as = some (st', o)) : st' = st ∧ o = [] := by
  induction as generalizing o with
  | nil => cases hr; exact ⟨rfl, rfl⟩
  | cons a as ih =>
    obtain ⟨st1, o1, o2, hs, hr2, rfl⟩ := run_cons hr
    have ha := hall a (by simp)
    have hstep : st1 = st ∧ o1 = [] := by
      cases a with
      | sigThread T n => exact child_is_silent st T n hp hs
      | sigProc T =>
        obtain ⟨m, hpc, _⟩ := sigProcStep_eq hs
        exact absurd (h.pc_main T m hpc) hp
      | posted T =>
        obtain ⟨x, r, hpe, _⟩ := postedStep_eq hs
        exact absurd (h.pend_main T (by rw [hpe]; simp)) hp
      | _ => simp [handlerAction] at ha
    obtain ⟨rfl, rfl⟩ := hstep
    exact ih (fun a ha => hall a (List.mem_cons_of_mem _ ha)) hr2

theorem oblig_step (st : State) (h : Inv st) (i : Nat) (ho : Oblig st i) (a : Action) (hc : consumes i a = false)
    {st' o} (hs : step st a = some (st', o)) : Oblig st' i := by
  obtain ⟨hown, hr, hob⟩ := ho
  cases a with
  | reg T j n e t =>
    simp only [step] at hs
    obtain ⟨hb, hrj, hcase⟩ := regStep_eq st T j n e t hs
    rcases hcase with ⟨_, rfl, _⟩ | ⟨hl, hn, rfl, _⟩
    · exact ⟨hown, hr, hob⟩
    · have hji : i ≠ j := by intro hij; rw [hij, hrj] at hr; cases hr
      rw [baseSt_self hown, addSt_eq]
      simpa [Oblig, add3, upd_apply, hji, hown, hr] using hob
  | unreg T j =>
    simp only [step] at hs
    obtain ⟨hb, hl, hrj, hoj, _, _, rfl, _⟩ := unregStep_eq st T j hs
    have hji : i ≠ j := by intro hij; simp [consumes, hij] at hc
    have hbb := (busy_false st T).mp hb
    have hrp : (remSt st T j).pend = st.pend := by simp [remSt_eq]
    refine ⟨by simp [markSt, remSt_eq, hown],
            by simp [markSt, remSt_eq, upd_apply, hji, hr], ?_⟩
    rcases hob with h1 | h1
    · left; simp [markSt, remSt_eq, upd_apply, hji, h1]
    · right; exact markSt_pend_mem _ T _ true (by rw [hrp]; exact hbb.2) i (by rw [hrp]; exact h1)
  | sigThread T n =>
    obtain ⟨_, hpe, ⟨_, rfl, _⟩ | ⟨_, ⟨_, rfl, _⟩ | ⟨_, rfl, _⟩⟩⟩ := sigThreadStep_eq hs
    · exact ⟨hown, hr, hob⟩
    · exact ⟨hown, hr, hob⟩
    · exact ⟨hown, hr, hob.imp_right (markSt_pend_mem st T _ false hpe i)⟩
  | sigProc T =>
    obtain ⟨n, _, _, hpe, rfl, _⟩ := sigProcStep_eq hs
    exact ⟨hown, hr, hob.imp_right (markSt_pend_mem { st with pc := upd st.pc T none } T _ true hpe i)⟩
  | posted T =>
    obtain ⟨x, rest, hp, _, _, rfl⟩ := postedStep_eq hs
    refine ⟨hown, hr, ?_⟩
    by_cases hix : i = x
    · left; simp [hix]
    · exact hob.imp (fun h1 => by simp [upd_apply, hix, h1]) (pend_tail_mem hp hix)
  | evRead j =>
    have hji : i ≠ j := by intro hij; simp [consumes, hij] at hc
    obtain ⟨_, hs⟩ := Option.ite_none_right_eq_some.1 hs
    cases hs
    exact ⟨hown, hr, hob.imp_left fun h1 => by simp [upd_apply, hji, h1]⟩
  | evClear j =>
    obtain ⟨_, hs⟩ := Option.ite_none_right_eq_some.1 hs
    cases hs
    exact ⟨hown, hr, hob⟩
  | evEnd j =>
    obtain ⟨_, hs⟩ := Option.ite_none_right_eq_some.1 hs
    cases hs
    exact ⟨hown, hr, hob⟩
  | fork p => simp [consumes] at hc

theorem oblig_run (st : State) (h : Inv st) (i : Nat) (ho : Oblig st i) (as : List Action)
    (hc : ∀ a, a ∈ as → consumes i a = false) {st' o} (hr : run st as = some (st', o)) : Oblig st' i := by
  induction as generalizing st o with
  | nil => cases hr; exact ho
  | cons a as ih =>
    obtain ⟨st1, o1, o2, hs, hr2, _⟩ := run_cons hr
    exact ih st1 (step_inv st h a hs) (oblig_step st h i ho a (hc a (by simp)) hs)
      (fun a ha => hc a (List.mem_cons_of_mem _ ha)) hr2

theorem delivery_oblig (st : State) (h : Inv st) (i : Nat) (d : Action) (hd : d.isDelivery = true) {st1 o1}
    (hs : step st d = some (st1, o1)) (hp : i ∈ posts o1) :
    Oblig st1 i ∧ st1.active i = true ∧ st1.noted i = true := by
  have hi1 := step_inv st h d hs
  -- a post that thread `T` still has to write is an obligation in the owner process
  have key : ∀ T, i ∈ st1.pend T → Oblig st1 i := fun T hpe =>
    ⟨hi1.pend_main T (by intro he; rw [he] at hpe; cases hpe), (hi1.pend_reg T i hpe).1, Or.inr ⟨T, hpe⟩⟩
  cases d with
  | sigThread T n =>
    have hown : st.ownerPid = st.pid := by
      by_cases hh : st.ownerPid = st.pid
      · exact hh
      · have := child_is_silent st T n hh hs; rw [this.2] at hp; simp [posts] at hp
    obtain ⟨_, _, _, _, _, hpend, hact, _⟩ := fanout_spec_thread st h T n hown hs
    exact ⟨key T (hpend ▸ hp), hact i hp⟩
  | sigProc T =>
    cases hpc : st.pc T with
    | none => simp [step, sigProcStep, hpc] at hs
    | some n =>
      obtain ⟨_, _, _, _, hpend, _, hact⟩ := fanout_spec_process st h T n hpc hs
      exact ⟨key T (hpend ▸ hp), hact i hp⟩
  | _ => simp [Action.isDelivery] at hd

theorem evRead_enabled (st : State) (i : Nat) (hr : st.reg i = true) (ho : st.owed i = true) (hs : st.stage i = 0)
    (hb : busy st (st.owner i) = false) : ∃ st', step st (.evRead i) = some (st', []) := by
  simp [step, hr, ho, hs, hb]

theorem fanout_spec (st : State) (h : Inv st) (T n : Nat) (hp : st.ownerPid = st.pid) {st1 o1}
    (h1 : step st (.sigThread T n) = some (st1, o1)) :
    (HasThr st T n → st1.pc T = none ∧ ∀ i, i ∈ posts o1 ↔ Fanout st T n i) ∧
    (¬ HasThr st T n → o1 = [] ∧ st1.pc T = some n ∧
      ∀ {st2 o2}, step st1 (.sigProc T) = some (st2, o2) → ∀ i, i ∈ posts o2 ↔ Fanout st T n i) := by
  obtain ⟨hsel, _, hout, hpcIff, hpcNone, _, _, hst1⟩ := fanout_spec_thread st h T n hp h1
  have hi1 := step_inv st h _ h1
  refine ⟨fun hhas => ⟨hpcNone hhas, fun i => by rw [hsel i, fanout_of_has hhas]⟩, fun hno => ?_⟩
  have hpnil : posts o1 = [] :=
    List.eq_nil_iff_forall_not_mem.mpr fun i hi => hno ⟨i, ((hsel i).mp hi).1, ((hsel i).mp hi).2.1⟩
  have hpc := hpcIff.mpr hno
  refine ⟨by rw [hout, hpnil]; rfl, hpc, fun {st2 o2} h2 i => ?_⟩
  rw [(fanout_spec_process st1 hi1 T n hpc h2).1 i, fanout_of_not hno, hst1 hno]
  exact Iff.rfl

theorem redelivery_during_handler (st : State) (h : Inv st) (i : Nat) (d : Action) (hd : d.isDelivery = true)
    {st1 o1} (hs : step st d = some (st1, o1)) (hp : i ∈ posts o1)
    (as : List Action) (hc : ∀ a, a ∈ as → consumes i a = false) {st2 o2} (hr : run st1 as = some (st2, o2)) :
    st1.active i = true ∧ st1.noted i = true ∧ Oblig st1 i ∧ Oblig st2 i ∧
    (st2.owed i = true → st2.stage i = 0 → busy st2 (st2.owner i) = false →
      ∃ st3, step st2 (.evRead i) = some (st3, [])) := by
  obtain ⟨hob1, hact, hnoted⟩ := delivery_oblig st h i d hd hs hp
  have ho2 := oblig_run st1 (step_inv st h d hs) i hob1 as hc hr
  exact ⟨hact, hnoted, hob1, ho2, fun ho hst hb => evRead_enabled st2 i ho2.2.1 ho hst hb⟩

end Proofs
end Ivy.Signal
