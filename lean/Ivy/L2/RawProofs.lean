import Ivy.L2.RawSpec
/-!
Proofs for C09 (see `Ivy/Props/C09.lean` for the statements): the registration chain (`grab_latch` … `doRegister_spec`) and
`read_spec`; the invariant through the parts of a step (`inv_register` … `inv_handlerEnd`); `Step`, what an action does in a
state with the invariant (its guards and its result written out, no branch for `iv_fatal` or EINVAL), with `Inv.step`, on
which `step_inv`, `abs_refines` and the C09 theorems argue by cases; then reachability and the enabledness theorems.
-/
namespace Ivy.Raw.Proofs
open Ivy.Raw

theorem grab_latch (cfg : Cfg) (iu : Nat) (h : iu = 2 ∨ iu = settle cfg) (h0 : iu ≠ 0) :
    (grab cfg iu).2 = settle cfg ∧ ((grab cfg iu).1 = none ↔ settle cfg = 0) ∧
    (∀ nb, (grab cfg iu).1 = some nb → (nb = true ↔ settle cfg = 2)) := by
  unfold grab settle at *
  cases h2 : cfg.has2 <;> cases h1 : cfg.has1 <;> simp_all <;> rcases h with h | h <;> simp_all

theorem create_spec (cfg : Cfg) (iu : Nat) (h : iu = 2 ∨ iu = settle cfg) :
    (registerCreate cfg iu).2 = settle cfg ∧
    (registerCreate cfg iu).1.isPipe = (settle cfg == 0) ∧
    (registerCreate cfg iu).1.content = 0 ∧
    ((registerCreate cfg iu).1.isPipe = true → (registerCreate cfg iu).1.cap = cfg.cap) := by
  unfold registerCreate
  by_cases h0 : iu = 0
  · have : settle cfg = 0 := by rcases h with h | h <;> omega
    simp [h0, this, KObj.mkPipe]
  · have g := grab_latch cfg iu h h0
    simp only [h0, ne_eq, not_false_eq_true, if_true]
    cases hg : (grab cfg iu).1 with
    | none => simp [g.1, g.2.1.mp hg, KObj.mkPipe]
    | some nb =>
      have : settle cfg ≠ 0 := fun h' => by have := g.2.1.mpr h'; simp [hg] at this
      simp [g.1, this, KObj.mkCounter]

theorem flags_spec (k : KObj) (iu : Nat) (hk : k.isPipe = (iu == 0)) :
    (registerFlags k iu).nbR = true ∧ (registerFlags k iu).nbW = true ∧
    (registerFlags k iu).isPipe = k.isPipe ∧ (registerFlags k iu).content = k.content ∧
    (registerFlags k iu).cap = k.cap := by
  unfold registerFlags KObj.setNonblockR KObj.setNonblockW
  by_cases h0 : iu = 0 <;> cases hp : k.isPipe <;> simp_all

theorem init_inv (cfg : Cfg) : Inv cfg St.init := by
  constructor <;> simp [St.init, drainedFlag]


theorem times_tick {cfg : Cfg} {s : St} (h : Inv cfg s) : ∀ p ∈ s.posts, p.tb ≤ p.tw ∧ p.tw < s.now + 1 :=
  fun p hp => by have := h.times p hp; omega

theorem flightT_tick {cfg : Cfg} {s : St} (h : Inv cfg s) : ∀ f ∈ s.flights, f.tb ≤ s.now + 1 :=
  fun f hf => by have := h.flightT f hf; omega

theorem hstarts_le {cfg : Cfg} {s : St} (h : Inv cfg s) (hr : s.registered = true) : s.hstarts.length ≤ s.ndrained :=
  Nat.le_trans (Nat.le_add_right _ _) (h.handlers hr)

theorem hstarts_lt {cfg : Cfg} {s : St} (h : Inv cfg s) (hr : s.registered = true) (hpc : s.pc = .drained) :
    s.hstarts.length + 1 ≤ s.ndrained := by
  have := h.handlers hr
  rwa [drainedFlag, if_pos hpc] at this

theorem doRegister_spec {cfg : Cfg} {s : St} (h : Inv cfg s) :
    (doRegister cfg s).inUse = settle cfg ∧ (doRegister cfg s).k.isPipe = (settle cfg == 0) ∧
    (doRegister cfg s).k.content = 0 ∧ (doRegister cfg s).k.nbR = true ∧ (doRegister cfg s).k.nbW = true ∧
    ((doRegister cfg s).k.isPipe = true → (doRegister cfg s).k.cap = cfg.cap) := by
  obtain ⟨c1, c2, c3, c4⟩ := create_spec cfg s.inUse h.latch
  obtain ⟨f1, f2, f3, f4, f5⟩ :=
    flags_spec (registerCreate cfg s.inUse).1 (registerCreate cfg s.inUse).2 (by rw [c2, c1])
  exact ⟨c1, f3.trans c2, f4.trans c3, f1, f2, fun hp => f5.trans (c4 (f3 ▸ hp))⟩

theorem inv_register {cfg : Cfg} {s : St} (hwf : cfg.wf) (h : Inv cfg s) (hp : s.pc ≠ .drained) :
    Inv cfg (tick (doRegister cfg s)) := by
  obtain ⟨hi, hk, hc, hr, hw, hcap⟩ := doRegister_spec h
  exact { h with
    latch := .inr hi, latch_reg := fun _ => hi
    kind := fun _ => hk.trans (by rw [← hi]; rfl)
    nonblock := fun _ => ⟨hr, hw⟩
    boundP := fun _ hpipe => by
      show (doRegister cfg s).k.content ≤ (doRegister cfg s).k.cap ∧ 0 < (doRegister cfg s).k.cap
      rw [hc, hcap hpipe]; exact ⟨Nat.zero_le _, hwf⟩
    boundC := fun _ _ => by show (doRegister cfg s).k.content ≤ _; rw [hc]; exact Nat.zero_le _
    times := fun _ hp' => (nomatch hp'), flightT := flightT_tick h, results := fun _ hp' => (nomatch hp')
    account := fun _ => by show (doRegister cfg s).k.content + 0 = 0; rw [hc]
    handlers := fun _ => by simp [tick, doRegister, drainedFlag, hp]
    covered := fun _ _ _ _ hp' => (nomatch hp') }

theorem grab_elsewhere_latch (cfg : Cfg) (iu : Nat) (h : iu = 2 ∨ iu = settle cfg) :
    (if iu ≠ 0 then (grab cfg iu).2 else 0) = settle cfg := by
  by_cases h0 : iu = 0
  · have : settle cfg = 0 := by rcases h with h | h <;> omega
    simp [h0, this]
  · simp [h0, (grab_latch cfg iu h h0).1]

theorem inv_grabElsewhere {cfg : Cfg} {s : St} (h : Inv cfg s) :
    Inv cfg (tick { s with inUse := if s.inUse ≠ 0 then (grab cfg s.inUse).2 else 0 }) := by
  have g := grab_elsewhere_latch cfg s.inUse h.latch
  refine { h with latch := .inr g, latch_reg := fun _ => g, kind := fun hr => ?_,
                  times := times_tick h, flightT := flightT_tick h }
  show s.k.isPipe = ((if s.inUse ≠ 0 then (grab cfg s.inUse).2 else 0) == 0)
  rw [g, ← h.latch_reg hr]; exact h.kind hr

theorem inv_unregister {cfg : Cfg} {s : St} (h : Inv cfg s) :
    Inv cfg (tick { s with registered := false }) :=
  { h with latch_reg := nofun, kind := nofun, nonblock := nofun, boundP := nofun, boundC := nofun,
           times := times_tick h, flightT := flightT_tick h, account := nofun, handlers := nofun, covered := nofun }

theorem inv_postBegin {cfg : Cfg} {s : St} (h : Inv cfg s) (pid : Nat) :
    Inv cfg (tick { s with flights := { pid := pid, epoch := s.epoch, tb := s.now } :: s.flights }) :=
  { h with times := times_tick h,
           flightT := fun f hf => by
             rcases List.mem_cons.mp hf with rfl | hf
             · exact Nat.le_succ _
             · exact flightT_tick h f hf }

theorem writeOk_eq {k k' : KObj} {iu : Nat} (hk : k.isPipe = (iu == 0)) (h : k.writeOk (wsize iu) = some k') :
    k' = { k with content := k.content + 1 } ∧
    (k.isPipe = true → k.content + 1 ≤ k.cap) ∧ (k.isPipe = false → k.content < counterMax) := by
  unfold KObj.writeOk wsize at h
  by_cases h0 : iu = 0 <;> simp [hk, h0] at h <;> obtain ⟨hc, rfl⟩ := h <;> simp_all

theorem eagain_nonzero {k : KObj} {size : Nat} (h : k.eagainAllowed size = true) : k.content ≠ 0 := by
  unfold KObj.eagainAllowed at h
  cases hp : k.isPipe <;> simp [hp, counterMax] at h <;> omega

theorem einval_impossible {k : KObj} {iu : Nat} (hk : k.isPipe = (iu == 0)) : k.einvalAllowed (wsize iu) = false := by
  unfold KObj.einvalAllowed wsize
  by_cases h0 : iu = 0 <;> simp_all

theorem mem_dropFlight {l : List Flight} {pid : Nat} {f : Flight} (h : f ∈ dropFlight l pid) : f ∈ l := by
  unfold dropFlight at h; exact (List.mem_filter.mp h).1

theorem findFlight_mem {l : List Flight} {pid : Nat} {f : Flight} (h : findFlight l pid = some f) : f ∈ l ∧ f.pid = pid := by
  unfold findFlight at h
  exact ⟨List.mem_of_find?_eq_some h, by simpa using List.find?_some h⟩

/-- a write that completed a post of the current registration and left the descriptor readable, with `c` in it -/
theorem inv_post_done {cfg : Cfg} {s : St} (h : Inv cfg s) {f : Flight} (hf : f ∈ s.flights)
    (res : WRes) (hres : res = .ok ∨ res = .eagain) (c okc : Nat)
    (hne : c ≠ 0) (hacc : c + s.ndrained = s.nok + okc)
    (hbP : s.k.isPipe = true → c ≤ s.k.cap) (hbC : s.k.isPipe = false → c ≤ counterMax) :
    Inv cfg (tick (postDone s f res { s.k with content := c } okc)) :=
  { h with
    boundP := fun hr hp => ⟨hbP hp, (h.boundP hr hp).2⟩
    boundC := fun _ hp => hbC hp
    times := fun p hp => by
      rcases List.mem_cons.mp hp with rfl | hp
      · exact ⟨h.flightT f hf, Nat.lt_succ_self _⟩
      · exact times_tick h p hp
    flightT := fun g hg => flightT_tick h g (mem_dropFlight hg)
    results := fun p hp => by
      rcases List.mem_cons.mp hp with rfl | hp
      · exact hres
      · exact h.results p hp
    account := fun _ => hacc
    covered := fun _ hc => absurd hc hne }

theorem inv_tick_flights {cfg : Cfg} {s : St} (h : Inv cfg s) (l : List Flight) (hl : ∀ f ∈ l, f ∈ s.flights) :
    Inv cfg (tick { s with flights := l }) :=
  { h with times := times_tick h, flightT := fun f hf => flightT_tick h f (hl f hf) }

theorem inv_tick {cfg : Cfg} {s : St} (h : Inv cfg s) : Inv cfg (tick s) :=
  inv_tick_flights h s.flights (fun _ hf => hf)

theorem stale_false {s : St} {f : Flight} (h : stale s f = false) : s.registered = true ∧ f.epoch = s.epoch := by
  unfold stale at h
  cases hreg : s.registered <;> simp_all

theorem read_spec {cfg : Cfg} {s : St} (h : Inv cfg s) (hr : s.registered = true) :
    (s.k.content = 0 → s.k.read (toread s.inUse) = some (.eagain, s.k)) ∧
    (s.k.content ≠ 0 → ∃ ret taken, 0 < ret ∧ 0 < taken ∧ taken ≤ s.k.content ∧ (s.k.isPipe = false → taken = s.k.content) ∧
        s.k.read (toread s.inUse) = some (.data ret taken, { s.k with content := s.k.content - taken })) := by
  have hk := h.kind hr
  have hnb := (h.nonblock hr).1
  unfold KObj.read toread
  by_cases h0 : s.inUse = 0
  · have hp : s.k.isPipe = true := by simp [hk, h0]
    refine ⟨fun hc => by simp [hp, h0, hc, hnb], fun hc => ⟨min s.k.content 1024, min s.k.content 1024, ?_⟩⟩
    simp [hp, h0, hc]; omega
  · have hp : s.k.isPipe = false := by simp [hk, h0]
    refine ⟨fun hc => by simp [hp, h0, hc, hnb], fun hc => ⟨8, s.k.content, ?_⟩⟩
    simp [hp, h0, hc]; omega

theorem inv_ownerRead {cfg : Cfg} {s : St} (h : Inv cfg s) {taken : Nat} (htk : 0 < taken) (hle : taken ≤ s.k.content) :
    Inv cfg (tick { s with k := { s.k with content := s.k.content - taken }, pc := .drained, ndrained := s.ndrained + taken }) :=
  { h with
    boundP := fun hr hp => by
      have := h.boundP hr hp
      exact ⟨Nat.le_trans (Nat.sub_le _ _) this.1, this.2⟩
    boundC := fun hr hp => Nat.le_trans (Nat.sub_le _ _) (h.boundC hr hp)
    times := times_tick h
    flightT := flightT_tick h
    account := fun hr => by
      show s.k.content - taken + (s.ndrained + taken) = s.nok
      have := h.account hr; omega
    handlers := fun hr => Nat.add_le_add (hstarts_le (s := s) h hr) htk
    covered := fun _ _ hpc' => absurd rfl hpc' }

theorem inv_handlerStart {cfg : Cfg} {s : St} (h : Inv cfg s) (hpc : s.pc = .drained) :
    Inv cfg (tick { s with pc := .inHandler, hstarts := s.now :: s.hstarts }) :=
  { h with
    times := times_tick h
    flightT := flightT_tick h
    handlers := fun hr => hstarts_lt (s := s) h hr hpc
    covered := fun _ _ _ p hp => ⟨s.now, List.mem_cons_self, (h.times p hp).2⟩ }

theorem inv_handlerEnd {cfg : Cfg} {s : St} (h : Inv cfg s) (hpc : s.pc = .inHandler) :
    Inv cfg (tick { s with pc := .idle }) :=
  { h with
    times := times_tick h
    flightT := flightT_tick h
    handlers := fun hr => hstarts_le (s := s) h hr
    covered := fun hr hc _ => h.covered hr hc (by rw [hpc]; decide) }

/-- in the shape in which `simp only` rewrites the guard `if s.fatal then none else …` of `step` -/
theorem not_fatal_eq {cfg : Cfg} {s : St} (h : Inv cfg s) : (s.fatal = true) = False := by simp [h.not_fatal]

/-- What an enabled action does in a state that satisfies the invariant, one constructor per way through `step`
with its guards (what `step` tests on the way) and its result written out.  `iv_fatal` and EINVAL have no constructor:
the invariant excludes them. -/
inductive Step (cfg : Cfg) (s : St) : Action → St → Prop
  | register : s.registered = false → s.pc ≠ .drained → Step cfg s .register (tick (doRegister cfg s))
  | grabElsewhere : Step cfg s .grabElsewhere (tick { s with inUse := if s.inUse ≠ 0 then (grab cfg s.inUse).2 else 0 })
  | unregister : s.registered = true → s.pc ≠ .drained → Step cfg s .unregister (tick { s with registered := false })
  | postBegin (pid : Nat) : s.registered = true → findFlight s.flights pid = none →
      Step cfg s (.postBegin pid) (tick { s with flights := { pid := pid, epoch := s.epoch, tb := s.now } :: s.flights })
  | postEintr {pid : Nat} {f : Flight} : findFlight s.flights pid = some f → Step cfg s (.postWrite pid .eintr) (tick s)
  /-- a descriptor of an earlier registration -/
  | postStale {pid : Nat} {f : Flight} (res : WRes) : findFlight s.flights pid = some f → stale s f = true →
      Step cfg s (.postWrite pid res) (tick { s with flights := dropFlight s.flights f.pid })
  | postOk {pid : Nat} {f : Flight} : findFlight s.flights pid = some f → stale s f = false →
      (s.k.isPipe = true → s.k.content + 1 ≤ s.k.cap) → (s.k.isPipe = false → s.k.content < counterMax) →
      Step cfg s (.postWrite pid .ok) (tick (postDone s f .ok { s.k with content := s.k.content + 1 } 1))
  /-- refused by an object that holds data -/
  | postEagain {pid : Nat} {f : Flight} : findFlight s.flights pid = some f → stale s f = false → s.k.content ≠ 0 →
      Step cfg s (.postWrite pid .eagain) (tick (postDone s f .eagain s.k 0))
  | readEintr : s.registered = true → s.pc = .idle → Step cfg s (.ownerRead true) (tick s)
  | readEmpty : s.registered = true → s.pc = .idle → s.k.content = 0 → Step cfg s (.ownerRead false) (tick s)
  /-- the drain takes `taken` out of the object, all of it from a counter -/
  | readData {taken : Nat} : s.registered = true → s.pc = .idle →
      0 < taken → taken ≤ s.k.content → (s.k.isPipe = false → taken = s.k.content) →
      Step cfg s (.ownerRead false)
        (tick { s with k := { s.k with content := s.k.content - taken }, pc := .drained, ndrained := s.ndrained + taken })
  | handlerStart : s.pc = .drained → Step cfg s .handlerStart (tick { s with pc := .inHandler, hstarts := s.now :: s.hstarts })
  | handlerEnd : s.pc = .inHandler → Step cfg s .handlerEnd (tick { s with pc := .idle })

theorem _root_.Ivy.Raw.Inv.step {cfg : Cfg} {s s' : St} {a : Action} (h : Inv cfg s) (hs : step cfg s a = some s') :
    Step cfg s a s' := by
  cases a <;> simp only [Raw.step, not_fatal_eq h, if_false] at hs
  case register => obtain ⟨hc, hs⟩ := Option.ite_none_right_eq_some.1 hs; simp at hc; cases hs; exact .register hc.1 hc.2
  case grabElsewhere => cases hs; exact .grabElsewhere
  case unregister => obtain ⟨hc, hs⟩ := Option.ite_none_right_eq_some.1 hs; simp at hc; cases hs; exact .unregister hc.1 hc.2
  case postBegin pid => obtain ⟨hc, hs⟩ := Option.ite_none_right_eq_some.1 hs; simp at hc; cases hs; exact .postBegin pid hc.1 hc.2
  case handlerStart => obtain ⟨hc, hs⟩ := Option.ite_none_right_eq_some.1 hs; cases hs; exact .handlerStart (by simpa using hc)
  case handlerEnd => obtain ⟨hc, hs⟩ := Option.ite_none_right_eq_some.1 hs; cases hs; exact .handlerEnd (by simpa using hc)
  case postWrite pid res =>
    split at hs
    · cases hs
    next f hf =>
    obtain ⟨s1, hs1, rfl⟩ := Option.map_eq_some_iff.1 hs
    cases hst : stale s f
    · have hk := h.kind (stale_false hst).1
      cases res <;> simp only [doPostWrite, hst, Bool.false_eq_true, if_false, einval_impossible hk] at hs1
      · split at hs1
        next k' hw => cases hs1; obtain ⟨rfl, wP, wC⟩ := writeOk_eq hk hw; exact .postOk hf hst wP wC
        · cases hs1
      · obtain ⟨hal, hs1⟩ := Option.ite_none_right_eq_some.1 hs1; cases hs1; exact .postEagain hf hst (eagain_nonzero hal)
      · cases hs1; exact .postEintr hf
      · cases hs1
    · cases res <;> simp only [doPostWrite, hst, if_true] at hs1 <;> cases hs1
      · exact .postStale _ hf hst
      · exact .postStale _ hf hst
      · exact .postEintr hf
      · exact .postStale _ hf hst
  case ownerRead eintr =>
    obtain ⟨hc, hs⟩ := Option.ite_none_right_eq_some.1 hs
    simp at hc
    cases eintr with
    | true => cases hs; exact .readEintr hc.1 hc.2
    | false =>
      obtain ⟨s1, hs1, rfl⟩ := Option.map_eq_some_iff.1 hs
      have rs := read_spec h hc.1
      unfold doOwnerRead at hs1
      by_cases hz : s.k.content = 0
      · rw [rs.1 hz] at hs1; cases hs1; exact .readEmpty hc.1 hc.2 hz
      · obtain ⟨ret, taken, hret, htk, hle, hall, hrd⟩ := rs.2 hz
        rw [hrd] at hs1
        simp only [Nat.ne_of_gt hret, if_false] at hs1
        cases hs1; exact .readData hc.1 hc.2 htk hle hall

theorem step_inv {cfg : Cfg} (hwf : cfg.wf) {s s' : St} (a : Action) (h : Inv cfg s) (hs : step cfg s a = some s') :
    Inv cfg s' := by
  cases h.step hs with
  | register _ hpc => exact inv_register hwf h hpc
  | grabElsewhere => exact inv_grabElsewhere h
  | unregister => exact inv_unregister h
  | postBegin pid => exact inv_postBegin h pid
  | postEintr | readEintr | readEmpty => exact inv_tick h
  | postStale => exact inv_tick_flights h _ (fun _ hg => mem_dropFlight hg)
  | postOk hf hst wP wC =>
    have := h.account (stale_false hst).1
    exact inv_post_done h (findFlight_mem hf).1 .ok (.inl rfl) _ 1 (by omega) (by omega) wP (fun hp => wC hp)
  | postEagain hf hst hne =>
    have hr := (stale_false hst).1
    exact inv_post_done h (findFlight_mem hf).1 .eagain (.inr rfl) s.k.content 0 hne (h.account hr)
      (fun hp => (h.boundP hr hp).1) (h.boundC hr)
  | readData _ _ htk hle => exact inv_ownerRead h htk hle
  | handlerStart hpc => exact inv_handlerStart h hpc
  | handlerEnd hpc => exact inv_handlerEnd h hpc

theorem reachable_inv {cfg : Cfg} (hwf : cfg.wf) {s : St} (h : Reachable cfg s) : Inv cfg s := by
  induction h with
  | init => exact init_inv cfg
  | step a _ hs ih => exact step_inv hwf a ih hs



/-- the executable test that `observe` and the replay driver evaluate is the `Covered` of the invariant -/
theorem coveredB_iff (s : St) (p : Post) : coveredB s p = true ↔ Covered s p := by
  unfold coveredB Covered
  simp [List.any_eq_true]

theorem no_lost_post {cfg : Cfg} (hwf : cfg.wf) {s : St} (h : Reachable cfg s) (hr : s.registered = true)
    (hpc : s.pc ≠ .drained) (hc : s.k.readable = false) :
    ∀ p ∈ s.posts, (p.res = .ok ∨ p.res = .eagain) ∧ ∃ t ∈ s.hstarts, p.tb ≤ p.tw ∧ p.tw < t := by
  have inv := reachable_inv hwf h
  have hc' : s.k.content = 0 := by simpa [KObj.readable] using hc
  intro p hp
  obtain ⟨t, ht, hlt⟩ := inv.covered hr hc' hpc p hp
  exact ⟨inv.results p hp, t, ht, (inv.times p hp).1, hlt⟩

theorem post_write_enabled {cfg : Cfg} (hwf : cfg.wf) {s : St} (h : Reachable cfg s) {pid : Nat} {f : Flight}
    (hf : findFlight s.flights pid = some f) :
    ∃ res, res ≠ WRes.eintr ∧ (step cfg s (.postWrite pid res)).isSome = true := by
  have inv := reachable_inv hwf h
  have hnf := not_fatal_eq inv
  by_cases hst : stale s f = true
  · refine ⟨.ok, by decide, ?_⟩
    simp [step, hnf, hf, doPostWrite, hst]
  · have hr := (stale_false (by simpa using hst)).1
    have hk := inv.kind hr
    have hnb := (inv.nonblock hr).2
    by_cases hw : (s.k.writeOk (wsize s.inUse)).isSome = true
    · refine ⟨.ok, by decide, ?_⟩
      obtain ⟨k', hk'⟩ := Option.isSome_iff_exists.mp hw
      simp [step, hnf, hf, doPostWrite, hst, hk']
    · refine ⟨.eagain, by decide, ?_⟩
      have hal : s.k.eagainAllowed (wsize s.inUse) = true := by
        -- a write that does not fit finds the pipe full resp. the counter at its ceiling
        have b1 := inv.boundP hr
        have b2 := inv.boundC hr
        unfold KObj.writeOk at hw
        unfold KObj.eagainAllowed
        by_cases h0 : s.inUse = 0 <;> simp [hk, h0, wsize, hnb] at hw b1 b2 ⊢ <;> omega
      simp [step, hnf, hf, doPostWrite, hst, hal]



theorem abs_refines {cfg : Cfg} {s s' : St} (inv : Inv cfg s) (a : Action) (hs : step cfg s a = some s') :
    AStep (abs s) a (abs s') := by
  have hread {c : Nat} (hc : c ≠ 0) (f res okc) :
      abs (tick (postDone s f res { s.k with content := c } okc)) = { abs s with pending := true } := by
    simp [abs, tick, postDone, KObj.readable, hc]
  cases inv.step hs with
  | register =>
    have : abs (tick (doRegister cfg s)) = { abs s with registered := true, pending := false } := by
      simp only [abs, tick, KObj.readable, (doRegister_spec inv).2.2.1]; rfl
    rw [this]; exact .register _
  | grabElsewhere => exact .grabElsewhere _
  | unregister => exact .unregister _
  | postBegin pid => exact .postBegin _ pid
  | postEintr => exact .postNoEffect _ _ _
  | postStale res => exact .postNoEffect _ _ res
  | postOk => rw [hread (Nat.succ_ne_zero _)]; exact .postLive _ _ _ (.inl rfl)
  | postEagain _ _ hne => rw [hread hne]; exact .postLive _ _ _ (.inr rfl)
  | readEintr => exact .readEintr _
  | readEmpty _ _ hz => exact .readEmpty _ (by simp [abs, KObj.readable, hz])
  | readData _ _ htk hle => exact .readData (abs s) _ (by simp [abs, KObj.readable]; omega)
  | handlerStart hpc => exact .handlerStart _ (by simp [abs, hpc])
  | handlerEnd hpc => exact .handlerEnd _ (by simp [abs, hpc])

end Ivy.Raw.Proofs
