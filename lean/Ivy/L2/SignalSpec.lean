import Ivy.L2.Signal
/-! Specification side of C10: the documented fan-out rule stated on the table of registered interests
(no reference to the ordered sets), and the invariant of the LTS `Ivy.Signal.step`. -/
namespace Ivy.Signal

/-- i is a registered process-wide interest -/
def InProc (st : State) (i : Nat) : Prop := st.reg i = true ∧ st.this i = false
/-- i is a registered interest restricted to thread T (IV_SIGNAL_FLAG_THIS_THREAD, registered by T) -/
def InThr (st : State) (T i : Nat) : Prop := st.reg i = true ∧ st.this i = true ∧ st.owner i = T

/-- The documented rule over a set `P` of interests, for signal `n`: if `P` has an exclusive interest for `n`,
exactly the first of them (lowest address) is woken; otherwise all its interests for `n` are. -/
def Selected (P : Nat → Prop) (st : State) (n i : Nat) : Prop :=
  P i ∧ st.sig i = n ∧
  ((st.excl i = true ∧ ∀ j, P j → st.sig j = n → st.excl j = true → i ≤ j) ∨
   (st.excl i = false ∧ ∀ j, P j → st.sig j = n → st.excl j = false))

/-- thread T has an own (this-thread) interest for n -/
def HasThr (st : State) (T n : Nat) : Prop := ∃ j, InThr st T j ∧ st.sig j = n

/-- Who a delivery of `n` received by thread `T` reaches: T's own interests for `n` if it has any (by the rule),
otherwise the process-wide ones (by the rule). -/
def Fanout (st : State) (T n i : Nat) : Prop :=
  (HasThr st T n ∧ Selected (InThr st T) st n i) ∨ (¬ HasThr st T n ∧ Selected (InProc st) st n i)

def Sorted (st : State) (l : List Nat) : Prop := l.Pairwise (fun a b => less st a b = true)

/-- the posts among the outputs -/
def posts : List Out → List Nat
  | [] => []
  | .post i :: r => i :: posts r
  | _ :: r => posts r

structure Inv (st : State) : Prop where
  pid_pos : st.pid ≠ 0
  fresh : st.ownerPid = 0 → ∀ i, st.reg i = false
  proc_mem : ∀ i, i ∈ st.proc ↔ InProc st i
  thr_mem : ∀ T i, i ∈ st.thr T ↔ InThr st T i
  proc_sorted : Sorted st st.proc
  thr_sorted : ∀ T, Sorted st (st.thr T)
  /-- `total_num_interests[n]` is the number of registered interests for n -/
  count_card : ∃ regs : List Nat, regs.Nodup ∧ (∀ i, i ∈ regs ↔ st.reg i = true) ∧
      ∀ n, st.count n = (regs.filter (fun i => st.sig i == n)).length
  disp_count : ∀ n, st.disp n = true ↔ st.count n ≠ 0
  sig_range : ∀ i, st.reg i = true → st.sig i < NSIG
  pc_main : ∀ T n, st.pc T = some n → st.ownerPid = st.pid
  pc_pend : ∀ T n, st.pc T = some n → st.pend T = []
  pend_main : ∀ T, st.pend T ≠ [] → st.ownerPid = st.pid
  /-- a pending write targets a registered interest, protected either by being the writer's own this-thread
  interest or by `sig_lock` -/
  pend_reg : ∀ T i, i ∈ st.pend T → st.reg i = true ∧ ((st.this i = true ∧ st.owner i = T) ∨ st.lock = some T)
  lock_pend : ∀ T, st.lock = some T → st.pend T ≠ []
  /-- a delivery noted for a registered interest whose handler has not started since: the `active` flag is set
  (so unregistering an exclusive interest hands it on) and an event run is owed, in progress, or its post is
  about to be written -/
  noted_ok : ∀ i, st.reg i = true → st.noted i = true →
      st.active i = true ∧ (st.owed i = true ∨ st.stage i = 1 ∨ ∃ T, i ∈ st.pend T)

/-- delivery actions -/
def Action.isDelivery : Action → Bool
  | .sigThread _ _ => true
  | .sigProc _ => true
  | _ => false

/-- actions that legitimately end the obligation "interest i is owed an event run": the run itself, unregistering i,
continuing in a forked child (where the post-fork reset of the next registration drops everything inherited) -/
def consumes (i : Nat) : Action → Bool
  | .evRead j => j == i
  | .unreg _ j => j == i
  | .fork _ => true
  | _ => false

/-- Interest i is owed an event run (C09 turns `owed` into a call of `iv_signal_event`) or a write to its raw event is
still being performed by the thread that is in the middle of a wake walk; in the owner process. -/
def Oblig (st : State) (i : Nat) : Prop :=
  st.ownerPid = st.pid ∧ st.reg i = true ∧ (st.owed i = true ∨ ∃ T, i ∈ st.pend T)

end Ivy.Signal
