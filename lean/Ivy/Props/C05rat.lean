import Ivy.L0.RatProofs
/-!
# C05 (radix tree) — the timer radix tree of iv_timer.c behaves as the flat array of the heap model

`Ivy/L0/Heap.lean` (on which the C05 theorems are proved) models the timer store as a flat array of
size `2^((rat_depth+1)*bits)`.  `Ivy/L0/Rat.lean` models the pointer structure itself:
`iv_timer_get_node` (one-level growth, lazy zero-filled allocation, descent by digits),
`iv_timer_radix_tree_remove_level`, `iv_timer_free_ratnode`, `iv_timer_deinit`.  Property theorems
only; the proofs live in `Ivy/L0/RatProofs.lean`.  Every statement is for an arbitrary `bits`
(so for every `bits ≥ 1`), every depth and every index; the heap-model statements are for the
generated `IV_TIMER_SPLIT_BITS`.
-/
namespace Ivy.Props.C05rat
open Ivy.Rat Ivy.Rat.Proofs

/-- `iv_timer_get_node` at an index at most one level beyond the capacity returns a valid pointer
to the slot of that index, changes no slot (`flat` of new slots is NULL, as it was beyond the old
capacity), and afterwards the index is within the capacity. -/
theorem getNode_correct {bits : Nat} {s : RatState} (i : Nat) (hs : Shape bits s)
    (hi : i < span bits (s.depth + 1)) :
    Shape bits (getNode bits s i).1 ∧
    (getNode bits s i).1.depth = (if span bits s.depth ≤ i then s.depth + 1 else s.depth) ∧
    i < span bits (getNode bits s i).1.depth ∧
    readSlot (getNode bits s i).1 (getNode bits s i).2 = some (flat bits s i) ∧
    ∀ j, flat bits (getNode bits s i).1 j = flat bits s j :=
  getNode_spec i hs hi

/-- Write-then-read through `iv_timer_get_node`. -/
theorem store_correct {bits : Nat} {s : RatState} (i : Nat) (v : Option Nat) (hs : Shape bits s)
    (hi : i < span bits (s.depth + 1)) :
    Shape bits (store bits s i v) ∧
    readSlot (store bits s i v) (getNode bits s i).2 = some v ∧
    ∀ j, flat bits (store bits s i v) j = if j = i then v else flat bits s j :=
  let h := store_spec i v hs hi
  ⟨h.1, h.2.2.2.1, h.2.2.2.2⟩

/-- `iv_timer_radix_tree_remove_level` under the C's shrink condition keeps every slot ... -/
theorem removeLevel_slots {bits : Nat} {s : RatState} (hs : Shape bits s) (hd : 0 < s.depth)
    (hnull : ∀ j, span bits (s.depth - 1) ≤ j → flat bits s j = none) :
    Shape bits (removeLevel s) ∧ (removeLevel s).depth = s.depth - 1 ∧
    ∀ j, flat bits (removeLevel s) j = flat bits s j :=
  let h := removeLevel_flat hs hd
  ⟨h.1, h.2.1, h.2.2 hnull⟩

/-- ... and, on a dense tree, frees exactly the discarded nodes (the old root and everything
reachable from its `child[1..]`). -/
theorem removeLevel_frees {bits : Nat} {s : RatState} {m : Nat} (h : Dense bits s m) (hl : Ledger s)
    (hd : 0 < s.depth) :
    removeLevelFreed s = discarded s ∧ s.allocated = (removeLevel s).allocated + discarded s ∧
    Ledger (removeLevel s) ∧ Dense bits (removeLevel s) (min m (span bits (s.depth - 1) - 1)) :=
  removeLevel_ledger h hl hd

/-- Refinement: any legal sequence of the heap model's slot operations reads the same on the
tree as on the flat array, and the tree keeps denoting the array. -/
theorem rat_refines_array (bits : Nat) (ops : List SlotOp) (a : Arr) (r : RatState) (h : Sim bits a r)
    (hl : LegalRun bits a ops) :
    Sim bits (runA bits a ops).1 (runR bits r ops).1 ∧ (runA bits a ops).2 = (runR bits r ops).2 :=
  Proofs.rat_refines_array bits ops a r h hl

/-- Refinement for the heap model itself: along any history of valid `register` / `unregister` /
`iv_run_timers` (first loop) calls of the heap model (which by C05 succeed and keep `HeapInv`), the models of
the C tree functions keep a tree that denotes the store's slot array; initially they agree. -/
theorem heap_on_tree {s' : Heap.Store} (n : Nat) (hh : History (Heap.Store.init n) s') :
    Heap.HeapInv s' ∧ ∃ ops, Sim Heap.bits (Arr.ofStore s') (runR Heap.bits (RatState.init Heap.bits) ops).1 :=
  history_refines hh (Heap.Proofs.init_inv n) (init_store_sim n)

/-- the premise of `heap_on_tree` is satisfiable: by C05 every valid call extends a history -/
theorem history_extends {s0 s : Heap.Store} (hh : History s0 s) (hinv : Heap.HeapInv s) (t : Nat) (e : Heap.TS)
    (ht : s.idx[t]? = some (-1)) : ∃ s', History s0 s' ∧ s'.num = s.num + 1 := by
  obtain ⟨s', e1, _, _, _, _, hn, _⟩ := Heap.Proofs.register_ok s t e hinv ht
  exact ⟨s', hh.trans (.step (.register t e) ht e1 (.refl _)), hn⟩

/-- `push_down`'s `p[1]` (pointer arithmetic, no `iv_timer_get_node`) is the slot of `2*index+1`. -/
theorem right_child_is_next_slot {bits : Nat} (hb : 1 ≤ bits) {s : RatState} (k : Nat) (hs : Shape bits s)
    (hi : 2 * k < span bits (s.depth + 1)) :
    readSlot (getNode bits s (2 * k)).1 (bump (getNode bits s (2 * k)).2) = some (flat bits s (2 * k + 1)) :=
  sibling_spec (2 * k) hs hi (even_not_last hb k)

/-- The cell overlaying `st->ratnode.timer_root` (cell 0 of the embedded first leaf) is addressed
only by index 0, which the heap never uses. -/
theorem overlay_only_index_zero {bits : Nat} {s : RatState} (i : Nat) (hs : Shape bits s)
    (hi : i < span bits (s.depth + 1)) :
    (getNode bits s i).2 = List.replicate ((getNode bits s i).1.depth + 1) 0 ↔ i = 0 :=
  ptr_zero_iff i hs hi

/-- No leak: after any history of register/unregister tree calls `allocated` is the number of
reachable malloc'ed nodes, and `iv_timer_deinit` frees them all. -/
theorem no_leak {bits : Nat} (hb : 1 ≤ bits) (cs : List Call) (hc : CallsOk bits ⟨RatState.init bits, 0⟩ cs) :
    let s := calls bits ⟨RatState.init bits, 0⟩ cs
    s.rat.allocated + 1 = reach s.rat.depth s.rat.root ∧ (freeAll s.rat).allocated = 0 := by
  have h := calls_track hb cs _ (init_track bits) hc
  obtain ⟨m, _, hd⟩ := h.dense
  exact ⟨h.ledger, (freeAll_allocated hd h.ledger).1⟩

theorem deinit_frees_all {bits : Nat} {s : RatState} {m : Nat} (h : Dense bits s m) (hl : Ledger s) :
    (freeAll s).allocated = 0 ∧ (freeAll s).depth = 0 :=
  freeAll_allocated h hl

/-! ## Non-vacuity, `bits = 2` (fan-out 4): crossing the `2^bits = 4` and `2^(2*bits) = 16` boundaries -/

/-- `n` timers registered: slots `1..n` hold `1..n` -/
def build (bits n : Nat) : TState := calls bits ⟨RatState.init bits, 0⟩ ((List.range n).map (fun i => .register (i + 1)))

example : (build 2 3).rat.depth = 0 ∧ (build 2 4).rat.depth = 1 ∧ (build 2 15).rat.depth = 1 ∧
    (build 2 16).rat.depth = 2 ∧ (build 2 17).rat.depth = 2 := by decide +kernel

/-- every slot reads back, unused and beyond-capacity indices read NULL -/
example : (List.range 20).map (flat 2 (build 2 17).rat) =
    none :: (List.range 17).map (fun i => some (i + 1)) ++ [none, none] := by decide +kernel

/-- ledger at 17 timers: depth-2 root, two depth-1 nodes, leaves 1..4 (leaf 0 is embedded) -/
example : (build 2 17).rat.allocated = 7 ∧ reach 2 (build 2 17).rat.root = 8 := by decide +kernel

/-- unregister 17, 16 (shrinks: `num == 1 << 2*bits`), 15 ... 4 (shrinks again), then regrow to 17:
slots keep reading back and nothing leaks; `iv_timer_deinit` frees everything -/
def shrinkRegrow : List Call :=
  (List.range 17).map (fun i => .register (i + 1)) ++ List.replicate 14 .unregisterLast ++
  (List.range 14).map (fun i => .register (100 + i))

example : CallsOk 2 ⟨RatState.init 2, 0⟩ shrinkRegrow := by decide +kernel

example :
    let mid := calls 2 ⟨RatState.init 2, 0⟩ ((List.range 17).map (fun i => .register (i + 1)) ++ List.replicate 14 .unregisterLast)
    mid.num = 3 ∧ mid.rat.depth = 0 ∧ mid.rat.allocated = 0 ∧
    (List.range 6).map (flat 2 mid.rat) = [none, some 1, some 2, some 3, none, none] := by decide +kernel

example :
    let s := calls 2 ⟨RatState.init 2, 0⟩ shrinkRegrow
    s.num = 17 ∧ s.rat.depth = 2 ∧ s.rat.allocated = 7 ∧ reach 2 s.rat.root = 8 ∧
    flat 2 s.rat 3 = some 3 ∧ flat 2 s.rat 4 = some 100 ∧ flat 2 s.rat 17 = some 113 ∧ flat 2 s.rat 18 = none ∧
    (freeAll s.rat).allocated = 0 := by decide +kernel

/-- the refinement hypotheses are satisfiable: a legal slot-operation run over both boundaries reads
the same on the array and on the tree -/
def demoOps : List SlotOp :=
  [.grow 1, .set 1 (some 11), .grow 4, .set 4 (some 14), .get 4, .get 1, .get 2, .get 7,
   .grow 16, .set 16 (some 26), .get 16, .get 4, .set 16 none, .removeLevel, .get 4, .get 5,
   .set 4 none, .removeLevel, .get 1, .get 3]

example : LegalRun 2 ⟨Array.replicate (span 2 0) none, 0⟩ demoOps := by decide +kernel

example : (runR 2 (RatState.init 2) demoOps).2 =
    [some (some 14), some (some 11), some none, some none, some (some 26), some (some 14),
     some (some 14), some none, some (some 11), some none] ∧
    (runA 2 ⟨Array.replicate (span 2 0) none, 0⟩ demoOps).2 = (runR 2 (RatState.init 2) demoOps).2 ∧
    (runR 2 (RatState.init 2) demoOps).1.depth = 0 ∧ (runR 2 (RatState.init 2) demoOps).1.allocated = 0 := by
  decide +kernel

/-- Why the ledger theorems assume density (`index ≤ num_timers`, indices grow by one): the C frees
with `break` at the first NULL child, so a (never issued) access that skips a leaf -- here index 15
while only leaves 0 and 1 exist -- would leak that leaf on the next shrink, although the slots still
read correctly. -/
example :
    let ops : List SlotOp := [.grow 4, .set 4 (some 14), .get 15, .set 4 none, .removeLevel]
    LegalRun 2 ⟨Array.replicate (span 2 0) none, 0⟩ ops ∧
    (runR 2 (RatState.init 2) ops).1.depth = 0 ∧ (runR 2 (RatState.init 2) ops).1.allocated = 1 := by decide +kernel

/-- The seeded bug "only child[1] freed on shrink": with three leaves hanging off the root
(12 timers, fan-out 4) the buggy shrink leaves two nodes allocated that are no longer reachable,
whereas the modelled C code leaves none. -/
example :
    let s := (build 2 12).rat
    s.allocated = 4 ∧
    (removeLevel s).allocated + 1 = reach 0 (removeLevel s).root ∧
    (removeLevelBuggy s).allocated = 2 ∧ reach 0 (removeLevelBuggy s).root = 1 ∧
    (removeLevelBuggy s).allocated + 1 ≠ reach (removeLevelBuggy s).depth (removeLevelBuggy s).root := by decide +kernel

end Ivy.Props.C05rat
