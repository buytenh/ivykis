import Ivy.L2.EventProofs
/-!
# C08 — iv_event: posts from any thread are never lost, over-delivered or misrouted

Property theorems only; the model is `Ivy/L2/Event.lean` (a labelled transition system at the granularity of
the critical sections of `iv_event.c` and the single wake-up operation that follows a post), the invariant
and the trace vocabulary are in `Ivy/L2/EventSpec.lean`, the longer proofs in `Ivy/L2/EventProofs.lean`
(a theorem here re-exports one of them, or is a few lines from its lemmas).

Every theorem quantifies over: both transports (`cfg.raw`), any owner thread index, any number `n` of poster
threads (the owner's own thread included), any number of events, and every interleaving — a path of the LTS is
an arbitrary sequence of enabled actions (`exec … = some s`), and the invariant is shown for the initial state
and for every enabled action.  Valid use is part of the enabling conditions: only registered events are posted,
an event is not unregistered while some thread is inside a post of it, the API is called by the owner only from
loop code or handlers.

What is NOT proved here (trusted, see the plugin's assumptions): that the kernel ends the owner's wait when a
wake source exists (armed one-shot registration of an always-readable descriptor / readable raw descriptor),
and that iv_main runs a registered task before blocking.  `Quiescent` therefore says "no wake source at all".
-/
namespace Ivy.Props.C08
open Ivy.Event

theorem init_inv (cfg : Cfg) (n : Nat) : Inv cfg (State.init n) := Proofs.init_inv cfg n

/-- Every enabled action — of any poster thread or of the owner — preserves the invariant. -/
theorem step_inv (cfg : Cfg) (s s' : State) (a : Action) (h : Inv cfg s) (hs : step cfg s a = some s') :
    Inv cfg s' := Proofs.step_inv a h hs

/-- Hence it holds after every interleaving. -/
theorem reachable_inv (cfg : Cfg) (n : Nat) (s : State) (hr : Reachable cfg n s) : Inv cfg s :=
  Proofs.reachable_inv hr

/-- WakeOwed: in every reachable state a non-empty pending list is covered by a wake source of the transport in
use (armed kick / raw counter > 0), the owner's local task, a poster that still has to send its kick, or an owner
already between wake-up and steal; and a non-empty stolen batch exists only while the owner is inside a handler
from which it will re-check the batch. -/
theorem wake_owed (cfg : Cfg) (n : Nat) (s : State) (hr : Reachable cfg n s) :
    (s.pending ≠ [] → kickPending cfg s ∨ s.localTask = true ∨ kickInFlight s ∨ s.pc = .woken) ∧
    (s.batch ≠ [] → ∃ e, s.pc = .inHandler e false) :=
  ⟨(Proofs.reachable_inv hr).wake, (Proofs.reachable_inv hr).batchPc⟩

/-- C08_no_lost_post (state form): whenever the owner is outside the delivery code (idle or blocked in the
kernel), no wake source exists and no poster still owes a kick, nothing is queued and no post is owed: every post
that passed its critical section has had its handler started afterwards, or its event was unregistered. -/
theorem no_lost_post (cfg : Cfg) (n : Nat) (s : State) (hr : Reachable cfg n s) (hq : Quiescent cfg s) :
    s.pending = [] ∧ s.batch = [] ∧ ∀ e, s.owed e = false :=
  Proofs.no_lost_post (Proofs.reachable_inv hr) hq

/-- C08_no_lost_post (trace form): in any execution that ends quiescent, every post of `e` (its critical
section, which is after the post began) is followed by a handler start of `e` or an unregistration of `e`. -/
theorem post_settled (cfg : Cfg) (n : Nat) (pre post : List Action) (t : Tid) (e : Ev) (s : State)
    (hs : exec cfg (State.init n) (pre ++ Action.postCs t e :: post) = some s) (hq : Quiescent cfg s) :
    ∃ a ∈ post, a.clears e := by
  have hinv : Inv cfg s := Proofs.reachable_inv ⟨_, hs⟩
  obtain ⟨s1, s2, h1, h2, hs⟩ := Proofs.exec_split hs
  have ho2 : s2.owed e = true := ((Proofs.step_frame h2).2 e).1.2 (.inl (by simp [Proofs.isCs]))
  apply Classical.byContradiction
  intro hno
  have := Proofs.owed_exec_fwd post hs ho2 (fun a ha hc => hno ⟨a, ha, hc⟩)
  rw [(Proofs.no_lost_post hinv hq).2.2 e] at this
  cases this

/-- C08_not_over_delivered (counter form): handler starts of `e` plus queued copies of `e` never exceed the posts
of `e` that completed their critical section, which never exceed the posts begun; an event is queued at most once. -/
theorem not_over_delivered (cfg : Cfg) (n : Nat) (s : State) (hr : Reachable cfg n s) (e : Ev) :
    s.delivered e + (s.pending ++ s.batch).count e ≤ s.csDone e ∧ s.csDone e ≤ s.begun e ∧
    (s.pending ++ s.batch).count e ≤ 1 :=
  Proofs.not_over_delivered (Proofs.reachable_inv hr) e

/-- The ghost counters are the trace counts: in every execution #handler starts ≤ #post critical sections ≤ #posts begun. -/
theorem trace_counts (cfg : Cfg) (n : Nat) (as : List Action) (s : State)
    (hs : exec cfg (State.init n) as = some s) (e : Ev) :
    as.countP (Proofs.isStart e) + (s.pending ++ s.batch).count e ≤ as.countP (Proofs.isCs e) ∧
    as.countP (Proofs.isCs e) ≤ as.countP (Proofs.isBegin e) := by
  have g := Proofs.exec_ghost as hs e
  have h := Proofs.not_over_delivered (Proofs.reachable_inv ⟨as, hs⟩) e
  simp [State.init] at g
  rw [g.1, g.2.1, g.2.2] at h
  exact ⟨h.1, h.2.1⟩

/-- C08_not_over_delivered (trace form, exact): every handler start of `e` is preceded by a post of `e` whose
critical section happened after the previous handler start (and after any unregistration) of `e`: posts coalesce,
but one post never yields two invocations. -/
theorem start_justified (cfg : Cfg) (n : Nat) (pre : List Action) (a : Action) (e : Ev) (s : State)
    (hs : exec cfg (State.init n) (pre ++ [a]) = some s) (hst : a.starts e) :
    ∃ p1 t p2, pre = p1 ++ Action.postCs t e :: p2 ∧ ∀ b ∈ p2, ¬ b.clears e := by
  obtain ⟨s1, s2, h1, h2, _⟩ := Proofs.exec_split hs
  have ho := ((Proofs.reachable_inv ⟨pre, h1⟩).owedIff e).2 (Proofs.start_guard h2 hst).1
  rcases Proofs.exec_back (P := fun s => s.owed e = true) Proofs.owed_back pre h1 ho with ⟨h0, _⟩ | ⟨p1, _, p2, rfl, ⟨t, rfl⟩, hq⟩
  · cases h0
  · exact ⟨p1, t, p2, rfl, hq⟩

/-- Ordering: the critical section of a post by thread `t` is preceded by `t` entering that post, with no other
critical section of `t` in between; together with `post_settled`/`start_justified`: the handler invocation that
serves a post begins after the post began. -/
theorem cs_after_begin (cfg : Cfg) (n : Nat) (pre : List Action) (t : Tid) (e : Ev) (s : State)
    (hs : exec cfg (State.init n) (pre ++ [Action.postCs t e]) = some s) :
    ∃ q1 q2, pre = q1 ++ Action.postBegin t e :: q2 ∧ ∀ b ∈ q2, ∀ e', b ≠ .postCs t e' := by
  obtain ⟨s1, s2, h1, h2, _⟩ := Proofs.exec_split hs
  have hp : s1.posters[t]? = some (.inCs e) := (Option.ite_none_right_eq_some.1 h2).1
  rcases Proofs.exec_back (P := fun s => s.posters[t]? = some (.inCs e)) Proofs.inCs_back pre h1 hp with
    ⟨h0, _⟩ | ⟨q1, _, q2, rfl, rfl, hq⟩
  · simp only [State.init, List.getElem?_replicate] at h0
    split at h0 <;> simp at h0
  · exact ⟨q1, q2, rfl, hq⟩

/-- C08_owner_thread: the number of handler invocations of `e` changes only by the owner's `stealRun e` /
`handlerNext e`, taken from the owner's delivery loop (structural in the model: there is no other action that
starts a handler), and only while `e` is registered (never after an unregistration, so never on freed memory). -/
theorem owner_thread (cfg : Cfg) (n : Nat) (s s' : State) (a : Action) (e : Ev) (hr : Reachable cfg n s)
    (hs : step cfg s a = some s') (hd : s'.delivered e ≠ s.delivered e) :
    a.starts e ∧ (s.pc = .woken ∨ ∃ e0, s.pc = .inHandler e0 false) ∧ (∃ b, s'.pc = .inHandler e b) ∧
    e ∈ s.registered :=
  Proofs.owner_thread (Proofs.reachable_inv hr) hs hd

/-- Queue sanity: an event is on at most one of the two lists, at most once, and only while registered. -/
theorem queue_sane (cfg : Cfg) (n : Nat) (s : State) (hr : Reachable cfg n s) :
    (s.pending ++ s.batch).Nodup ∧ ∀ x, x ∈ s.pending ∨ x ∈ s.batch → x ∈ s.registered :=
  ⟨(Proofs.reachable_inv hr).nodup, (Proofs.reachable_inv hr).sub⟩

/-- A kick is never sent to an owner whose receive side is off (EPOLL_CTL_MOD on a deleted registration would
be fatal; a write on a closed raw descriptor would go elsewhere). -/
theorem no_fault (cfg : Cfg) (n : Nat) (s : State) (hr : Reachable cfg n s) : s.fault = false :=
  (Proofs.reachable_inv hr).noFault

/-- No deadlock at the LTS level: with the posters done, a non-empty pending list can always be delivered by owner
actions alone — unblock, consume the wake source that WakeOwed guarantees, steal, start the head's handler. -/
theorem deliverable (cfg : Cfg) (n : Nat) (s : State) (e : Ev) (rest : List Ev) (hr : Reachable cfg n s)
    (hp : s.pending = e :: rest) (hpc : s.pc = .idle ∨ s.pc = .blocked) (hall : ∀ p ∈ s.posters, p = .outside) :
    ∃ as s' b, exec cfg s as = some s' ∧ s'.pc = .inHandler e b ∧
      ∀ a ∈ as, a = .unblock ∨ a = .kickWake ∨ a = .rawWake ∨ a = .taskWake ∨ a = .stealRun e :=
  Proofs.deliverable (Proofs.reachable_inv hr) hp hpc hall

/-- The executable quiescence test that the replay driver evaluates on the model state at every `QUIESCENT` record
of the harness is exactly the `Quiescent` of `no_lost_post`. -/
theorem quiescent_test_sound (cfg : Cfg) (s : State) : quiescentB cfg s = true ↔ Quiescent cfg s :=
  Proofs.quiescentB_iff cfg s

/-! Non-vacuity: the classical lost-wake-up-prone interleaving (poster 1 makes the list non-empty, poster 2
appends without a kick and returns, the owner blocks, only then poster 1 sends the kick; the owner posts to an
already-stolen event from a handler) runs on the epoll transport and ends quiescent with both handlers invoked
exactly once; a raw-transport run with the owner posting to itself and an unregistration from a handler. -/
def demoKick : List Action :=
  [.register 0, .register 1, .postBegin 1 0, .postCs 1 0, .postBegin 2 1, .postCs 2 1, .postKick 2 1, .block,
   .postKick 1 0, .kickWake, .stealRun 0, .postBegin 0 1, .postCs 0 1, .postKick 0 1, .handlerNext 1,
   .handlerDone, .block]

example : (exec ⟨0, false⟩ (State.init 3) demoKick).map
      (fun s => (s.pending, s.batch, s.pc, s.armed, s.localTask, s.posters, s.delivered 0, s.delivered 1, s.begun 1)) =
    some ([], [], .blocked, false, false, [.outside, .outside, .outside], 1, 1, 2) := by rfl

example : (exec ⟨0, true⟩ (State.init 2)
      [.register 0, .register 1, .register 2, .postBegin 0 0, .postCs 0 0, .postBegin 1 1, .postCs 1 1, .postKick 1 1,
       .postBegin 1 2, .postCs 1 2, .postKick 1 2, .postKick 0 0, .taskWake, .stealRun 0, .unregister 1,
       .handlerNext 2, .handlerDone, .block]).map
      (fun s => (s.pending, s.pc, s.rawCount, s.localTask, s.registered, s.delivered 0, s.delivered 1, s.delivered 2, s.owed 1)) =
    some ([], .blocked, 0, false, [2, 0], 1, 0, 1, false) := by rfl

/-- an action that is not enabled is rejected: an event cannot be unregistered while a poster is inside a post
of it, the owner cannot block in the middle of a post -/
example : (exec ⟨0, false⟩ (State.init 2) [.register 0, .postBegin 1 0, .unregister 0]).isNone = true := by decide
example : (exec ⟨0, false⟩ (State.init 2) [.register 0, .postBegin 0 0, .block]).isNone = true := by decide

end Ivy.Props.C08
