import Ivy.L0.AvlPtrProofs
/-!
# C16 (pointer level) — iv_avl.c with its `left`/`right`/`parent` pointers refines the
functional AVL model, and parent-pointer traversal visits the in-order sequence

`Ivy/L0/AvlPtr.lean` transcribes iv_avl.c (and `iv_avl_tree_min/max` of iv_avl.h) statement by
statement over a heap of node records.  `Repr h t ids` (`Ivy/L0/AvlPtrRepr.lean`) says: heap `h`
holds a pointer structure with exactly the shape, keys and stored heights of the functional
tree `t`; every node's `parent` field is its actual parent (root: NULL); `ids` is the in-order
list of node addresses and they are pairwise distinct.

Property theorems only; all helper lemmas live in `Ivy/L0/AvlPtr*.lean`.
Together with `Ivy/Props/C16.lean` (which proves the functional model correct) this gives the
set/order/balance guarantees for the pointer structure itself.
-/
namespace Ivy.Props.C16ptr
open Ivy.Avl (Tree toList size Inv Ordered)
open Ivy.AvlPtr

/-- The empty tree (`INIT_IV_AVL_TREE`) is represented by the empty heap. -/
theorem init : Repr empty Tree.nil [] := ⟨⟨rfl, rfl⟩, List.nodup_nil⟩

/-- Parent consistency is part of `Repr`: the root's `parent` is NULL and every child's
`parent` field points back to the node whose `left`/`right` field points to it. -/
theorem parents_consistent {h : Heap} {t : Tree} {ids : List Nat} (hR : Repr h t ids) :
    (∀ i, h.root = some i → ∃ n, h.mem i = some n ∧ n.parent = none) ∧
    (∀ i ∈ ids, ∃ n, h.mem i = some n ∧
      (∀ c, n.left = some c → ∃ nc, h.mem c = some nc ∧ nc.parent = some i) ∧
      (∀ c, n.right = some c → ∃ nc, h.mem c = some nc ∧ nc.parent = some i)) :=
  repr_parents hR

/-- `iv_avl_tree_insert` refines `Avl.insert`: whatever the functional model returns
(`(T, 0)` or, for a duplicate key, `(t, -1)`), the pointer code returns the same code and leaves
a heap representing `T` (all parent pointers consistent after any rotation / early stop); the
new node's address is spliced into the in-order address list; memory outside the tree and the
new node is untouched.  Fuel `size t + 1` suffices for both loops. -/
theorem insert_refines {h : Heap} {t T : Tree} {ids : List Nat} {a : Nat} {na : Node}
    {fuel : Nat} {rc : Int}
    (hR : Repr h t ids) (ha : h.mem a = some na) (hfresh : a ∉ ids) (hf : size t < fuel)
    (hins : Ivy.Avl.insert na.key t = some (T, rc)) :
    ∃ h' ids', insert fuel h a = some (h', rc) ∧ Repr h' T ids' ∧
      ((rc = 0 ∧ ∃ pre post, ids = pre ++ post ∧ ids' = pre ++ a :: post) ∨
        (rc = -1 ∧ h' = h ∧ ids' = ids)) ∧
      (∀ n, n ∉ ids → n ≠ a → h'.mem n = h.mem n) :=
  Ivy.AvlPtr.insert_refines hR ha hfresh hf hins

/-- With the C16 invariant the pointer-level insert of an absent key always succeeds. -/
theorem insert_new {h : Heap} {t : Tree} {ids : List Nat} {a : Nat} {na : Node} {fuel : Nat}
    (hR : Repr h t ids) (hinv : Inv t) (ha : h.mem a = some na) (hfresh : a ∉ ids)
    (hx : na.key ∉ toList t) (hf : size t < fuel) :
    ∃ h' T ids', insert fuel h a = some (h', 0) ∧ Repr h' T ids' ∧ Inv T ∧
      Ivy.Avl.insert na.key t = some (T, 0) ∧
      (∀ y, y ∈ toList T ↔ (y = na.key ∨ y ∈ toList t)) := by
  obtain ⟨T, e, inv, mem⟩ := Ivy.Avl.Proofs.insert_new t na.key hinv hx
  obtain ⟨h', ids', e', hR', _, _⟩ := Ivy.AvlPtr.insert_refines hR ha hfresh hf e
  exact ⟨h', T, ids', e', hR', inv, e, mem⟩

/-- … and inserting a key already present returns −1 and changes nothing. -/
theorem insert_dup {h : Heap} {t : Tree} {ids : List Nat} {a : Nat} {na : Node} {fuel : Nat}
    (hR : Repr h t ids) (hinv : Inv t) (ha : h.mem a = some na) (hfresh : a ∉ ids)
    (hx : na.key ∈ toList t) (hf : size t < fuel) :
    insert fuel h a = some (h, -1) := by
  have e := Ivy.Avl.Proofs.insert_dup t na.key hinv hx
  obtain ⟨h', ids', e', _, hcase, _⟩ := Ivy.AvlPtr.insert_refines hR ha hfresh hf e
  rcases hcase with ⟨h0, _⟩ | ⟨_, rfl, _⟩
  · simp at h0
  · exact e'

/-- `iv_avl_tree_delete` refines `Avl.delete` of the key stored in the node: no fault, the
result heap represents the functional result, the address list is the old one without `a`
(parent pointers consistent after the victim splice, the node replacement, all rotations and
the early stop), memory outside the tree untouched. -/
theorem delete_refines {h : Heap} {t T : Tree} {ids : List Nat} {a : Nat} {na : Node}
    {fuel : Nat}
    (hR : Repr h t ids) (ha : a ∈ ids) (hna : h.mem a = some na) (hord : Ordered t)
    (hf : size t < fuel) (hdel : Ivy.Avl.delete na.key t = some T) :
    ∃ h' A B, delete fuel h a = some h' ∧ ids = A ++ a :: B ∧ Repr h' T (A ++ B) ∧
      (∀ j, j ∉ ids → h'.mem j = h.mem j) :=
  Ivy.AvlPtr.delete_refines hR ha hna hord hf hdel

/-- With the C16 invariant deleting any node of the tree always succeeds. -/
theorem delete_node {h : Heap} {t : Tree} {ids : List Nat} {a : Nat} {fuel : Nat}
    (hR : Repr h t ids) (hinv : Inv t) (ha : a ∈ ids) (hf : size t < fuel) :
    ∃ na h' T A B, h.mem a = some na ∧ delete fuel h a = some h' ∧
      Ivy.Avl.delete na.key t = some T ∧ ids = A ++ a :: B ∧ Repr h' T (A ++ B) ∧ Inv T ∧
      (∀ y, y ∈ toList T ↔ (y ≠ na.key ∧ y ∈ toList t)) := by
  obtain ⟨na, hna, _⟩ := (repr_parents hR).2 a ha
  have hk := keyAt_ids hR
  have hx : na.key ∈ toList t := by
    have : some na.key ∈ ids.map (keyAt h) := by
      refine List.mem_map.2 ⟨a, ha, ?_⟩
      simp [keyAt, hna]
    rw [hk] at this
    obtain ⟨y, hy, e⟩ := List.mem_map.1 this
    cases e; exact hy
  obtain ⟨T, e, inv, mem⟩ := Ivy.Avl.Proofs.delete_mem t na.key hinv hx
  obtain ⟨h', A, B, e', eids, hR', _⟩ := Ivy.AvlPtr.delete_refines hR ha hna hinv.ord hf e
  exact ⟨na, h', T, A, B, hna, e', e, eids, hR', inv, mem⟩

/-- `iv_avl_tree_next` of the node holding the `n`-th key of `toList t` is the node holding the
`n+1`-th key (NULL for the maximum). -/
theorem next_is_successor {h : Heap} {t : Tree} {ids : List Nat} {fuel n : Nat} {i : Nat}
    (hR : Repr h t ids) (hf : size t ≤ fuel) (hi : ids[n]? = some i) :
    next fuel h i = some ids[n + 1]? ∧ keyAt h i = (toList t)[n]? ∧
      (ids[n + 1]?.bind (keyAt h)) = (toList t)[n + 1]? := by
  obtain ⟨hn, rfl⟩ := List.getElem?_eq_some_iff.1 hi
  have hsplit : ids = ids.take n ++ ids[n] :: ids.drop (n + 1) := by
    rw [List.getElem_cons_drop]; exact (List.take_append_drop n ids).symm
  have h1 := next_spec hR hsplit hf
  rw [List.head?_drop] at h1
  exact ⟨h1, by simpa [hi] using keyAt_index hR n, keyAt_index hR (n + 1)⟩

/-- `iv_avl_tree_prev` symmetric (NULL for the minimum: see `ends_null`). -/
theorem prev_is_predecessor {h : Heap} {t : Tree} {ids : List Nat} {fuel n : Nat} {i : Nat}
    (hR : Repr h t ids) (hf : size t ≤ fuel) (hi : ids[n + 1]? = some i) :
    prev fuel h i = some ids[n]? ∧ keyAt h i = (toList t)[n + 1]? ∧
      (ids[n]?.bind (keyAt h)) = (toList t)[n]? := by
  obtain ⟨hn, rfl⟩ := List.getElem?_eq_some_iff.1 hi
  have hsplit : ids = ids.take (n + 1) ++ ids[n + 1] :: ids.drop (n + 1 + 1) := by
    rw [List.getElem_cons_drop]; exact (List.take_append_drop (n + 1) ids).symm
  have h1 := prev_spec hR hsplit hf
  have h2 : (List.take (n + 1) ids).getLast? = ids[n]? := by
    rw [List.getLast?_take]
    have : ids[n]? = some ids[n] := List.getElem?_eq_getElem (by omega)
    simp [this]
  rw [h2] at h1
  exact ⟨h1, by simpa [hi] using keyAt_index hR (n + 1), keyAt_index hR n⟩

/-- `prev` of the first node and `next` of the last node are NULL. -/
theorem ends_null {h : Heap} {t : Tree} {i : Nat} {rest : List Nat} {fuel : Nat}
    (hf : size t ≤ fuel) :
    (Repr h t (i :: rest) → prev fuel h i = some none) ∧
    (Repr h t (rest ++ [i]) → next fuel h i = some none) :=
  ⟨fun hR => prev_spec (A := []) hR rfl hf, fun hR => next_spec (B := []) hR rfl hf⟩

/-- `iv_avl_tree_min` / `iv_avl_tree_max` return the nodes holding the head / last of `toList`. -/
theorem min_max {h : Heap} {t : Tree} {ids : List Nat} {fuel : Nat}
    (hR : Repr h t ids) (hf : size t ≤ fuel) :
    (min fuel h = some ids.head? ∧ ids.head?.bind (keyAt h) = (toList t).head?) ∧
    (max fuel h = some ids.getLast? ∧ ids.getLast?.bind (keyAt h) = (toList t).getLast?) :=
  ⟨min_key hR hf, max_key hR hf⟩

/-- `iv_avl_tree_for_each` (min, then next until NULL) terminates and visits exactly the nodes
of the tree in order: the keys seen are `toList t`. -/
theorem forward_traversal {h : Heap} {t : Tree} {ids : List Nat} {fuel : Nat}
    (hR : Repr h t ids) (hf : size t ≤ fuel) :
    forEach fuel h = some ids ∧
    (forEach fuel h).map (keysOf h) = some ((toList t).map some) :=
  ⟨forEach_spec hR hf, forEach_keys hR hf⟩

/-- max, then prev until NULL: the reverse. -/
theorem backward_traversal {h : Heap} {t : Tree} {ids : List Nat} {fuel : Nat}
    (hR : Repr h t ids) (hf : size t ≤ fuel) :
    forEachRev fuel h = some ids.reverse ∧
    (forEachRev fuel h).map (keysOf h) = some ((toList t).reverse.map some) :=
  ⟨forEachRev_spec hR hf, forEachRev_keys hR hf⟩

/-! ## Non-vacuity: a concrete heap built by the pointer-level code itself -/

/-- insert keys one by one; the node for key `k` lives at address `k` -/
def buildKeys (ks : List Nat) : Option Heap :=
  ks.foldl (fun oh k => do
    let h ← oh
    let (h, _) ← insert 16 (alloc h k k) k
    some h) (some empty)

/-- read the pointer structure back as a functional tree -/
def reify : Nat → Heap → Option Nat → Tree
  | 0, _, _ => .nil
  | _, _, none => .nil
  | f + 1, h, some i =>
    match h.mem i with
    | none => .nil
    | some n => .node (reify f h n.left) n.key n.height (reify f h n.right)

def funKeys (ks : List Nat) : Option Tree :=
  ks.foldl (fun ot (k : Nat) => do
    let t ← ot
    let (t, _) ← Ivy.Avl.insert (Int.ofNat k) t
    some t) (some .nil)

/-- nine inserts (single and double rotations, early stops) then forward and backward
traversal through parent pointers -/
example : (buildKeys [5, 3, 8, 1, 4, 7, 9, 2, 6]).bind (forEach 16) =
    some [1, 2, 3, 4, 5, 6, 7, 8, 9] := by decide
example : (buildKeys [5, 3, 8, 1, 4, 7, 9, 2, 6]).bind (forEachRev 16) =
    some [9, 8, 7, 6, 5, 4, 3, 2, 1] := by decide
/-- ascending inserts force rotations at the root; shape, keys and stored heights equal the
functional model's -/
example : (buildKeys [1, 2, 3, 4, 5, 6, 7]).map (fun h => reify 16 h h.root) =
    funKeys [1, 2, 3, 4, 5, 6, 7] := by decide
/-- deletes: inner node with victim (5), leaf (1), node with one child -/
example : ((buildKeys [5, 3, 8, 1, 4, 7, 9, 2, 6]).bind (fun h => delete 16 h 5)).bind
    (forEach 16) = some [1, 2, 3, 4, 6, 7, 8, 9] := by decide
example : (((buildKeys [5, 3, 8, 1, 4, 7, 9, 2, 6]).bind (fun h => delete 16 h 5)).bind
    (fun h => delete 16 h 1)).bind (forEachRev 16) = some [9, 8, 7, 6, 4, 3, 2] := by decide
/-- a duplicate insert returns −1 -/
example : ((buildKeys [2, 1, 3]).bind (fun h => insert 16 (alloc h 7 2) 7)).map (·.2) =
    some (-1) := by decide

/-- The hypothesis `Repr` is satisfiable by a heap the pointer code produced: after inserting
2, 1, 3 the heap represents the three-node tree, and the theorems above apply to it. -/
def h3 : Heap := (buildKeys [2, 1, 3]).getD empty

theorem h3_repr : Repr h3 (.node (.node .nil 1 1 .nil) 2 2 (.node .nil 3 1 .nil)) [1, 2, 3] :=
  ⟨⟨2, some 1, some 3, [1], [3], by decide, by decide,
      ⟨1, none, none, [], [], rfl, by decide, ⟨rfl, rfl⟩, ⟨rfl, rfl⟩, rfl⟩,
      ⟨3, none, none, [], [], rfl, by decide, ⟨rfl, rfl⟩, ⟨rfl, rfl⟩, rfl⟩, rfl⟩,
    by decide⟩

example : forEach 4 h3 = some [1, 2, 3] := (forward_traversal h3_repr (by decide)).1
example : forEachRev 4 h3 = some [3, 2, 1] := (backward_traversal h3_repr (by decide)).1

end Ivy.Props.C16ptr
