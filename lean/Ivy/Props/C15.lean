import Ivy.L1.Select
import Ivy.Props.C04
import Ivy.L1.TablesAgree
/-!
# C15 — poll method, interrupted waits and missing syscalls do not change behaviour

At model level this property *is* the quantifier structure of the L1 theorems: `Ivy.Props.C01 … C07
.monitor_accepts` hold for every `Method`, every availability of the kernel timer and of `epoll_pwait2`,
and every wait result — including `EINTR` at any wait, `ENOSYS`/`EPERM` for `epoll_pwait2` (fallback to
`epoll_wait`), `ENOSYS` for `ppoll` (mid-run switch to `poll`), `timerfd_create` failing (mid-run switch to
plain epoll) — because those are inputs of the machine (`WRes.eintr`, `WRes.enosys`, `timerfdAvail`).
This file states the part that is specific to C15: which method is selected, and re-exports the C04 theorem
as one instance of that quantifier structure.
-/
namespace Ivy.Props.C15
open Ivy.L1 Ivy.L1.Select

/-- the selected poll method is the first candidate (epoll-timerfd, epoll, ppoll, poll) that is neither
excluded by `IV_EXCLUDE_POLL_METHOD` (parsed as the C does) nor fails to initialise -/
theorem method_selection (exclude : Option String) (avail : Method → Bool) (m : Method)
    (h : select exclude avail = some m) :
    eligible exclude avail m = true ∧
    ∃ before after, candidates = before ++ m :: after ∧ ∀ x ∈ before, eligible exclude avail x = false := by
  unfold select at h
  rw [List.find?_eq_some_iff_append] at h
  obtain ⟨hm, before, after, hc, hb⟩ := h
  exact ⟨hm, before, after, hc, fun x hx => by simpa using hb x hx⟩

theorem no_method_only_if_none_eligible (exclude : Option String) (avail : Method → Bool)
    (h : select exclude avail = none) : ∀ m, eligible exclude avail m = false := by
  unfold select at h
  rw [List.find?_eq_none] at h
  intro m
  have : m ∈ candidates := by cases m <;> simp [candidates]
  simpa using h m this

/-- timers: never early, exactly once, no oversleep — under every method, configuration, EINTR and fallback -/
theorem timers_under_every_configuration (m : Method) (ntimers : Nat) (timerfdAvail pwait2 : Bool)
    (evs : List Ev) (s' : St) (h : Exec (St.init m ntimers timerfdAvail pwait2) evs s') :
    Ivy.Mon.C04.verdict evs = none :=
  Ivy.Props.C04.monitor_accepts m ntimers timerfdAvail pwait2 evs s' h

/-- T-gen (sample, re-checked against /repo's current code on every run): `method_is_excluded` answers as the
model's `excludeWords` / `eligible` on every row of the sample -/
theorem exclude_table_agrees : ∀ r ∈ Ivy.Generated.Tables.exclude, Ivy.L1.TablesAgree.exRowOk r :=
  Ivy.L1.TablesAgree.exclude_table_agrees

end Ivy.Props.C15
