import Ivy.L0.FdEpollProofs
/-!
# C15 (epoll back end) — the registration bookkeeping of `iv_fd_epoll.c` keeps the kernel's
interest list equal to what the handlers ask for

Model: `Ivy/L0/FdEpoll.lean` (statement-by-statement transcription of `bits_to_poll_mask`,
`__iv_fd_epoll_flush_one`, `iv_fd_epoll_flush_one`, `iv_fd_epoll_flush_pending`,
`iv_fd_epoll_notify_fd`, `iv_fd_epoll_notify_fd_sync`, `iv_fd_epoll_unregister_fd`, the dispatch
loop of `iv_fd_epoll_poll`, and of the callers in iv_fd.c: `recompute_wanted_flags`, `notify_fd`,
`iv_fd_register`, `iv_fd_register_try`, `iv_fd_unregister`, `iv_fd_set_handler_*`).  The kernel
is `kernelCtl` (ASSUMPTION: ADD on a present descriptor = EEXIST, MOD / DEL on an absent one =
ENOENT, anything on a closed one = EBADF, otherwise the entry is set / removed).

Hypothesis (`pre`, decidable, checked per operation; an operation outside it is not executed):
the API contract that the library itself enforces with iv_fatal (register only unregistered
objects, unregister only registered ones) and the environment contract: a descriptor number is
used by at most one registered object, it is open when registered and stays open while registered
(`closefd` only on free numbers).  `regtry` may additionally probe a closed or occupied number (it
then fails with EBADF / EEXIST and registers nothing).  All theorems are for EVERY operation
sequence (`run`, induction over the list); `Inv` is in `Ivy/L0/FdEpollProofs.lean`.

Property theorems only; helper lemmas live in `Ivy/L0/FdEpollProofs.lean`.
-/
namespace Ivy.Props.C15epoll
open Ivy.L0.FdEpoll

/-- After any sequence of operations: `notify` has no duplicates and `queued` is membership; only
registered objects are queued; a registered object whose `registered_bands` differ from
`wanted_bands` is queued; the kernel's entry for a registered object's descriptor is exactly the
one `registered_bands` stands for (none for 0, otherwise `(bits_to_poll_mask registered_bands,
data.ptr = the object)`): the library's belief equals the kernel's interest list; every kernel
entry belongs to a registered object on that descriptor; `iv_fatal` was not reached. -/
theorem invariant_always (ops : List Op) : Inv (run init ops) :=
  run_inv inv_init ops

/-- the same, spelled out for the belief clause -/
theorem belief_equals_kernel (ops : List Op) (o : Nat) (hr : ((run init ops).objs o).reg = true) :
    (run init ops).kernel ((run init ops).objs o).fd =
      if ((run init ops).objs o).registered = 0 then none
      else some (bitsToPollMask ((run init ops).objs o).registered, o) :=
  (invariant_always ops).belief o hr

/-- an object is on the notify list at most once, and `queued` says whether it is -/
theorem queued_once (ops : List Op) :
    (run init ops).notify.Nodup ∧
      ∀ o, ((run init ops).objs o).queued = true ↔ o ∈ (run init ops).notify :=
  ⟨(invariant_always ops).nodup, (invariant_always ops).queued_iff⟩

theorem pending_is_queued (ops : List Op) (o : Nat) (hr : ((run init ops).objs o).reg = true)
    (hne : ((run init ops).objs o).registered ≠ ((run init ops).objs o).wanted) :
    o ∈ (run init ops).notify :=
  ((invariant_always ops).queued_iff o).1 ((invariant_always ops).pending o hr hne)

/-- `wanted_bands` of a registered object is always what the three handler pointers say
(`MASKIN` iff `handler_in != NULL`, ...), so "mask of wanted" below is "mask of the handlers" -/
theorem wanted_is_handlers (ops : List Op) (o : Nat) (hr : ((run init ops).objs o).reg = true) :
    ((run init ops).objs o).wanted =
      (if ((run init ops).objs o).hin then MASKIN else 0) |||
      (if ((run init ops).objs o).hout then MASKOUT else 0) |||
      (if ((run init ops).objs o).herr then MASKERR else 0) := by
  have h := run_winv inv_init (by intro o; simp [init]) ops o hr
  rw [h]; simp [wantedOf, hr]

/-- one step from any state that satisfies the invariant (so the theorem does not depend on
starting from `init`) -/
theorem invariant_step {s : State} (hI : Inv s) (op : Op) : Inv (exec s op).1 := exec_inv hI op

example : Inv (run init [.set 0 MASKIN true, .reg 0 5, .set 0 MASKOUT true, .reg 1 6, .flush [],
    .set 0 MASKIN false, .regtry 2 5, .unreg 1]) := invariant_always _

/-- non-vacuity: that run really registers, queues and talks to the kernel -/
example : (run init [.set 0 MASKIN true, .reg 0 5, .set 1 MASKOUT true, .reg 1 6, .flush [],
    .set 0 MASKOUT true, .set 1 MASKOUT false]).notify = [0, 1] := by decide
example : (run init [.set 0 MASKIN true, .reg 0 5, .set 1 MASKOUT true, .reg 1 6, .flush [],
    .set 0 MASKOUT true, .set 1 MASKOUT false]).kernel 6 = some (EPOLLOUT, 1) := by decide

/-- the strict hypothesis along a run: every `regtry` is on an open, free descriptor number -/
def strictRun (s : State) : List Op → Bool
  | [] => true
  | op :: ops => strict s op && strictRun (exec s op).1 ops

/-- `iv_fatal` is never reached (under `pre`, i.e. for every sequence as executed by `run`) -/
theorem never_fatal (ops : List Op) : (run init ops).fatal = false :=
  (invariant_always ops).notfatal

/-- every epoll_ctl the library issues succeeds: never ADD on a present descriptor, never MOD or
DEL on an absent one -/
theorem no_invalid_ctl {s : State} (hI : Inv s) (ops : List Op) (hs : strictRun s ops = true) :
    ∀ c ∈ runCtls s ops, c.err = 0 := by
  induction ops generalizing s with
  | nil => simp [runCtls]
  | cons op ops ih =>
    simp only [strictRun, Bool.and_eq_true] at hs
    intro c hc
    simp only [runCtls, List.mem_append] at hc
    rcases hc with hc | hc
    · exact exec_ctls_ok hI op hs.1 c hc
    · exact ih (exec_inv hI op) hs.2 c hc

/-- without the strict hypothesis the only epoll_ctl that can fail is the probing ADD of a
`regtry` on a closed or occupied descriptor number; its errno is returned, nothing is registered,
`iv_fatal` is not reached -/
theorem only_probes_fail {s : State} (hI : Inv s) (o d : Nat) (hp : pre s (.regtry o d) = true)
    (hbad : strict s (.regtry o d) = false) :
    (registerTry s o d).2.2 = (if s.closed d then EBADF else EEXIST) ∧
    ((registerTry s o d).1.objs o).reg = false ∧ (registerTry s o d).1.kernel = s.kernel ∧
    (registerTry s o d).1.fatal = false ∧
    ∀ x, x ≠ o → (registerTry s o d).1.objs x = s.objs x := by
  simp only [strict, Bool.and_eq_false_iff, Bool.not_eq_false'] at hbad
  rcases registerTry_cases hI hp with ⟨hc, hf, _⟩ | ⟨_, e⟩
  · rcases hbad with h | h <;> simp_all
  · rw [e]
    refine ⟨rfl, by simp [tryFailSt], rfl, hI.notfatal, ?_⟩
    intro x hx; simp [tryFailSt, upd_other _ _ hx]

example : let s := run init [.set 0 MASKIN true, .reg 0 5, .flush []]
    pre s (.regtry 1 5) = true ∧ strict s (.regtry 1 5) = false ∧
      pre s (.regtry 1 6) = true ∧ strict s (.regtry 1 6) = true := by decide
example : strictRun init [.set 0 MASKIN true, .reg 0 5, .flush [], .set 0 MASKIN false,
    .set 0 MASKERR true, .flush [], .regtry 1 6, .unreg 0] = true := by decide
example : runCtls init [.set 0 MASKIN true, .reg 0 5, .flush [], .set 0 MASKIN false,
    .set 0 MASKERR true, .flush [], .unreg 0] =
    [⟨.add, 5, EPOLLIN, 0, 0⟩, ⟨.mod, 5, 0, 0, 0⟩, ⟨.del, 5, 0, 0, 0⟩] := by decide
/-- the probe on an occupied number: EEXIST -/
example : runCtls init [.set 0 MASKIN true, .reg 0 5, .flush [], .regtry 1 5] =
    [⟨.add, 5, EPOLLIN, 0, 0⟩, ⟨.add, 5, EPOLLIN ||| EPOLLOUT, 1, EEXIST⟩] := by decide

/-- After the flush (what both poll functions do before every epoll_wait): the notify list is
empty, every registered object has `registered_bands = wanted_bands`, and the kernel has the entry
`(m, p)` for descriptor `d` iff `p` is a registered object on `d` with some handler and
`m = bits_to_poll_mask (wanted_bands p)`. -/
theorem flush_installs_wanted {s : State} (hI : Inv s) :
    (flushPending s).1.notify = [] ∧
    (∀ o, ((flushPending s).1.objs o).reg = true →
      ((flushPending s).1.objs o).registered = ((flushPending s).1.objs o).wanted) ∧
    (∀ d m p, (flushPending s).1.kernel d = some (m, p) ↔
      (((flushPending s).1.objs p).reg = true ∧ ((flushPending s).1.objs p).fd = d ∧
        ((flushPending s).1.objs p).wanted ≠ 0 ∧
        m = bitsToPollMask ((flushPending s).1.objs p).wanted)) := by
  have h := flushPending_spec hI
  exact ⟨h.empty, fun o hr => synced_of_empty h.inv h.empty hr, kernel_iff_of_empty h.inv h.empty⟩

/-- The same as a finite map.  `pollSet s : fdnum ↦ bands` (defined from the registered objects
and their handlers only, no epoll notion in it) is the set a poll(2) back end hands to the kernel
in its `pfds` array; after the flush the epoll interest list is that map with the bands turned
into EPOLL bits: both back ends present the same set to the kernel. -/
theorem flush_presents_pollSet {s : State} (hI : Inv s) (d : Nat) :
    ((flushPending s).1.kernel d).map Prod.fst =
      (pollSet (flushPending s).1 d).map bitsToPollMask :=
  kernel_eq_pollSet_of_empty (flushPending_spec hI).inv (flushPending_spec hI).empty d

/-- the flush changes no handler, no `wanted_bands`, no registration: the poll set is the one the
user asked for before the flush -/
theorem flush_keeps_requests {s : State} (hI : Inv s) (x : Nat) :
    ((flushPending s).1.objs x).reg = (s.objs x).reg ∧ ((flushPending s).1.objs x).fd = (s.objs x).fd ∧
    ((flushPending s).1.objs x).wanted = (s.objs x).wanted ∧
    ((flushPending s).1.objs x).hin = (s.objs x).hin ∧ ((flushPending s).1.objs x).hout = (s.objs x).hout ∧
    ((flushPending s).1.objs x).herr = (s.objs x).herr :=
  (flushPending_spec hI).same x

example : let s := run init [.set 0 MASKIN true, .reg 0 5, .set 1 MASKOUT true, .set 1 MASKERR true,
      .reg 1 6, .reg 2 7]
    s.notify = [0, 1] ∧ (flushPending s).1.kernel 5 = some (EPOLLIN, 0) ∧
      (flushPending s).1.kernel 6 = some (EPOLLOUT, 1) ∧ (flushPending s).1.kernel 7 = none ∧
      pollSet (flushPending s).1 6 = some (MASKOUT ||| MASKERR) := by decide

/-- After `iv_fd_unregister` of a registered object the kernel has no entry for its descriptor —
even when a change was still queued (the object is flushed by `iv_fd_epoll_unregister_fd`, at most
one epoll_ctl: a DEL that succeeds) — the object is off the notify list, and nothing about other
objects, other descriptors or the order of the rest of the notify list changes. -/
theorem unregister_forgets {s : State} (hI : Inv s) {o : Nat} (hr : (s.objs o).reg = true) :
    (unregister s o).1.kernel (s.objs o).fd = none ∧
    o ∉ (unregister s o).1.notify ∧ ((unregister s o).1.objs o).queued = false ∧
    ((unregister s o).1.objs o).reg = false ∧
    (∀ x, x ≠ o → (unregister s o).1.objs x = s.objs x) ∧
    (∀ d, d ≠ (s.objs o).fd → (unregister s o).1.kernel d = s.kernel d) ∧
    (unregister s o).1.notify = s.notify.filter (· != o) ∧
    (unregister s o).2 = (if (s.objs o).registered = 0 then []
      else [⟨.del, (s.objs o).fd, 0, o, 0⟩]) := by
  rw [unregister_eq hI hr]
  refine ⟨by simp [unregisteredSt], by simp [unregisteredSt], by simp [unregisteredSt],
    by simp [unregisteredSt], ?_, ?_, rfl, rfl⟩
  · intro x hx; simp [unregisteredSt, upd_other _ _ hx]
  · intro d hd; simp [unregisteredSt, upd_other _ _ hd]

/-- so no event can be delivered for an unregistered (possibly freed) object: every entry of the
interest list carries the `data.ptr` of an object that is registered on that descriptor -/
theorem kernel_entries_are_registered (ops : List Op) (d m p : Nat)
    (h : (run init ops).kernel d = some (m, p)) :
    ((run init ops).objs p).reg = true ∧ ((run init ops).objs p).fd = d :=
  (invariant_always ops).owner d m p h

/-- a change still queued at unregister time: IN registered, handler removed, not yet flushed -/
example : let s := run init [.set 0 MASKIN true, .reg 0 5, .flush [], .set 0 MASKIN false]
    s.notify = [0] ∧ s.kernel 5 = some (EPOLLIN, 0) ∧ (unregister s 0).1.kernel 5 = none ∧
      (unregister s 0).2 = [⟨.del, 5, 0, 0, 0⟩] := by decide

/-- `__iv_fd_epoll_flush_one` issues at most one epoll_ctl (it returns an `Option`), and none when
`registered_bands = wanted_bands` -/
theorem flushOne_no_call_when_equal (s : State) (o : Nat)
    (h : (s.objs o).registered = (s.objs o).wanted) : (flushOneRaw s o).2 = none := by
  simp [flushOneRaw, delInitNotify, h]

/-- `iv_fd_epoll_flush_pending` issues at most one epoll_ctl per queued object, each for a
different queued object whose `registered_bands` really differ from `wanted_bands`, with the op of
the C table and the mask of the wanted bands -/
theorem flush_minimal {s : State} (hI : Inv s) :
    (flushPending s).2.length ≤ s.notify.length ∧
    ((flushPending s).2.map (·.data)).Nodup ∧
    ∀ c ∈ (flushPending s).2, c.data ∈ s.notify ∧
      (s.objs c.data).registered ≠ (s.objs c.data).wanted ∧ c.fd = (s.objs c.data).fd ∧
      c.mask = bitsToPollMask (s.objs c.data).wanted ∧
      c.op = chooseOp (s.objs c.data).registered (s.objs c.data).wanted := by
  have h := flushPending_spec hI
  rw [h.ctls]
  exact ⟨List.length_filterMap_le _ _, pendingCtl_once s hI.nodup, fun c hc => (pendingCtl_of_mem hc).2⟩

/-- setting a handler and setting it back before the flush costs no system call: the object is
taken off the notify list again and the flush issues nothing for it -/
theorem toggle_back_no_syscall {s : State} (hI : Inv s) {o : Nat} (hr : (s.objs o).reg = true)
    (hsync : (s.objs o).registered = wantedOf (s.objs o)) (b : Bool) :
    let s2 := setHandler (setHandler s o MASKIN b) o MASKIN (s.objs o).hin
    o ∉ s2.notify ∧ (s2.objs o).registered = (s2.objs o).wanted ∧
      ∀ c ∈ (flushPending s2).2, c.data ≠ o := by
  intro s2
  have hI2 : Inv s2 := inv_setHandler (inv_setHandler hI _ _ _) _ _ _
  have hobj := setHandler_twice_obj hr b
  change s2.objs o = _ at hobj
  have hw : (s2.objs o).registered = (s2.objs o).wanted := by rw [hobj]; exact hsync
  have hnot : o ∉ s2.notify := by
    intro hm
    have hq := (hI2.queued_iff o).2 hm
    rw [hobj] at hq
    simp [hsync] at hq
  refine ⟨hnot, hw, ?_⟩
  intro c hc hco
  rw [(flushPending_spec hI2).ctls] at hc
  exact hnot (hco ▸ (pendingCtl_of_mem hc).2.1)

example : let s := run init [.set 0 MASKIN true, .reg 0 5, .flush []]
    (s.objs 0).registered = wantedOf (s.objs 0) ∧
    (flushPending (setHandler (setHandler s 0 MASKIN false) 0 MASKIN true)).2 = [] ∧
    (setHandler s 0 MASKIN false).notify = [0] := by decide

/-- the bands reported for one event, all 16 combinations of IN / OUT / ERR / HUP (`i o e h`):
IN ready iff IN|ERR|HUP, OUT ready iff OUT|ERR|HUP, ERR ready iff ERR|HUP -/
theorem dispatch_table : ∀ i o e h : Bool,
    readyBands ((if i then EPOLLIN else 0) ||| (if o then EPOLLOUT else 0) |||
      (if e then EPOLLERR else 0) ||| (if h then EPOLLHUP else 0)) =
    (if i || e || h then MASKIN else 0) ||| (if o || e || h then MASKOUT else 0) |||
      (if e || h then MASKERR else 0) := by decide

theorem dispatch_rows :
    readyBands 0 = 0 ∧
    readyBands EPOLLIN = MASKIN ∧ readyBands EPOLLOUT = MASKOUT ∧
    readyBands (EPOLLIN ||| EPOLLOUT) = MASKIN ||| MASKOUT ∧
    readyBands EPOLLERR = 7 ∧ readyBands (EPOLLERR ||| EPOLLIN) = 7 ∧
    readyBands (EPOLLERR ||| EPOLLOUT) = 7 ∧ readyBands (EPOLLERR ||| EPOLLIN ||| EPOLLOUT) = 7 ∧
    readyBands EPOLLHUP = 7 ∧ readyBands (EPOLLHUP ||| EPOLLIN) = 7 ∧
    readyBands (EPOLLHUP ||| EPOLLOUT) = 7 ∧ readyBands (EPOLLHUP ||| EPOLLIN ||| EPOLLOUT) = 7 ∧
    readyBands (EPOLLHUP ||| EPOLLERR) = 7 ∧ readyBands (EPOLLHUP ||| EPOLLERR ||| EPOLLIN) = 7 ∧
    readyBands (EPOLLHUP ||| EPOLLERR ||| EPOLLOUT) = 7 ∧
    readyBands (EPOLLHUP ||| EPOLLERR ||| EPOLLIN ||| EPOLLOUT) = 7 := by decide

/-- The loop over the batch (three conditional `iv_fd_make_ready` calls per event) puts each
reported object on the active list once, in batch order, with exactly `readyBands events`;
an event with none of the four bits reports nothing.  (Events of one batch are for different
objects: one interest-list entry per descriptor, one descriptor per registered object.) -/
theorem dispatch_eq (evs : List (Nat × Nat)) (hd : (evs.map (·.1)).Nodup) :
    dispatch evs = (evs.filter (fun e => readyBands e.2 != 0)).map (fun e => (e.1, readyBands e.2)) := by
  have := dispatch_fold_eq evs [] hd (by simp)
  simpa [dispatch] using this

/-- events are only ever dispatched to registered objects: whatever descriptors the kernel
reports, the `data.ptr` it hands back is a registered object on that descriptor -/
theorem dispatch_targets_registered (ops : List Op) (kev : List (Nat × Nat)) :
    ∀ pe ∈ kernelEvents (run init ops).kernel kev, ((run init ops).objs pe.1).reg = true := by
  intro pe hpe
  simp only [kernelEvents, List.mem_filterMap] at hpe
  obtain ⟨e, _, he⟩ := hpe
  cases hk : (run init ops).kernel e.1 with
  | none => simp [hk] at he
  | some md =>
    obtain ⟨m, p⟩ := md
    simp [hk] at he
    subst he
    exact ((invariant_always ops).owner e.1 m p hk).1

example : dispatch [(3, EPOLLIN), (1, EPOLLHUP), (2, EPOLLOUT ||| EPOLLIN)] = [(3, 1), (1, 7), (2, 3)] := by
  decide
example : ([(3, EPOLLIN), (1, EPOLLHUP), (2, EPOLLOUT ||| EPOLLIN)].map (·.1)).Nodup := by decide

/-- If the descriptor of a queued object was closed behind the library's back, the flush gets
EBADF: `registered_bands` is NOT updated (it still equals what the kernel had), the object is off
the notify list, `notify_fd_sync` returns the error and `iv_fd_epoll_flush_one` reaches
`iv_fatal`. -/
theorem closed_descriptor_is_fatal (s : State) (o : Nat) (hc : s.closed (s.objs o).fd = true)
    (hne : (s.objs o).registered ≠ (s.objs o).wanted) :
    ctlErr (notifySync s o).2 = EBADF ∧ ((notifySync s o).1.objs o).registered = (s.objs o).registered ∧
    (notifySync s o).1.kernel = s.kernel ∧ (flushOne s o).1.fatal = true := by
  have h := flushOneRaw_err s o (e := EBADF) hne (by decide) (by simp [kernelCtl, hc])
  refine ⟨by simp [notifySync, h, ctlErr], by simp [notifySync, h, delInitNotify],
    by simp [notifySync, h, delInitNotify], ?_⟩
  unfold flushOne
  simp [h, ctlErr]

example : let s := run init [.set 0 MASKIN true, .reg 0 5]
    let s := { s with closed := upd s.closed 5 true }
    s.closed (s.objs 0).fd = true ∧ (s.objs 0).registered ≠ (s.objs 0).wanted := by decide

/-- Mutant 1 (`registered_bands = wanted_bands` even when epoll_ctl failed): a probing
`iv_fd_register_try` on an occupied descriptor leaves the library believing IN|OUT is registered
for an object the kernel knows nothing about; the correct code leaves 0. -/
theorem mutant_update_on_failure_breaks_belief :
    let s := run init [.set 0 MASKIN true, .reg 0 5, .flush []]
    let mid := tryMid s 1 5
    ((flushOneRawM1 mid 1).1.objs 1).registered = 3 ∧ ctlErr (flushOneRawM1 mid 1).2 = EEXIST ∧
    (flushOneRawM1 mid 1).1.kernel 5 = some (EPOLLIN, 0) ∧
    ((flushOneRaw mid 1).1.objs 1).registered = 0 ∧
    ¬ ((flushOneRawM1 mid 1).1.kernel ((flushOneRawM1 mid 1).1.objs 1).fd =
        entry ((flushOneRawM1 mid 1).1.objs 1).registered 1) := by decide

/-- the same mutant with a descriptor closed behind the library's back: belief IN, kernel nothing -/
theorem mutant_update_on_failure_breaks_belief_closed :
    let s := run init [.set 0 MASKIN true, .reg 0 5]
    let s := { s with closed := upd s.closed 5 true }
    ((flushOneRawM1 s 0).1.objs 0).registered = 1 ∧ (flushOneRawM1 s 0).1.kernel 5 = none ∧
    ((flushOneRaw s 0).1.objs 0).registered = 0 := by decide

/-- Mutant 2 (`iv_fd_unregister` without the flush in `iv_fd_epoll_unregister_fd`): the kernel
keeps an entry whose `data.ptr` is an object that is no longer registered (a dangling pointer once
the user frees it), and the unregistered object stays on the notify list: `owner`, `queued_reg`
fail, so `Inv` fails. -/
theorem mutant_no_flush_on_unregister_breaks_inv :
    let s := run init [.set 0 MASKIN true, .reg 0 5, .flush []]
    let s' := (unregisterM2 s 0).1
    s'.kernel 5 = some (EPOLLIN, 0) ∧ (s'.objs 0).reg = false ∧ s'.notify = [0] ∧ ¬ Inv s' := by
  refine ⟨by decide, by decide, by decide, ?_⟩
  intro hI
  have h := hI.owner 5 EPOLLIN 0 (by decide)
  exact absurd h.1 (by decide)

end Ivy.Props.C15epoll
