import Ivy.L0.TimeArithProofs
/-!
# C04 (time arithmetic) — deadlines, relative timeouts, milliseconds, the cached clock

`Ivy/L0/TimeArith.lean` transcribes `timespec_gt`, `to_relative`, `to_msec`
(`/repo/src/iv_private.h`), `iv_validate_now` / `iv_invalidate_now`, the expiry test of
`iv_run_timers`, `iv_get_soonest_timeout` (`/repo/src/iv_timer.c`) and the timerfd value of
`iv_fd_epoll_timerfd_{set,clear}_poll_timeout` (`/repo/src/iv_fd_epoll.c`) statement by statement.

All theorems hold for ALL normalised `struct timespec`s (`Ts.norm`: `0 ≤ tv_nsec < 10^9`) with
unbounded `Int` seconds — negative seconds included.  The C code computes in `time_t` / `long`
(64 bit) and returns `int` (32 bit) from `to_msec`; the theorems `toRelative_no_overflow` /
`toMsec_no_overflow` show that under the side condition `SecBound` (`|tv_sec| < 2^62`) every
intermediate value fits its C type, so the C arithmetic coincides with the `Int` arithmetic here.

`toNs t = t.sec * 10^9 + t.nsec` is the instant in nanoseconds; `remaining now abs =
max 0 (toNs abs - toNs now)`.

Each main theorem is followed by an `example` on concrete non-trivial values (non-vacuity).
Property theorems only; lemmas live in `Ivy/L0/TimeArithProofs.lean`.
-/
namespace Ivy.Props.C04time
open Ivy.TimeArith

/-- `timespec_gt a b` says exactly that instant `a` is later than instant `b` -/
theorem tsGt_iff {a b : Ts} (ha : a.norm) (hb : b.norm) : tsGt a b = true ↔ toNs b < toNs a :=
  tsGt_iff_toNs ha hb

example : tsGt ⟨5, 0⟩ ⟨4, 999999999⟩ = true ∧ toNs ⟨4, 999999999⟩ < toNs ⟨5, 0⟩ ∧
    tsGt ⟨-1, 999999999⟩ ⟨-1, 999999998⟩ = true ∧ tsGt ⟨-2, 999999999⟩ ⟨-1, 0⟩ = false := by decide

theorem tsGt_irrefl (a : Ts) : tsGt a a = false := by
  cases h : tsGt a a
  · rfl
  · rw [tsGt_eq] at h; omega

/-- transitive (needs no normalisation: it is the lexicographic order) -/
theorem tsGt_trans {a b c : Ts} (h1 : tsGt a b = true) (h2 : tsGt b c = true) : tsGt a c = true := by
  rw [tsGt_eq] at *; omega

theorem tsGt_asymm {a b : Ts} (h : tsGt a b = true) : tsGt b a = false := by
  cases h' : tsGt b a
  · rfl
  · rw [tsGt_eq] at *; omega

/-- total: two values are ordered one way or the other, or are the same `struct timespec` -/
theorem tsGt_total (a b : Ts) : tsGt a b = true ∨ a = b ∨ tsGt b a = true := by
  rw [tsGt_eq, tsGt_eq]
  cases a; cases b; simp; omega

example : tsGt ⟨3, 5⟩ ⟨3, 4⟩ = true ∧ tsGt ⟨3, 4⟩ ⟨2, 999999999⟩ = true ∧ tsGt ⟨3, 5⟩ ⟨2, 999999999⟩ = true ∧
    tsGt ⟨3, 4⟩ ⟨3, 5⟩ = false := by decide

/-- on normalised values the instant determines the `struct timespec` (so `=` above is equality of
instants) -/
theorem toNs_injective {a b : Ts} (ha : a.norm) (hb : b.norm) (h : toNs a = toNs b) : a = b :=
  toNs_inj ha hb h

/-- the expiry test of `iv_run_timers`: the head timer is run iff its deadline is not after the
cached clock value -/
theorem due_iff {now exp : Ts} (hn : now.norm) (he : exp.norm) :
    due now exp = true ↔ toNs exp ≤ toNs now :=
  due_iff_toNs hn he

example : due ⟨10, 500⟩ ⟨10, 500⟩ = true ∧ due ⟨10, 500⟩ ⟨10, 501⟩ = false ∧
    due ⟨10, 0⟩ ⟨9, 999999999⟩ = true := by decide

theorem toRelative_norm {now abs : Ts} (hn : now.norm) (ha : abs.norm) : (toRelative now abs).norm :=
  Ivy.TimeArith.toRelative_norm hn ha

/-- the result is the remaining time, clamped at zero -/
theorem toRelative_toNs {now abs : Ts} (hn : now.norm) (ha : abs.norm) :
    toNs (toRelative now abs) = max 0 (toNs abs - toNs now) :=
  Ivy.TimeArith.toRelative_toNs hn ha

/-- a borrow, a clamp, a negative clock -/
example : toRelative ⟨7, 999999999⟩ ⟨9, 1⟩ = ⟨1, 2⟩ ∧ toRelative ⟨9, 1⟩ ⟨7, 999999999⟩ = ⟨0, 0⟩ ∧
    toRelative ⟨-3, 999999000⟩ ⟨2, 500⟩ = ⟨4, 1500⟩ ∧
    toNs (toRelative ⟨7, 999999999⟩ ⟨9, 1⟩) = toNs ⟨9, 1⟩ - toNs ⟨7, 999999999⟩ := by decide

theorem toRelative_sec_nonneg {now abs : Ts} (hn : now.norm) (ha : abs.norm) :
    0 ≤ (toRelative now abs).sec :=
  Ivy.TimeArith.toRelative_sec_nonneg hn ha

/-- the relative time is `{0, 0}` exactly when the timer is due -/
theorem toRelative_zero_iff_due {now abs : Ts} (hn : now.norm) (ha : abs.norm) :
    toRelative now abs = ⟨0, 0⟩ ↔ due now abs = true := by
  rw [due_iff_toNs hn ha]
  have h2 := toRelative_toNs hn ha
  have h0 : toNs ⟨0, 0⟩ = 0 := rfl
  constructor
  · intro h; rw [h, h0] at h2; omega
  · intro h
    exact toNs_inj (toRelative_norm hn ha) (by decide) (by rw [h2, h0]; omega)

example : toRelative ⟨5, 7⟩ ⟨5, 7⟩ = ⟨0, 0⟩ ∧ due ⟨5, 7⟩ ⟨5, 7⟩ = true ∧
    toRelative ⟨5, 7⟩ ⟨5, 8⟩ = ⟨0, 1⟩ ∧ due ⟨5, 7⟩ ⟨5, 8⟩ = false := by decide

/-- NO OVERFLOW in `to_relative`: with `|tv_sec| < 2^62` on both sides every value the C
statements store fits a signed 64-bit `time_t` / `long` -/
theorem toRelative_no_overflow {now abs : Ts} (hn : now.norm) (ha : abs.norm)
    (bn : SecBound now) (ba : SecBound abs) : ∀ x ∈ relIntermediates now abs, I64 x := by
  unfold Ts.norm SecBound at *
  unfold relIntermediates
  intro x hx
  unfold I64
  cases hg : tsGt abs now
  · simp [hg] at hx; omega
  · by_cases hb : abs.nsec - now.nsec < 0 <;> simp [hg, hb] at hx <;> omega

example : relIntermediates ⟨-4611686018427387903, 999999999⟩ ⟨4611686018427387903, 0⟩ =
    [9223372036854775806, -999999999, 9223372036854775805, 1] := by decide

/-- no deadline: `-1` (block indefinitely) -/
theorem toMsec_none (now : Ts) : toMsec now none = -1 := rfl

/-- `to_msec` as a function of the remaining time alone -/
theorem toMsec_spec {now abs : Ts} (hn : now.norm) (ha : abs.norm) :
    toMsec now (some abs) =
      if remaining now abs < 86400 * 1000000000 then (remaining now abs + 999999) / 1000000
      else 86400000 :=
  Ivy.TimeArith.toMsec_spec hn ha

/-- with a deadline the result lies in `[0, 86400000]` .. -/
theorem toMsec_range {now abs : Ts} (hn : now.norm) (ha : abs.norm) :
    0 ≤ toMsec now (some abs) ∧ toMsec now (some abs) ≤ 86400000 := by
  rw [Ivy.TimeArith.toMsec_spec hn ha]
  have := remaining_nonneg now abs
  unfold capMs; split <;> omega

/-- .. so it is never mistaken for "no deadline" .. -/
theorem toMsec_ne_neg_one {now abs : Ts} (hn : now.norm) (ha : abs.norm) :
    toMsec now (some abs) ≠ -1 := by
  have := toMsec_range hn ha; omega

/-- .. and in every case the result is in `[-1, 86400000]` and fits the C `int` -/
theorem toMsec_fits_int {now : Ts} {abs : Option Ts} (hn : now.norm) (ha : ∀ a, abs = some a → a.norm) :
    -1 ≤ toMsec now abs ∧ toMsec now abs ≤ 86400000 ∧ I32 (toMsec now abs) := by
  unfold I32
  cases abs with
  | none => simp [toMsec]
  | some a => have := toMsec_range hn (ha a rfl); omega

example : toMsec ⟨0, 0⟩ (some ⟨0, 1⟩) = 1 ∧ toMsec ⟨100, 0⟩ (some ⟨86499, 999000001⟩) = 86400000 ∧
    toMsec ⟨100, 0⟩ (some ⟨1000000, 0⟩) = 86400000 ∧ toMsec ⟨100, 0⟩ (some ⟨3, 0⟩) = 0 := by decide

/-- NO OVERFLOW in `to_msec`: every intermediate value fits 64 bits and the returned value fits
`int` (given `to_relative` did not overflow: `toRelative_no_overflow`) -/
theorem toMsec_no_overflow {now abs : Ts} (hn : now.norm) (ha : abs.norm) :
    (∀ x ∈ msecIntermediates now abs, I64 x) ∧
    (∀ h : msecIntermediates now abs ≠ [], I32 ((msecIntermediates now abs).getLast h)) ∧
    msecIntermediates now abs ≠ [] := by
  have h1 := Ivy.TimeArith.toRelative_norm hn ha
  have h3 := Ivy.TimeArith.toRelative_sec_nonneg hn ha
  unfold Ts.norm at h1
  unfold msecIntermediates I64 I32
  simp only
  rw [Int.tdiv_eq_ediv_of_nonneg (by omega)]
  generalize (toRelative now abs).sec = s at *
  generalize (toRelative now abs).nsec = n at *
  by_cases hs : s < 86400
  · simp only [if_pos hs]
    refine ⟨?_, ?_, by simp⟩
    · intro x hx; simp at hx; omega
    · intro _; simp; omega
  · simp only [if_neg hs]
    refine ⟨?_, ?_, by simp⟩
    · intro x hx; simp at hx; omega
    · intro _; simp

example : msecIntermediates ⟨0, 0⟩ ⟨86399, 999999999⟩ = [86399000, 1000999998, 1000, 86400000] := by
  decide

/-- BELOW THE CAP the result is the LEAST number of milliseconds that covers the remaining time -/
theorem toMsec_least {now abs : Ts} (hn : now.norm) (ha : abs.norm)
    (hr : toNs abs - toNs now < 86400 * 1000000000) :
    toNs abs - toNs now ≤ toMsec now (some abs) * 1000000 ∧
    ∀ k : Int, 0 ≤ k → toNs abs - toNs now ≤ k * 1000000 → toMsec now (some abs) ≤ k := by
  rw [toMsec_below hn ha hr]
  exact ⟨Int.le_trans (le_remaining ..) (ceil_ms _).1,
    fun k hk hle => ceil_ms_least (Int.max_le.2 ⟨by omega, hle⟩)⟩

/-- never early: sleeping the returned number of milliseconds reaches the deadline -/
theorem toMsec_never_early {now abs : Ts} (hn : now.norm) (ha : abs.norm)
    (hr : toNs abs - toNs now < 86400 * 1000000000) :
    toNs abs - toNs now ≤ toMsec now (some abs) * 1000000 :=
  (toMsec_least hn ha hr).1

/-- never more than 1 ms late -/
theorem toMsec_late_bound {now abs : Ts} (hn : now.norm) (ha : abs.norm)
    (hr : toNs abs - toNs now < 86400 * 1000000000) :
    toMsec now (some abs) * 1000000 < remaining now abs + 1000000 := by
  rw [toMsec_below hn ha hr]
  exact (ceil_ms _).2

/-- 1.000001 ms remaining → 2 ms; exactly 1 ms → 1 ms; 1 ns → 1 ms; the largest uncapped value -/
example : toMsec ⟨7, 999000000⟩ (some ⟨8, 1000001⟩) = 3 ∧ toMsec ⟨7, 999000000⟩ (some ⟨8, 1000000⟩) = 2 ∧
    toMsec ⟨7, 999999999⟩ (some ⟨8, 0⟩) = 1 ∧ toMsec ⟨7, 1⟩ (some ⟨86407, 0⟩) = 86400000 ∧
    toMsec ⟨7, 0⟩ (some ⟨86406, 999000000⟩) = 86399999 := by decide

/-- zero timeout exactly when the timer is due (so a positive remaining time never yields a busy
poll, and a due timer never sleeps) -/
theorem toMsec_zero_iff_due {now abs : Ts} (hn : now.norm) (ha : abs.norm) :
    toMsec now (some abs) = 0 ↔ due now abs = true := by
  rw [due_iff hn ha, Ivy.TimeArith.toMsec_spec hn ha, capMs_zero_iff (remaining_nonneg ..)]
  unfold remaining; omega

example : toMsec ⟨5, 0⟩ (some ⟨5, 0⟩) = 0 ∧ due ⟨5, 0⟩ ⟨5, 0⟩ = true ∧
    toMsec ⟨5, 0⟩ (some ⟨5, 1⟩) = 1 ∧ due ⟨5, 0⟩ ⟨5, 1⟩ = false := by decide

/-- monotone in the deadline: a later deadline never gives a shorter sleep.  With the heap handing
out its minimum (`iv_get_soonest_timeout`), the loop's timeout is the smallest over all timers. -/
theorem toMsec_mono {now a b : Ts} (hn : now.norm) (ha : a.norm) (hb : b.norm)
    (h : toNs a ≤ toNs b) : toMsec now (some a) ≤ toMsec now (some b) := by
  rw [Ivy.TimeArith.toMsec_spec hn ha, Ivy.TimeArith.toMsec_spec hn hb]
  exact capMs_mono (remaining_mono h)

example : toMsec ⟨1, 0⟩ (some ⟨1, 5000000⟩) = 5 ∧ toMsec ⟨1, 0⟩ (some ⟨1, 5000001⟩) = 6 ∧
    toMsec ⟨1, 0⟩ (some ⟨90000, 0⟩) = 86400000 := by decide

/-- the cap: a day or more remaining → exactly 86400000 ms -/
theorem toMsec_cap {now abs : Ts} (hn : now.norm) (ha : abs.norm)
    (hr : 86400 * 1000000000 ≤ toNs abs - toNs now) : toMsec now (some abs) = 86400000 := by
  rw [Ivy.TimeArith.toMsec_spec hn ha, capMs, if_neg]
  unfold remaining; omega

/-- below a day the cap value is not reached unless the last millisecond is rounded up to it -/
theorem toMsec_cap_iff {now abs : Ts} (hn : now.norm) (ha : abs.norm) :
    toMsec now (some abs) = 86400000 ↔ 86399999 * 1000000 < toNs abs - toNs now := by
  rw [Ivy.TimeArith.toMsec_spec hn ha, capMs_cap_iff]
  unfold remaining; omega

/-- a capped sleep is never late, only early: the cap never exceeds the remaining time (the loop
wakes up, finds the timer not due, and computes a new timeout) -/
theorem toMsec_cap_not_late {now abs : Ts} (hn : now.norm) (ha : abs.norm)
    (hr : 86400 * 1000000000 ≤ toNs abs - toNs now) :
    toMsec now (some abs) * 1000000 ≤ toNs abs - toNs now := by
  rw [toMsec_cap hn ha hr]; omega

example : toMsec ⟨0, 1⟩ (some ⟨86400, 1⟩) = 86400000 ∧ toMsec ⟨0, 1⟩ (some ⟨86400, 0⟩) = 86400000 ∧
    toMsec ⟨0, 1000001⟩ (some ⟨86400, 0⟩) = 86399999 ∧
    toMsec ⟨-5, 0⟩ (some ⟨31536000, 0⟩) = 86400000 := by decide

/-- in every case (capped or not) the timeout is positive while the timer is not due: the loop
always makes progress in time, it does not spin -/
theorem toMsec_pos_of_not_due {now abs : Ts} (hn : now.norm) (ha : abs.norm)
    (h : due now abs = false) : 0 < toMsec now (some abs) := by
  have h1 := toMsec_range hn ha
  have h2 := toMsec_zero_iff_due hn ha
  have : toMsec now (some abs) ≠ 0 := fun h0 => by rw [h2.1 h0] at h; cases h
  omega

/-- poll/epoll_wait (`to_msec`) and ppoll/epoll_pwait2 (`to_relative`) sleep the same amount up
to the rounding to the next millisecond: below the cap `to_msec = ceil(to_relative / 1 ms)` .. -/
theorem toMsec_eq_ceil_toRelative {now abs : Ts} (hn : now.norm) (ha : abs.norm)
    (hr : toNs abs - toNs now < 86400 * 1000000000) :
    toMsec now (some abs) = (toNs (toRelative now abs) + 999999) / 1000000 := by
  rw [toMsec_below hn ha hr, toRelative_toNs hn ha]; rfl

/-- .. and in general the minimum of that and the cap -/
theorem toMsec_eq_min_cap {now abs : Ts} (hn : now.norm) (ha : abs.norm) :
    toMsec now (some abs) = min 86400000 ((toNs (toRelative now abs) + 999999) / 1000000) := by
  rw [Ivy.TimeArith.toMsec_spec hn ha, toRelative_toNs hn ha]
  exact capMs_eq_min _

/-- the millisecond sleep covers the nanosecond sleep and exceeds it by less than 1 ms -/
theorem toMsec_vs_toRelative {now abs : Ts} (hn : now.norm) (ha : abs.norm)
    (hr : toNs abs - toNs now < 86400 * 1000000000) :
    toNs (toRelative now abs) ≤ toMsec now (some abs) * 1000000 ∧
    toMsec now (some abs) * 1000000 < toNs (toRelative now abs) + 1000000 := by
  rw [toMsec_eq_ceil_toRelative hn ha hr]
  exact ceil_ms _

example : toRelative ⟨3, 999999999⟩ ⟨4, 2500000⟩ = ⟨0, 2500001⟩ ∧
    toMsec ⟨3, 999999999⟩ (some ⟨4, 2500000⟩) = 3 ∧ (toNs ⟨0, 2500001⟩ + 999999) / 1000000 = 3 := by
  decide

/-- a timer never fires early: while the clock is before the deadline it is not due -/
theorem not_due_before {now abs : Ts} (hn : now.norm) (ha : abs.norm) (h : toNs now < toNs abs) :
    due now abs = false := by
  cases hd : due now abs
  · rfl
  · have := (due_iff hn ha).1 hd; omega

/-- PROGRESS (ppoll / epoll_pwait2): once the clock has advanced by at least the relative
timeout, the timer is due — the loop does not have to go round again -/
theorem due_after_toRelative {now now' abs : Ts} (hn : now.norm) (hn' : now'.norm) (ha : abs.norm)
    (h : toNs now + toNs (toRelative now abs) ≤ toNs now') : due now' abs = true := by
  rw [due_iff hn' ha]
  rw [toRelative_toNs hn ha] at h
  omega

/-- PROGRESS (poll / epoll_wait), below the cap: once the clock has advanced by at least the
returned number of milliseconds, the timer is due -/
theorem due_after_toMsec {now now' abs : Ts} (hn : now.norm) (hn' : now'.norm) (ha : abs.norm)
    (hr : toNs abs - toNs now < 86400 * 1000000000)
    (h : toNs now + toMsec now (some abs) * 1000000 ≤ toNs now') : due now' abs = true := by
  rw [due_iff hn' ha]
  have := toMsec_never_early hn ha hr
  omega

/-- at the cap: a full capped sleep leaves strictly less to wait (the distance shrinks by a
day each round, so finitely many rounds reach the uncapped case) -/
theorem remaining_after_cap {now now' abs : Ts} (hn : now.norm) (ha : abs.norm)
    (hr : 86400 * 1000000000 ≤ toNs abs - toNs now)
    (h : toNs now + toMsec now (some abs) * 1000000 ≤ toNs now') :
    remaining now' abs + 86400 * 1000000000 ≤ remaining now abs := by
  rw [toMsec_cap hn ha hr] at h
  unfold remaining; omega

/-- the clock after an exact sleep of the computed length -/
example : toRelative ⟨10, 999000000⟩ ⟨12, 500⟩ = ⟨1, 1000500⟩ ∧
    toNs ⟨10, 999000000⟩ + toNs ⟨1, 1000500⟩ = toNs ⟨12, 500⟩ ∧ due ⟨12, 500⟩ ⟨12, 500⟩ = true ∧
    toMsec ⟨10, 999000000⟩ (some ⟨12, 500⟩) = 1002 ∧
    toNs ⟨10, 999000000⟩ + 1002 * 1000000 = toNs ⟨12, 1000000⟩ ∧ due ⟨12, 1000000⟩ ⟨12, 500⟩ = true ∧
    due ⟨12, 499⟩ ⟨12, 500⟩ = false := by decide

/-- the armed value is never `{0, 0}`: `timerfd_settime` with a zero `it_value` DISARMS the timer,
and the loop would then sleep forever on a deadline that is already due -/
theorem armValue_ne_zero (abs : Ts) : armValue abs ≠ ⟨0, 0⟩ := by
  unfold armValue
  split
  · intro h; cases abs; simp at h
  · rename_i hne; intro h; rw [h] at hne; simp at hne

/-- .. in particular it differs from what `clear_poll_timeout` writes -/
theorem armValue_ne_clear (abs : Ts) : armValue abs ≠ clearValue := armValue_ne_zero abs

theorem clearValue_eq : clearValue = ⟨0, 0⟩ := rfl

/-- every other deadline is passed on unchanged -/
theorem armValue_of_ne_zero {abs : Ts} (h : abs ≠ ⟨0, 0⟩) : armValue abs = abs := by
  unfold armValue
  split
  · rename_i h0; exfalso; apply h; cases abs; simp at *; exact h0
  · rfl

theorem armValue_norm {abs : Ts} (ha : abs.norm) : (armValue abs).norm := by
  unfold armValue Ts.norm at *
  split
  · simp
  · exact ha

/-- for a non-negative deadline (CLOCK_MONOTONIC instants are) the armed instant is
`max 1 (deadline)`: the fix-up moves the deadline by at most 1 ns, and only the instant 0 -/
theorem armValue_toNs {abs : Ts} (ha : abs.norm) (h0 : 0 ≤ toNs abs) :
    toNs (armValue abs) = max 1 (toNs abs) := by
  unfold armValue Ts.norm toNs at *
  split
  · rename_i h; simp [h.1, h.2]; omega
  · rename_i h; omega

/-- an already-due deadline arms a timer that fires immediately: once the clock is past the
first nanosecond, the armed value is due whenever the deadline is -/
theorem armValue_due {now abs : Ts} (hn : now.norm) (ha : abs.norm) (h0 : 0 ≤ toNs abs)
    (h1 : 1 ≤ toNs now) (hd : due now abs = true) : due now (armValue abs) = true := by
  rw [due_iff hn (armValue_norm ha), armValue_toNs ha h0]
  have := (due_iff hn ha).1 hd
  omega

example : armValue ⟨0, 0⟩ = ⟨0, 1⟩ ∧ armValue ⟨0, 1⟩ = ⟨0, 1⟩ ∧ armValue ⟨5, 0⟩ = ⟨5, 0⟩ ∧
    armValue ⟨0, 999999999⟩ = ⟨0, 999999999⟩ ∧ armValue ⟨-1, 0⟩ = ⟨-1, 0⟩ ∧
    due ⟨100, 0⟩ (armValue ⟨0, 0⟩) = true := by decide

/-- no timers → `NULL` → `to_msec` gives `-1` and `to_relative` gives `NULL`, without a clock read -/
theorem getSoonest_none (root : Ts) (src : Nat → Ts) (c : Clock) :
    getSoonest 0 root = none ∧ toMsecC src c (getSoonest 0 root) = (c, -1) ∧
    toRelativeC src c (getSoonest 0 root) = (c, none) := by
  simp [getSoonest, toMsecC, toRelativeC]

theorem getSoonest_some {n : Nat} (h : n ≠ 0) (root : Ts) : getSoonest n root = some root := by
  simp [getSoonest, h]

theorem validate_valid (src : Nat → Ts) (c : Clock) : (validate src c).timeValid = true :=
  Ivy.TimeArith.validate_valid src c

/-- a valid cache is not touched: no clock read, same time -/
theorem validate_of_valid (src : Nat → Ts) {c : Clock} (h : c.timeValid = true) :
    validate src c = c :=
  Ivy.TimeArith.validate_of_valid src h

/-- an invalid cache reads the clock exactly once and stores what the source returned -/
theorem validate_of_invalid (src : Nat → Ts) {c : Clock} (h : c.timeValid = false) :
    validate src c = { timeValid := true, time := src c.reads, reads := c.reads + 1 } := by
  unfold validate; simp [h]

/-- after `iv_invalidate_now` the next use re-reads the clock (whatever the state was) -/
theorem validate_after_invalidate (src : Nat → Ts) (c : Clock) :
    validate src (invalidate c) = { timeValid := true, time := src c.reads, reads := c.reads + 1 } := by
  simp [validate, invalidate]

/-- `to_relative`, `to_msec` and `iv_run_timers` all compute with the SAME cached instant, and only
the first of them reads the clock: two consecutive uses -/
theorem uses_share_one_read (src : Nat → Ts) (c : Clock) (a b e : Ts) :
    let c1 := (toRelativeC src c (some a)).1
    c1 = validate src c ∧
    toRelativeC src c (some a) = (c1, some (toRelative c1.time a)) ∧
    toMsecC src c1 (some b) = (c1, toMsec c1.time (some b)) ∧
    runTimersC src c1 (some e) = (c1, due c1.time e) ∧
    c1.reads ≤ c.reads + 1 := by
  simp only [toRelativeC, toMsecC, runTimersC, validate_idem]
  refine ⟨trivial, trivial, trivial, trivial, ?_⟩
  rw [validate_reads]; split <;> omega

/-- the cache invariant holds after every sequence of calls: when valid, the cached time is the
value returned by the most recent clock read -/
theorem cache_holds_last_read (src : Nat → Ts) (ops : List COp) :
    let c := crun src {} ops
    c.timeValid = true → 0 < c.reads ∧ c.time = src (c.reads - 1) :=
  crun_inv src (c := {}) (by unfold Clock.Inv; simp) ops

/-- AT MOST ONE READ WHILE VALID, for every call sequence: the number of clock reads is bounded
by the number of invalidations, plus one if the cache started out invalid -/
theorem reads_bounded (src : Nat → Ts) (c : Clock) (ops : List COp) :
    (crun src c ops).reads + (crun src c ops).pending ≤ c.reads + c.pending + invalidations ops :=
  (crun_reads src c ops).2

/-- .. in particular, without an invalidation a valid cache is never refreshed, however many
timeouts are computed and timers run -/
theorem no_read_while_valid (src : Nat → Ts) {c : Clock} (hv : c.timeValid = true)
    (ops : List COp) (hn : ∀ op ∈ ops, op ≠ .invalidate) : crun src c ops = c := by
  unfold crun
  induction ops with
  | nil => rfl
  | cons op ops ih =>
    simp only [List.foldl_cons]
    have hstep : cstep src c op = c := by
      rcases cstep_cases src c op with h | h | ⟨ho, _⟩
      · exact h
      · rw [h, validate_of_valid src hv]
      · exact absurd ho (hn op (by simp))
    rw [hstep]
    exact ih (fun o ho => hn o (by simp [ho]))

theorem reads_mono (src : Nat → Ts) (c : Clock) (ops : List COp) : c.reads ≤ (crun src c ops).reads :=
  (crun_reads src c ops).1

/-- clock returns 5 s, then 9 s: three uses → one read; invalidate; two uses → one more read -/
example :
    let src : Nat → Ts := fun k => if k = 0 then ⟨5, 0⟩ else ⟨9, 0⟩
    crun src {} [.rel (some ⟨7, 0⟩), .msec (some ⟨6, 0⟩), .runTimers (some ⟨5, 0⟩)] = ⟨true, ⟨5, 0⟩, 1⟩ ∧
    crun src {} [.rel (some ⟨7, 0⟩), .invalidate, .msec none, .runTimers none] = ⟨false, ⟨5, 0⟩, 1⟩ ∧
    crun src {} [.rel (some ⟨7, 0⟩), .invalidate, .msec (some ⟨6, 0⟩), .runTimers (some ⟨5, 0⟩)] = ⟨true, ⟨9, 0⟩, 2⟩ ∧
    (toMsecC src ⟨true, ⟨5, 0⟩, 1⟩ (some ⟨6, 0⟩)).2 = 1000 ∧
    (toMsecC src ⟨false, ⟨5, 0⟩, 1⟩ (some ⟨6, 0⟩)).2 = 0 := by decide

/-- rounding DOWN in `to_msec` (`rel.tv_nsec / 1000000`): the loop wakes up EARLY with the timer not
due, and the next timeout is 0 — it spins until the clock catches up.  1.5 ms remaining: sleeps
1 ms, then 0.5 ms remain and the computed timeout is 0. -/
theorem rounding_down_spins :
    ∃ now abs now' : Ts, now.norm ∧ abs.norm ∧ now'.norm ∧
      toNs now' = toNs now + toMsecDown now (some abs) * 1000000 ∧
      due now' abs = false ∧ toMsecDown now' (some abs) = 0 ∧
      -- the real function on the same input: sleeps long enough, and then the timer is due
      due ⟨now.sec, now.nsec + toMsec now (some abs) * 1000000⟩ abs = true :=
  ⟨⟨3, 0⟩, ⟨3, 1500000⟩, ⟨3, 1000000⟩, by decide⟩

/-- and a sub-millisecond remainder is a zero timeout right away -/
theorem rounding_down_zero_while_not_due :
    ∃ now abs : Ts, now.norm ∧ abs.norm ∧ due now abs = false ∧ toMsecDown now (some abs) = 0 ∧
      toMsec now (some abs) = 1 :=
  ⟨⟨3, 0⟩, ⟨3, 999999⟩, by decide⟩

/-- dropping the borrow in `to_relative` yields a non-normalised value (negative `tv_nsec`:
ppoll / epoll_pwait2 fail with EINVAL) -/
theorem no_borrow_not_norm :
    ∃ now abs : Ts, now.norm ∧ abs.norm ∧ ¬ (toRelativeNoBorrow now abs).norm ∧
      (toRelative now abs).norm ∧ toRelativeNoBorrow now abs = ⟨1, -999999999⟩ ∧
      toRelative now abs = ⟨0, 1⟩ :=
  ⟨⟨4, 999999999⟩, ⟨5, 0⟩, by decide⟩

/-- dropping the clamp in `to_relative` yields a negative relative time for a due timer -/
theorem no_clamp_negative :
    ∃ now abs : Ts, now.norm ∧ abs.norm ∧ due now abs = true ∧ toNs (toRelativeNoClamp now abs) < 0 ∧
      (toRelativeNoClamp now abs).sec < 0 ∧ toRelative now abs = ⟨0, 0⟩ :=
  ⟨⟨5, 0⟩, ⟨4, 999999999⟩, by decide⟩

/-- without the `{0,0}` → `{0,1}` fix-up the value armed for the deadline `{0,0}` would be the
disarm value -/
theorem no_fixup_disarms : (⟨0, 0⟩ : Ts) = clearValue ∧ armValue ⟨0, 0⟩ ≠ clearValue := by decide

/-- C's truncating division matters outside the normalised range only: on a negative dividend it
differs from floor division, on the non-negative ones `to_msec` sees they agree -/
theorem tdiv_vs_floor : Int.tdiv (-1499000001) 1000000 = -1499 ∧ (-1499000001 : Int) / 1000000 = -1500 ∧
    ∀ n : Int, 0 ≤ n → Int.tdiv (n + 999999) 1000000 = (n + 999999) / 1000000 :=
  ⟨by decide, by decide, fun n h => Int.tdiv_eq_ediv_of_nonneg (by omega)⟩

end Ivy.Props.C04time
