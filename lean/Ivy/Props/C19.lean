import Ivy.L3.PopenProofs
/-!
# C19 — iv_popen: the child is wired to the descriptor, always terminated and reaped

Property theorems only; the model is `Ivy/L3/Popen.lean`, definitions used in the statements are in
`Ivy/L3/PopenSpec.lean`, the lemmas in `Ivy/L3/PopenProofs.lean`.

`Reach s` quantifies over every sequence of enabled actions from the start: every child behaviour
(`procEvent` at any moment, any answer to each SIGTERM), every timing of `close` relative to the child's
exit, to the collection of its status (`reap`) and to its delivery (`childStatus`), and every timing of
the timer firings (`tick`, `timerFire`).  Constants come from the source (`Ivy/Generated/PopenConsts.lean`).
-/
namespace Ivy.Props.C19
open Ivy.Popen

/-- the constants of the source are the ones the property talks about: five termination requests, five seconds -/
theorem consts_pinned : MAX_SIGTERM_COUNT = 5 ∧ SIGNAL_INTERVAL = 5 ∧ INTERVAL_NS = 5000000000 := by decide

/-- the invariant behind all statements below holds in every reachable state -/
theorem reach_inv {s : St} (h : Reach s) : Inv s := Proofs.reach_inv h

/-- in no reachable state does any action touch the freed record, register the timer twice, unregister an
unregistered timer or use an unregistered interest (no use-after-free, no double unregistration) -/
theorem no_fault {s : St} (h : Reach s) (a : Act) (f : Fault) : step s a ≠ .fault f :=
  Proofs.no_fault (Proofs.reach_inv h) a f

/-- signal_schedule: the kill() system calls made for the pid (oldest first) are exactly the schedule:
none before `close`; the `i`-th is SIGTERM for `i < MAX_SIGTERM_COUNT` and SIGKILL afterwards; the first
not before the close, each later one at least SIGNAL_INTERVAL after its predecessor. -/
theorem signal_schedule {s : St} (h : Reach s) :
    (s.closedAt = none → s.sent = []) ∧
    (∀ i (hi : i < s.sent.length), (s.sent[i]).2 = sigFor i ∧ closeTime s + i * INTERVAL_NS ≤ (s.sent[i]).1) ∧
    (∀ i (hi : i + 1 < s.sent.length), (s.sent[i]).1 + INTERVAL_NS ≤ (s.sent[i + 1]).1) := by
  have hi := Proofs.reach_inv h
  refine ⟨hi.sent_cl, ?_, Proofs.sched_gap _ _ _ hi.sched⟩
  intro i h'
  simpa using Proofs.sched_index _ _ _ hi.sched i h'

/-- ... and when the loop runs the timer exactly at its expiry every time (`punctual`), the `i`-th signal
is sent exactly at close time + i · SIGNAL_INTERVAL: the first at once, then one every interval. -/
theorem signal_schedule_exact {s : St} (h : Reach s) (hp : s.punctual = true) :
    ∀ i (hi : i < s.sent.length), s.sent[i] = (closeTime s + i * INTERVAL_NS, sigFor i) := by
  intro i h'
  simpa using Proofs.schedExact_index _ _ _ ((Proofs.reach_inv h).exact hp) i h'

/-- while the record exists after `close`, the timer is armed for the next signal of the schedule and the
kill count equals the number of signals sent: the signalling goes on until the child is known to have ended;
and a child that is still running has received at most MAX_SIGTERM_COUNT signals (the next one is SIGKILL at the latest) -/
theorem signalling_continues {s : St} (h : Reach s) (hl : s.recSt = .live) (hd : s.attached = false) :
    s.timerReg = true ∧ s.numKills = s.sent.length ∧ s.timerAt = nextDue (closeTime s) s.sent ∧
    (s.alive = true → s.numKills ≤ MAX_SIGTERM_COUNT) :=
  let i := Proofs.reach_inv h
  ⟨(i.det hl hd).1, (i.det hl hd).2.2.2.1, (i.det hl hd).2.2.2.2, i.kills_le hl hd⟩

/-- no_signal_after_reap: no kill() system call was ever made after the terminal status had been collected
(the pid may have been reused), and from a state where it has been collected no step makes one. -/
theorem no_signal_after_reap {s : St} (h : Reach s) :
    s.lateKill = false ∧
    (s.reaped = true → ∀ a s' o, step s a = .ok s' o → s'.sent = s.sent ∧ ∀ sg, Out.sysKill sg ∉ o) :=
  ⟨(Proofs.reach_inv h).late, fun hr _ _ _ hs => Proofs.no_kill_after_reap (Proofs.reach_inv h) hr hs⟩

/-- all_released (safety): the record is freed at most once and only after being allocated (no double free);
when it is freed, the wait interest and the timer are unregistered (the loop's object count is back to
what it was); while it lives nothing has been freed and the interest is registered. -/
theorem all_released {s : St} (h : Reach s) :
    s.frees ≤ s.allocs ∧ s.allocs ≤ 1 ∧ (s.recSt = .freed ↔ s.frees = 1) ∧ (s.recSt = .freed → objs s = 0) ∧
    (s.recSt = .live → s.frees = 0 ∧ s.waitReg = true) := by
  have hi := Proofs.reach_inv h
  have := hi.none_; have := hi.live_; have := hi.freed_
  unfold objs
  cases hc : s.recSt <;> grind

/-- all_released (no leak, no zombie): from any reachable state after `close`, whatever the child does (any
spontaneous status change before any round, any answer to each SIGTERM), MAX_SIGTERM_COUNT + 2 rounds of a
fair loop (collect and deliver statuses, then run the timer when due) end with the record freed exactly
once, interest and timer unregistered, and the child's terminal status collected. -/
theorem released_by_fair_loop {s : St} (h : Reach s) (hl : s.recSt = .live) (hd : s.attached = false)
    (envs : List Env) (hn : MAX_SIGTERM_COUNT + 2 ≤ envs.length) : Released (envs.foldl round s) :=
  Proofs.fair_fold (MAX_SIGTERM_COUNT + 2) envs s (Proofs.reach_inv h) hl hd (Proofs.pot_le s) hn

/-- a child that has already ended (before or after `close`, status collected or not): collecting and
delivering its status releases everything, without any signal. -/
theorem ended_child_released {s : St} (h : Reach s) (hl : s.recSt = .live) (ha : s.alive = false) :
    Released (collect s) ∧ (collect s).sent = s.sent := by
  refine ⟨Proofs.ended_released (Proofs.reach_inv h) hl ha, ?_⟩
  exact Proofs.collect_sent s

/-- no zombie: whenever the record of a spawned child has been freed (and the kernel never refused a kill()
for the unreaped pid — outside the kernel contract), the terminal status has been collected. -/
theorem no_zombie {s : St} (h : Reach s) (hf : s.recSt = .freed) (hs : s.spawned = true)
    (hk : s.killFailed = false) : s.reaped = true ∧ s.alive = false :=
  let r := Proofs.released_of_freed (Proofs.reach_inv h) hf hs hk
  ⟨r.2.2.2.2.2.2.1, r.2.2.2.2.2.2.2⟩

/-- child_wiring, type "r": with 0/1/2 open in the parent and the kernel handing out unused descriptors,
the child ends with 0 = null device, 1 = pipe write end, 2 = null device, both pipe descriptors and the
extra null descriptor closed, everything else inherited unchanged. -/
theorem child_wiring_r (t : FdTab) (p0 p1 dn : Nat)
    (h0 : (t 0).isSome) (h1 : (t 1).isSome) (h2 : (t 2).isSome)
    (hp0 : t p0 = none) (hp1 : t p1 = none) (hne : p0 ≠ p1)
    (hdn : t dn = none) (hd0 : dn ≠ p0) (hd1 : dn ≠ p1) :
    let c := childSide true (afterPipe t p0 p1) p0 p1 dn
    c 0 = some File.null ∧ c 1 = some File.pipeW ∧ c 2 = some File.null ∧
    c p0 = none ∧ c p1 = none ∧ c dn = none ∧
    ∀ x, 3 ≤ x → x ≠ p0 → x ≠ p1 → x ≠ dn → c x = t x :=
  Proofs.child_wiring true t p0 p1 dn h0 h1 h2 hp0 hp1 hne hdn hd0 hd1

/-- child_wiring, type "w": 0 = pipe read end, 1 = 2 = null device. -/
theorem child_wiring_w (t : FdTab) (p0 p1 dn : Nat)
    (h0 : (t 0).isSome) (h1 : (t 1).isSome) (h2 : (t 2).isSome)
    (hp0 : t p0 = none) (hp1 : t p1 = none) (hne : p0 ≠ p1)
    (hdn : t dn = none) (hd0 : dn ≠ p0) (hd1 : dn ≠ p1) :
    let c := childSide false (afterPipe t p0 p1) p0 p1 dn
    c 0 = some File.pipeR ∧ c 1 = some File.null ∧ c 2 = some File.null ∧
    c p0 = none ∧ c p1 = none ∧ c dn = none ∧
    ∀ x, 3 ≤ x → x ≠ p0 → x ≠ p1 → x ≠ dn → c x = t x :=
  Proofs.child_wiring false t p0 p1 dn h0 h1 h2 hp0 hp1 hne hdn hd0 hd1

/-- parent side: the descriptor returned is the end opposite to the child's (read end for "r", write end
for "w"), the parent's copy of the child's end is closed, nothing else changes. -/
theorem parent_wiring (forRead : Bool) (t : FdTab) (p0 p1 : Nat) (hne : p0 ≠ p1) :
    let r := parentSide forRead t p0 p1 true
    r.2 = some (if forRead then p0 else p1) ∧
    r.1 (if forRead then p0 else p1) = some (if forRead then File.pipeR else File.pipeW) ∧
    r.1 (if forRead then p1 else p0) = none ∧
    ∀ x, x ≠ p0 → x ≠ p1 → r.1 x = t x := by
  cases forRead <;> simp [parentSide, afterPipe, openAt, close] <;> grind

/-- fork failure: both pipe ends are closed again (the table is what it was) and -1 is returned ... -/
theorem fork_failure_fds (forRead : Bool) (t : FdTab) (p0 p1 : Nat) (hp0 : t p0 = none) (hp1 : t p1 = none) :
    (parentSide forRead t p0 p1 false).2 = none ∧ ∀ x, (parentSide forRead t p0 p1 false).1 x = t x := by
  simp [parentSide, afterPipe, openAt, close]
  grind

/-- ... and after any failed submit (bad type, pipe failure, fork failure) nothing is left registered,
the record is freed exactly once and the request is not open. -/
theorem submit_failure_clean {s s' : St} {o : List Out} {ty : Option Bool} {p f : Bool} (h : Reach s)
    (hs : step s (.submit ty p f) = .ok s' o) (hfail : ty = none ∨ p = false ∨ f = false) :
    s'.recSt = .freed ∧ s'.frees = 1 ∧ s'.allocs = 1 ∧ objs s' = 0 ∧ s'.isOpen = false ∧ s'.spawned = false ∧
    Out.ret none ∈ o ∧ (ty ≠ none → p = true → Out.closeBoth ∈ o) := by
  obtain ⟨hn, ho, rfl, hr, hc⟩ := (Proofs.Step.of_ok hs).submit_fail hfail
  have h1 := (Proofs.reach_inv h).none_ hn
  exact ⟨rfl, by simp [h1], by simp [h1], by simp [objs, h1], ho, h1.2.2.2.2.2.1, hr, hc⟩

/-- the precondition "0, 1, 2 are open in the parent" of `child_wiring_*` cannot be dropped: with standard
input closed, `pipe()` returns descriptor 0 and the child ends up with NO standard input (reported as an
observation; daemons that closed their standard descriptors must reopen them before using iv_popen). -/
theorem child_wiring_needs_stdio :
    let t : FdTab := fun x => if x = 1 ∨ x = 2 then some File.other else none
    t 0 = none ∧ t 3 = none ∧ t 4 = none ∧ (childSide true (afterPipe t 0 3) 0 3 4) 0 = none := by
  simp [childSide, afterPipe, openAt, dup2, close]

/-- Non-vacuity 1: a child that ignores SIGTERM: close at t = 1000, five SIGTERM and one SIGKILL exactly
5 s apart, the status is collected and delivered, everything is released. -/
example :
    (runActs (St.init 1000)
      [.submit (some true) true true, .close,
       .timerFire true false, .tick INTERVAL_NS, .timerFire true false, .tick INTERVAL_NS, .timerFire true false,
       .tick INTERVAL_NS, .timerFire true false, .tick INTERVAL_NS, .timerFire true false, .tick INTERVAL_NS,
       .timerFire true false, .reap, .childStatus]).map
      (fun s => (s.recSt, s.frees, s.waitReg, s.timerReg, s.reaped, s.sent.map (·.2), s.sent.map (·.1))) =
    some (.freed, 1, false, false, true, [.term, .term, .term, .term, .term, .kill],
          [1000, 5000001000, 10000001000, 15000001000, 20000001000, 25000001000]) := by rfl

/-- Non-vacuity 2: the child exits between two signals and its status is collected but not yet delivered
when the timer fires: the kill helper refuses (no system call), the record is released by the timer. -/
example :
    (runActs (St.init 0)
      [.submit (some false) true true, .close, .timerFire true false, .tick 2000000000, .procEvent 0, .reap,
       .tick 3000000000, .timerFire true false]).map
      (fun s => (s.recSt, s.frees, objs s, s.reaped, s.sent, s.lateKill)) =
    some (.freed, 1, 0, true, [(0, .term)], false) := by rfl

/-- Non-vacuity 3: the child exits before `close`; close then starts nothing. -/
example :
    (runActs (St.init 0) [.submit (some true) true true, .procEvent 256, .reap, .childStatus, .close]).map
      (fun s => (s.recSt, s.frees, objs s, s.reqChild, s.sent)) = some (.freed, 1, 0, false, []) := by rfl

end Ivy.Props.C19
