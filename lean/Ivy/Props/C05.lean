import Ivy.L0.HeapProofs
/-!
# C05 — timers run in expiry order and are independent at any population size

Property theorems only; helper lemmas live in `Ivy/L0/HeapProofs.lean`.
No theorem bounds the population: `HeapInv` holds initially and is preserved by
every operation, including the growth / shrink of the radix tree.
-/
namespace Ivy.Props.C05
open Ivy.Heap

theorem init_inv (n : Nat) : HeapInv (Store.init n) := Proofs.init_inv n

/-- Registering an unregistered timer succeeds (no fatal, no fault, for any population),
keeps the invariant, puts exactly that timer on the heap and changes no other timer's
membership or expiry. -/
theorem register_ok (s : Store) (t : Tid) (e : TS) (h : HeapInv s)
    (ht : s.idx[t]? = some (-1)) :
    ∃ s', register s t e = .ok s' ∧ HeapInv s' ∧ onHeap s' t ∧ expOf s' t = e ∧ s'.num = s.num + 1 ∧
      s'.idx.size = s.idx.size ∧
      ∀ u, u ≠ t → (s'.idx[u]? = some (-1) ↔ s.idx[u]? = some (-1)) ∧ (s'.idx[u]? = some 0 ↔ s.idx[u]? = some 0) ∧
        (onHeap s' u ↔ onHeap s u) ∧ expOf s' u = expOf s u :=
  let ⟨s', e1, _, r⟩ := Proofs.register_ok s t e h ht; ⟨s', e1, r⟩

/-- Unregistering a timer that is on the heap (any slot: root, last, interior) succeeds,
keeps the invariant, removes exactly that timer and changes no other timer. -/
theorem unregister_ok (s : Store) (batch : List Tid) (t : Tid) (h : HeapInv s) (ht : onHeap s t) :
    ∃ s', unregister s batch t = (.ok s', batch) ∧ HeapInv s' ∧ s'.idx[t]? = some (-1) ∧ s'.num + 1 = s.num ∧
      s'.idx.size = s.idx.size ∧
      ∀ u, u ≠ t → (s'.idx[u]? = some (-1) ↔ s.idx[u]? = some (-1)) ∧ (s'.idx[u]? = some 0 ↔ s.idx[u]? = some 0) ∧
        (onHeap s' u ↔ onHeap s u) ∧ expOf s' u = expOf s u :=
  let ⟨s', e1, _, r⟩ := Proofs.unregister_ok s batch t h ht; ⟨s', e1, r⟩

/-- The root is a minimum: no registered timer expires before `iv_get_soonest_timeout`. -/
theorem soonest_is_min (s : Store) (h : HeapInv s) (t : Tid) (ht : onHeap s t) :
    ∃ m, soonest s = some m ∧ m.le (expOf s t) := by
  rcases Proofs.soonest_eq h with ⟨hn, _⟩ | ⟨r, _, hr, e⟩
  · exact absurd (Proofs.num_pos_of_onHeap h ht) (by omega)
  · exact ⟨_, e, Proofs.root_le_onHeap h hr t ht⟩

/-- `iv_run_timers`' first loop: the batch consists exactly of the registered timers that do
not expire after `now`, in non-decreasing expiry order; everything left on the heap expires
later; no other timer is touched. -/
theorem collect_sorted (s : Store) (now : TS) (h : HeapInv s) :
    ∃ s' batch, runCollect s now = (.ok s', batch) ∧ HeapInv s' ∧
      batch.Pairwise (fun a b => (expOf s a).le (expOf s b)) ∧
      batch.Nodup ∧
      (∀ t, t ∈ batch ↔ (onHeap s t ∧ (expOf s t).le now)) ∧
      (∀ t, onHeap s' t ↔ (onHeap s t ∧ (expOf s t).gt now = true)) ∧
      (∀ t, t ∈ batch → s'.idx[t]? = some 0) ∧
      (∀ t, expOf s' t = expOf s t) ∧
      (∀ t, ¬ onHeap s t → s'.idx[t]? = s.idx[t]?) :=
  let ⟨s', b, e, _, r⟩ := Proofs.collect_sorted s now h; ⟨s', b, e, r⟩

end Ivy.Props.C05
