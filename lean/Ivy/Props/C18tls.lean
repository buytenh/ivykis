import Ivy.L0.TlsProofs
/-!
# C18 (extension) — per-module thread state: regions handed to the module hooks are owned, disjoint and complete

Statements about the iv_tls registry (`/repo/src/iv_tls.c`) for EVERY sequence of module registrations
(any number of modules, any state sizes, with or without hooks) and every `sizeof(struct iv_state)`:
the region each module's init/deinit hook and `iv_tls_user_ptr` receive lies inside the block `iv_init`
allocates (`iv_tls_total_state_size()` bytes), above the loop's own `struct iv_state`, is 16-byte aligned
and overlaps no other module's region; every registered module's hooks are called, once per thread
init / deinit, in registration order; `iv_tls_user_ptr` never takes its fatal branch for a registered module.
Property theorems only; proofs in `Ivy/L0/TlsProofs.lean`.
-/
namespace Ivy.Props.C18tls
open Ivy.Tls

/-- Regions are inside the allocated block, above `struct iv_state`, aligned. -/
theorem regions_owned (base : Nat) (us : List User) {s : St} (h : registerAll (St.init base) us = some s) :
    ∀ p ∈ s.users, base ≤ p.2 ∧ p.2 + p.1.size ≤ total s ∧ p.2 % 16 = 0 :=
  (registerAll_inv us (init_inv base) h).inside

/-- No two modules' regions overlap (they are laid out in registration order). -/
theorem regions_disjoint (base : Nat) (us : List User) {s : St} (h : registerAll (St.init base) us = some s) :
    s.users.Pairwise (fun a b => a.2 + a.1.size ≤ b.2) :=
  (registerAll_inv us (init_inv base) h).sorted

/-- Registration before the first `iv_init` always succeeds and records exactly the modules registered, in order. -/
theorem registry_complete (base : Nat) (us : List User) :
    ∃ s, registerAll (St.init base) us = some s ∧ s.users.map (·.1) = us := by
  obtain ⟨s, hs, hu⟩ := registerAll_spec us (St.init base) rfl
  exact ⟨s, hs, by simpa [St.init] using hu⟩

/-- Thread init / deinit call the hook of every module that has one, once, in registration order, each with its own region. -/
theorem hooks_cover (s : St) :
    (threadInit s).2 = (s.users.filter (·.1.hasInit)).map (·.2) ∧
    threadDeinit s = (s.users.filter (·.1.hasDeinit)).map (·.2) ∧
    (threadInit s).1.users = s.users := ⟨rfl, rfl, rfl⟩

/-- `iv_tls_user_ptr` never hits "called on unregistered iv_tls_user" for a registered module (sizeof(struct iv_state) > 0). -/
theorem user_ptr_ok (base : Nat) (hb : 0 < base) (us : List User) {s : St} (h : registerAll (St.init base) us = some s) :
    ∀ p ∈ s.users, userPtr p.2 = some p.2 := by
  intro p hp
  have := (regions_owned base us h p hp).1
  unfold userPtr
  split
  · omega
  · rfl

/-- Registration after the first `iv_init` is refused (iv_fatal), so the layout can no longer change under a live thread. -/
theorem frozen_after_init (s : St) (u : User) : register (threadInit s).1 u = none := by
  simp [register, threadInit]

/-- Non-vacuity: three modules (sizes 24, 0, 100), base 1000. -/
example : (registerAll (St.init 1000) [⟨24, true, true⟩, ⟨0, false, true⟩, ⟨100, true, false⟩]).map
    (fun s => (s.users.map (·.2), total s, (threadInit s).2, threadDeinit s)) =
    some ([1008, 1040, 1040], 1152, [1008, 1040], [1008, 1040]) := by decide

end Ivy.Props.C18tls
