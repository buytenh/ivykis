import Ivy.L1.ProofsC07
/-!
# C07 — property theorem over the L1 loop machine

Statement: every trace the machine can produce — for every poll method, every configuration of
optional kernel facilities, every user program (any API calls from set-up code and from any handler),
every kernel answer allowed by the kernel contract `envOk` (wait results, EINTR, ENOSYS, clock values,
raw-event reads) and every foreign-thread post at a wait — is accepted by the monitor
`Ivy.Mon.C07`, which states the property over observable records only.  The same monitor is run on the
implementation's logs by the check.
-/
namespace Ivy.Props.C07
open Ivy.L1

theorem monitor_accepts (m : Method) (ntimers : Nat) (timerfdAvail pwait2 : Bool)
    (evs : List Ev) (s' : St) (h : Exec (St.init m ntimers timerfdAvail pwait2) evs s') :
    Ivy.Mon.C07.verdict evs = none :=
  Ivy.L1.ProofsC07.monitor_accepts m ntimers timerfdAvail pwait2 evs s' h

end Ivy.Props.C07
