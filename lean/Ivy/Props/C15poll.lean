import Ivy.L0.FdPollProofs
/-!
# C15 (poll / ppoll back end) — the bookkeeping of `/repo/src/iv_fd_poll.c`

`Ivy/L0/FdPoll.lean` transcribes `iv_fd_poll_register_fd`, `bits_to_poll_mask`,
`iv_fd_poll_notify_fd` (three branches, swap-remove of the dense arrays `pfds[]` / `fds[]`, the
per-descriptor `u.index`), `iv_fd_poll_activate_fds`, `iv_fd_poll_notify_fd_sync`, and the callers
in `iv_fd.c` (`recompute_wanted_flags`, `notify_fd`, `iv_fd_register`, `iv_fd_register_try`,
`iv_fd_unregister`, `iv_fd_set_handler_*`) statement by statement.  `step s op` is one API call,
`run s ops` a sequence of calls, `init` the state after `iv_fd_poll_init`.

All theorems about sequences hold for EVERY finite sequence of calls (`ops : List Op`,
induction; no bound on length, number of objects or descriptor numbers).

* `WF s` — the representation invariant (fields documented in `Ivy/L0/FdPollProofs.lean`).
* `isWanted s o` — `o` is registered and wants a band; `entryOf s o` — the `struct pollfd` the
  kernel should see for `o`; `pollArray s` — the first `num` entries of `pfds[]`, what `poll()`
  is handed; `pollSet s univ` — the abstract poll set listed along `univ`.
* `slotEntry s o` — the entry currently polled for `o` (`none` if it has no slot).

Property theorems only; proofs of the lemmas live in `Ivy/L0/FdPollProofs.lean`.
Each main theorem is followed by an `example` instantiating its hypotheses on the concrete state
`exState` (three objects, after a swap-remove) — non-vacuity.
-/
namespace Ivy.Props.C15poll
open Ivy.FdPoll

/-- objects 0,1,2 with descriptors 10,11,12: all three get an `in` handler and are registered,
1 also gets `out`+`err`; then 0 is unregistered from slot 0 (so the last slot, object 2, is moved
into slot 0), and 0 is registered again without handlers via `iv_fd_register_try`. -/
def exOps : List Op :=
  [.setFd 0 10, .setHandler 0 .inn true, .register 0,
   .setFd 1 11, .setHandler 1 .inn true, .register 1,
   .setFd 2 12, .setHandler 2 .inn true, .register 2,
   .setHandler 1 .out true, .setHandler 1 .err true,
   .unregister 0, .setHandler 0 .inn false, .registerTry 0 true]

def exState : State := run init exOps

/-- the example state is not trivial: two live slots, object 2 was moved into slot 0, object 0 is
registered without a slot, and slot 2 still holds stale data -/
example : exState.num = 2 ∧ exState.fds 0 = 2 ∧ exState.fds 1 = 1 ∧
    (exState.objs 2).index = some 0 ∧ (exState.objs 0).registered = true ∧
    (exState.objs 0).index = none ∧ exState.fds 2 = 0 ∧
    pollArray exState = [⟨12, POLLIN ||| POLLHUP⟩, ⟨11, POLLIN ||| POLLOUT ||| POLLHUP⟩] := by
  decide

/-- the table of `bits_to_poll_mask`, all eight band combinations -/
theorem mask_table :
    bitsToPollMask 0 = 0 ∧
    bitsToPollMask MASKIN = POLLIN ||| POLLHUP ∧
    bitsToPollMask MASKOUT = POLLOUT ||| POLLHUP ∧
    bitsToPollMask (MASKIN ||| MASKOUT) = POLLIN ||| POLLOUT ||| POLLHUP ∧
    bitsToPollMask MASKERR = POLLHUP ∧
    bitsToPollMask (MASKIN ||| MASKERR) = POLLIN ||| POLLHUP ∧
    bitsToPollMask (MASKOUT ||| MASKERR) = POLLOUT ||| POLLHUP ∧
    bitsToPollMask (MASKIN ||| MASKOUT ||| MASKERR) = POLLIN ||| POLLOUT ||| POLLHUP := by
  decide

/-- `POLLHUP` is requested whenever any band is wanted; `POLLIN` / `POLLOUT` exactly when
`MASKIN` / `MASKOUT` is; nothing else is ever requested -/
theorem mask_bits : ∀ b, b < 8 →
    (b ≠ 0 → bitsToPollMask b &&& POLLHUP ≠ 0) ∧
    (bitsToPollMask b &&& POLLIN ≠ 0 ↔ b &&& MASKIN ≠ 0) ∧
    (bitsToPollMask b &&& POLLOUT ≠ 0 ↔ b &&& MASKOUT ≠ 0) ∧
    bitsToPollMask b &&& (POLLIN ||| POLLOUT ||| POLLHUP) = bitsToPollMask b ∧
    (bitsToPollMask b = 0 ↔ b = 0) := by
  decide

/-- `recompute_wanted_flags` only ever produces the eight combinations of the table -/
theorem recompute_lt_8 (fd : Obj) : recomputeWanted fd < 8 := by
  cases fd with
  | mk fdnum hin hout herr registered wanted index =>
    cases hin <;> cases hout <;> cases herr <;> cases registered <;>
      simp [recomputeWanted, MASKIN, MASKOUT, MASKERR]

/-- right after `iv_fd_poll_init` (no slots, nothing registered) the invariant holds -/
theorem wf_init : WF init := init_wf

/-- `fd->wanted_bands = b; method->notify_fd(st, fd)` on a registered object — the only way
iv_fd.c drives the back end — preserves the invariant, whatever `b` is -/
theorem wf_setWanted {s : State} (h : WF s) {o : Nat} (ho : (s.objs o).registered = true)
    (b : Nat) : WF (setWanted s o b) :=
  setWanted_wf h ho b

example : WF (setWanted exState 2 0) := wf_setWanted (run_wf init_wf _) (by decide) 0

theorem wf_step {s : State} (h : WF s) (op : Op) : WF (step s op) := step_wf h op

theorem wf_run {s : State} (h : WF s) (ops : List Op) : WF (run s ops) := run_wf h ops

/-- the invariant holds after ANY sequence of API calls on a fresh back end -/
theorem wf_reachable (ops : List Op) : WF (run init ops) := run_wf init_wf ops

example : WF exState := wf_reachable exOps

/-- the invariant, item by item, after any sequence of calls: for every live slot `i` the object
in it knows its slot, is registered, and `pfds[i]` is exactly its descriptor number with the mask
of its wanted bands -/
theorem slots_consistent (ops : List Op) (i : Nat) (hi : i < (run init ops).num) :
    let s := run init ops
    (s.objs (s.fds i)).index = some i ∧ (s.objs (s.fds i)).registered = true ∧
    s.pfds i = entryOf s (s.fds i) := by
  have h := wf_reachable ops
  exact ⟨h.slot_index i hi, h.slot_reg i hi, h.pfds_eq hi⟩

example : (0 : Nat) < (run init exOps).num := by decide

/-- a registered object has a slot (`u.index != -1`) exactly when it wants some band; the index
is then below `num` and the slot holds that very object -/
theorem index_iff_wanted (ops : List Op) (o : Nat)
    (ho : ((run init ops).objs o).registered = true) :
    let s := run init ops
    ((s.objs o).index ≠ none ↔ (s.objs o).wanted ≠ 0) ∧
    ∀ i, (s.objs o).index = some i → i < s.num ∧ s.fds i = o :=
  ⟨(wf_reachable ops).obj_wanted o ho, fun i hi => (wf_reachable ops).obj_slot o i ho hi⟩

example : ((run init exOps).objs 0).registered = true ∧ ((run init exOps).objs 2).registered = true
    ∧ ((run init exOps).objs 2).index = some 0 := by decide

/-- no object occupies two live slots -/
theorem no_two_slots (ops : List Op) (i j : Nat) (hi : i < (run init ops).num)
    (hj : j < (run init ops).num) (h : (run init ops).fds i = (run init ops).fds j) : i = j :=
  (wf_reachable ops).fds_inj hi hj h

/-- `wanted_bands` of a registered object is what `recompute_wanted_flags` computes from its three
handlers (so it is one of the eight table rows) -/
theorem wanted_tied (ops : List Op) (o : Nat)
    (ho : ((run init ops).objs o).registered = true) :
    ((run init ops).objs o).wanted = recomputeWanted ((run init ops).objs o) ∧
    ((run init ops).objs o).wanted < 8 := by
  have h := run_tied (s := init) (by intro o; simp [init]) ops o ho
  exact ⟨h, h ▸ recompute_lt_8 _⟩

/-- every entry handed to `poll()` asks for `POLLHUP` (and for nothing outside
`POLLIN | POLLOUT | POLLHUP`), after any sequence of calls -/
theorem pollhup_always_requested (ops : List Op) (i : Nat) (hi : i < (run init ops).num) :
    ((run init ops).pfds i).events &&& POLLHUP ≠ 0 := by
  have h := wf_reachable ops
  have hr := h.slot_reg i hi
  have hw := (h.obj_wanted _ hr).1 (by simp [h.slot_index i hi])
  rw [h.slot_events i hi]
  exact (mask_bits _ (wanted_tied ops _ hr).2).1 hw

/-- the removal branch is only entered with `num_regd_fds > 0` (the model's truncated `num - 1`
is the C `num_regd_fds--`): in the state `notify_fd(x)` runs in, an index is always below `num` -/
theorem num_pos_of_index {s : State} {x i : Nat} (h : WFx s x)
    (hi : (s.objs x).index = some i) : i < s.num :=
  (h.obj_slot x i (.inr rfl) hi).1

/-- Capacity.  The C code never compares `num_regd_fds` with the `IV_FD_POLL_MAXFD` entries it
allocated.  This is the condition under which that is safe: after any sequence of calls, if no two
registered objects share a descriptor number (two `struct iv_fd` on one descriptor is what would
break it), then `num_regd_fds ≤ IV_FD_POLL_MAXFD` — every registered descriptor number is below
`IV_FD_POLL_MAXFD` because `iv_fd_poll_register_fd` refuses others. -/
theorem num_le_capacity (ops : List Op)
    (hd : ∀ o o', ((run init ops).objs o).registered = true →
      ((run init ops).objs o').registered = true →
      ((run init ops).objs o).fdnum = ((run init ops).objs o').fdnum → o = o') :
    (run init ops).num ≤ MAXFD ∧
    ∀ o, ((run init ops).objs o).registered = true → ((run init ops).objs o).fdnum < MAXFD :=
  have hb := run_fdBound (s := init) (by intro o; simp [init]) ops
  ⟨num_le_maxfd (wf_reachable ops) hb hd, hb⟩

/-- non-vacuity: in `exState` the registered objects 0, 1, 2 have descriptors 10, 11, 12 -/
example : ((exState.objs 0).registered, (exState.objs 1).registered, (exState.objs 2).registered,
    (exState.objs 0).fdnum, (exState.objs 1).fdnum, (exState.objs 2).fdnum) =
    (true, true, true, 10, 11, 12) := by decide

/-- After any sequence of calls, the array handed to `poll()` is, as a multiset, exactly
`{ (fd->fd, bits_to_poll_mask(wanted_bands)) | fd registered, wanted_bands ≠ 0 }`:
for every duplicate-free enumeration `univ` of (at least) the registered objects, `pollArray` is
a permutation of `pollSet` along `univ`. -/
theorem pollset_refines (ops : List Op) (univ : List Nat) (hnd : univ.Nodup)
    (hcov : ∀ o, ((run init ops).objs o).registered = true → o ∈ univ) :
    (pollArray (run init ops)).Perm (pollSet (run init ops) univ) :=
  pollArray_perm (wf_reachable ops) hnd hcov

/-- the same with the enumeration made explicit: the objects named by the calls -/
theorem pollset_refines_named (ops : List Op) :
    (pollArray (run init ops)).Perm (pollSet (run init ops) (dedup (ops.map Op.obj))) :=
  pollset_refines ops _ (nodup_dedup _) fun o ho =>
    mem_dedup.2 ((run_registered_sub ops o ho).resolve_left (by simp [init]))

example : dedup (exOps.map Op.obj) = [2, 1, 0] ∧ pollSet (run init exOps) [0, 1, 2] =
    [⟨11, POLLIN ||| POLLOUT ||| POLLHUP⟩, ⟨12, POLLIN ||| POLLHUP⟩] ∧
    pollArray (run init exOps) = [⟨12, POLLIN ||| POLLHUP⟩, ⟨11, POLLIN ||| POLLOUT ||| POLLHUP⟩] := by
  decide

/-- `num_regd_fds` is the number of registered objects that want a band -/
theorem num_eq_wanted_count (ops : List Op) :
    (run init ops).num = ((dedup (ops.map Op.obj)).filter (isWanted (run init ops))).length :=
  num_eq_count (wf_reachable ops) (nodup_dedup _) fun o ho =>
    mem_dedup.2 ((run_registered_sub ops o ho).resolve_left (by simp [init]))

/-- Frame: an API call on one object never changes what is polled for another registered object
`o` — its entry (`slotEntry`: descriptor number and event mask, or "no slot") is the same before
and after, and so is every field of `o` except possibly `u.index` (its slot may move). -/
theorem frame_other_objects {s : State} (h : WF s) (op : Op) {o : Nat} (ho : o ≠ op.obj)
    (hr : (s.objs o).registered = true) :
    slotEntry (step s op) o = slotEntry s o ∧
    ((step s op).objs o).noIndex = (s.objs o).noIndex :=
  step_frame h op ho hr

/-- non-vacuity: unregistering object 2 (slot 0) moves object 1 from slot 1 to slot 0; its entry
is unchanged -/
example : WF exState ∧ (1 : Nat) ≠ (Op.unregister 2).obj ∧ (exState.objs 1).registered = true ∧
    (exState.objs 1).index = some 1 ∧ ((step exState (.unregister 2)).objs 1).index = some 0 ∧
    slotEntry exState 1 = some ⟨11, POLLIN ||| POLLOUT ||| POLLHUP⟩ :=
  ⟨wf_reachable exOps, by decide, by decide, by decide, by decide, by decide⟩

/-- the slot of another object moves only in the swap-remove: it was the last slot, `x` wants
nothing any more, and it lands in `x`'s old slot -/
theorem frame_slot_moves_only_on_swap {s : State} {x : Nat} (h : WFx s x) {o : Nat} (ho : o ≠ x)
    (hr : (s.objs o).registered = true) :
    ((notifyFd s x).objs o).index = (s.objs o).index ∨
    ((s.objs o).index = some (s.num - 1) ∧ (s.objs x).wanted = 0 ∧
      ((notifyFd s x).objs o).index = (s.objs x).index) :=
  notifyFd_index h ho

/-- the three tests of the loop body of `iv_fd_poll_activate_fds`: which bands one `revents` value
makes ready -/
theorem bandsOf_spec (r b : Nat) :
    b ∈ bandsOf r ↔
      (b = MASKIN ∧ r &&& (POLLIN ||| POLLERR ||| POLLHUP) ≠ 0) ∨
      (b = MASKOUT ∧ r &&& (POLLOUT ||| POLLERR ||| POLLHUP) ≠ 0) ∨
      (b = MASKERR ∧ r &&& (POLLERR ||| POLLHUP) ≠ 0) := by
  have one : ∀ (c : Prop) [Decidable c] (m : Nat), b ∈ (if c then [m] else []) ↔ b = m ∧ c := by
    intro c _ m; split <;> simp [*]
  simp only [bandsOf, List.mem_append, one, or_assoc]

/-- in C order: MASKIN, MASKOUT, MASKERR — e.g. a hang-up makes all three ready -/
example : bandsOf POLLIN = [MASKIN] ∧ bandsOf POLLOUT = [MASKOUT] ∧
    bandsOf POLLHUP = [MASKIN, MASKOUT, MASKERR] ∧ bandsOf POLLERR = [MASKIN, MASKOUT, MASKERR] ∧
    bandsOf (POLLIN ||| POLLOUT) = [MASKIN, MASKOUT] ∧ bandsOf 0 = [] ∧ bandsOf POLLNVAL = [] := by
  decide

/-- For any `revents` vector, after any sequence of calls (any history of swap-removes):
`activate` reports, slot by slot in increasing order, the bands `bandsOf (revents i)` for the
object `fds[i]`; and that object is the registered object whose descriptor number is `pfds[i].fd`,
whose wanted bands produced `pfds[i].events`, and which believes it is in slot `i` — readiness of
a descriptor is never attributed to another object. -/
theorem dispatch_no_misattribution (ops : List Op) (revents : Nat → Nat) :
    let s := run init ops
    activate s revents =
      (List.range s.num).flatMap (fun i => (bandsOf (revents i)).map (fun b => (s.fds i, b))) ∧
    ∀ i, i < s.num →
      (s.objs (s.fds i)).registered = true ∧ (s.objs (s.fds i)).index = some i ∧
      (s.objs (s.fds i)).fdnum = (s.pfds i).fd ∧
      bitsToPollMask (s.objs (s.fds i)).wanted = (s.pfds i).events ∧
      ∀ b, b ∈ bandsOf (revents i) → (s.fds i, b) ∈ activate s revents := by
  have h := wf_reachable ops
  refine ⟨rfl, fun i hi => ⟨h.slot_reg i hi, h.slot_index i hi, (h.slot_fd i hi).symm,
    (h.slot_events i hi).symm, fun b hb => mem_activate.2 ⟨i, hi, rfl, hb⟩⟩⟩

example : activate exState (fun i => if i = 0 then POLLIN else POLLHUP) =
    [(2, MASKIN), (1, MASKIN), (1, MASKOUT), (1, MASKERR)] := by decide

/-- End to end: if the kernel answers `K fd events` for a descriptor `fd` polled for `events`
(`kernelRevents`), then after any sequence of calls `iv_fd_make_ready(o, b)` is called exactly for
the registered objects `o` that want some band, with exactly the bands that the kernel's answer
for `o`'s own descriptor and `o`'s own mask makes ready. -/
theorem dispatch_kernel (ops : List Op) (K : Nat → Nat → Nat) (o b : Nat) :
    let s := run init ops
    (o, b) ∈ activate s (kernelRevents s K) ↔
      isWanted s o = true ∧
      b ∈ bandsOf (K (s.objs o).fdnum (bitsToPollMask (s.objs o).wanted)) :=
  mem_activate_kernel (wf_reachable ops) K o b

/-- a kernel in which only descriptor 12 is readable: object 2 (descriptor 12, now in slot 0) and
nobody else is made ready, for `MASKIN` only -/
example : activate exState (kernelRevents exState fun fd ev => if fd = 12 then ev &&& POLLIN else 0)
    = [(2, MASKIN)] := by decide

/-- register A (object 0) and B (object 1), each with an `in` handler; remove A (B is moved from
slot 1 to slot 0); add C (object 2); remove B -/
def mutOps : List Op :=
  [.setFd 0 10, .setHandler 0 .inn true, .register 0,
   .setFd 1 11, .setHandler 1 .inn true, .register 1,
   .setHandler 0 .inn false,
   .setFd 2 12, .setHandler 2 .inn true, .register 2,
   .setHandler 1 .inn false]

def mutState : State := runMut init mutOps

/-- On the mutant (`notifyFdMut`: no `last->u.index = fd->u.index`, the moved object keeps its
stale index) this sequence ends with one live slot that still polls B's descriptor 11 although B
wants nothing, while C — registered, wanting `MASKIN` — believes it is in slot 1 `≥ num`: C's
descriptor 12 is not in the array handed to `poll()`.  The invariant fails and C has been dropped
from the poll set. -/
theorem mutant_drops_C :
    let s := mutState
    s.num = 1 ∧ s.fds 0 = 1 ∧ (s.pfds 0).fd = 11 ∧ (s.objs 1).wanted = 0 ∧
    (s.objs 2).registered = true ∧ (s.objs 2).wanted = MASKIN ∧ (s.objs 2).index = some 1 ∧
    pollArray s = [⟨11, POLLIN ||| POLLHUP⟩] ∧
    pollSet s [0, 1, 2] = [⟨12, POLLIN ||| POLLHUP⟩] := by
  decide

theorem mutant_breaks_wf : ¬ WF mutState := by
  intro h
  have m := mutant_drops_C
  have h1 : mutState.num = 1 := m.1
  have h2 := (h.obj_slot 2 1 m.2.2.2.2.1 m.2.2.2.2.2.2.1).1
  omega

/-- the same sequence on the real code: C is the one polled entry -/
theorem real_keeps_C :
    let s := run init mutOps
    s.num = 1 ∧ s.fds 0 = 2 ∧ (s.objs 2).index = some 0 ∧
    pollArray s = [⟨12, POLLIN ||| POLLHUP⟩] ∧
    pollSet s [0, 1, 2] = [⟨12, POLLIN ||| POLLHUP⟩] := by
  decide

end Ivy.Props.C15poll
