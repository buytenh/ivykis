import Ivy.L3.WorkProofs
/-!
# C12 — iv_work: every item runs once in a worker, completes once in the owner, and all items finish

The property theorems; the model is `Ivy/L3/Work.lean` (an LTS whose actions are the critical sections of
`iv_work.c`), the invariant `Inv` is in `Ivy/L3/WorkSpec.lean`, the longer proofs in `Ivy/L3/WorkProofs.lean`.
`Reach max s`: s is reachable from a fresh pool with `max_threads = max` by *any* sequence of actions, i.e. for
every interleaving of owner, workers and clock, every submission program (bursts, submissions from completions,
continuations from work functions of this pool — `submitc k` — and from any other thread that is not the owner, e.g. a
worker of ANOTHER pool — `submitf`), every timing of idle-timeout expiry.  Environment contract, all of it: no submission
after `iv_work_pool_put` (guard `handle = true` of `submit`/`submitc`/`submitf`), no `put` while a submission is in
progress (a submission is one atomic action).  Model of the code after the D10 repair (see Work.lean, History).  Worker threads and the owner thread
are distinct by construction: `wEnter k`/`wAfter k` are steps of worker thread k, `oComplete` is a step of the owner.
-/
namespace Ivy.Props.C12
open Ivy.Work

/-- A fresh pool satisfies the invariant (any `max_threads ≥ 1`). -/
theorem inv_init (max : Nat) (hm : 1 ≤ max) : Inv (St.init max) := Proofs.inv_init max hm

/-- Every action of every thread keeps the invariant: hence it holds in every reachable state, for all interleavings. -/
theorem inv_step {s s' : St} {a : Act} (h : Inv s) (hs : step s a = some s') : Inv s' := Proofs.inv_step h hs

theorem reach_inv {max : Nat} (hm : 1 ≤ max) {s : St} (hr : Reach max s) : Inv s := Proofs.reach_inv hm hr

/-- Where an item is determines exactly how often its functions have run: queued (on `work_items`, nothing ran),
running (held by exactly the worker recorded for it, work function called once), done (on `work_done` or in the
owner's stolen batch, work function called once, completion not yet), completed (each called exactly once). -/
theorem item_exact {s : St} (h : Inv s) {i : Nat} (hi : i < s.ni) :
    ((s.it i).phase = .queued ↔ i ∈ s.queue) ∧
    ((s.it i).phase = .running → (s.it i).worker < s.nw ∧ (s.w (s.it i).worker).pc = .running i) ∧
    ((s.it i).phase = .done ↔ i ∈ s.done ++ s.owner.batch) ∧
    (s.it i).workRuns = (if (s.it i).phase = .queued then 0 else 1) ∧
    (s.it i).complRuns = (if (s.it i).phase = .completed then 1 else 0) :=
  ⟨(h.items i hi).q_iff, (h.items i hi).r_imp, (h.items i hi).d_iff, (h.items i hi).work_cnt, (h.items i hi).compl_cnt⟩

/-- The order: one step moves an item at most one stage along queued → running → done → completed; it is taken
(work function called) only by a step of a worker thread, which is recorded as its worker; it becomes done only by
that same worker's step after the work function returned; its completion is called only by the owner's
`oComplete`, only when it is done. -/
theorem item_order {s s' : St} {a : Act} (h : Inv s) (hs : step s a = some s') {i : Nat} (hi : i < s.ni) :
    (s'.it i).phase = (s.it i).phase ∨
    ((s.it i).phase = .queued ∧ (s'.it i).phase = .running ∧ ∃ k, (a = .wEnter k ∨ a = .wAfter k) ∧ k < s.nw ∧ (s'.it i).worker = k) ∨
    ((s.it i).phase = .running ∧ (s'.it i).phase = .done ∧ a = .wAfter (s.it i).worker) ∨
    ((s.it i).phase = .done ∧ (s'.it i).phase = .completed ∧ a = .oComplete) :=
  Proofs.item_order h hs hi

/-- Never more work functions running than started threads, never more started threads than `max_threads`. -/
theorem concurrency {s : St} (h : Inv s) : runCount s ≤ s.started ∧ s.started ≤ s.max := by
  refine ⟨?_, h.started_le⟩
  rw [h.started_eq]
  unfold runCount liveCount
  apply Proofs.cnt_le
  intro j _
  cases (s.w j).pc <;> simp [WPc.isRunning, WPc.live]

/-- WorkOwed (strong form): while work is queued some worker is *responsible*: starting up, inside got_event, or
with its kick owed in a way the idle timeout cannot cancel (not on the idle list, or marked `kicked`); or the pool has
no worker thread at all and `thread_needed` is owed to the owner or being handled by it.
(The second alternative cannot be dropped in any faithful model with a foreign submitter: in the state after `submitf`
on a fresh pool an item is queued and there is no worker.  Whenever a worker thread exists the first alternative holds:
`work_owed_resp_live`.) -/
theorem work_owed_resp {s : St} (h : Inv s) (hq : s.queue ≠ []) :
    (∃ k, k < s.nw ∧ Resp s k) ∨ (s.started = 0 ∧ (s.tnOwed = true ∨ s.owner = .tnPre)) := h.owed hq

/-- While at least one worker thread exists, queued work always has a responsible worker. -/
theorem work_owed_resp_live {s : St} (h : Inv s) (hpos : 0 < s.started) (hq : s.queue ≠ []) : ∃ k, k < s.nw ∧ Resp s k :=
  Proofs.owed_live h hpos hq

/-- WorkOwed as stated in the design: `work_items ≠ [] →` some worker is inside got_event, or has its kick owed,
or a thread is starting, or thread_needed is owed — or (after a foreign submission the only thing owed may be
thread_needed, and the flag is cleared when the owner's loop takes the event) its handler has been invoked and has not
yet taken the pool lock. -/
theorem work_owed {s : St} (h : Inv s) (hq : s.queue ≠ []) :
    (∃ k, k < s.nw ∧ ((s.w k).pc = .gotPre ∨ (s.w k).pc.isRunning = true)) ∨
    (∃ k, k < s.nw ∧ (s.w k).kickOwed = true) ∨
    (∃ k, k < s.nw ∧ ((s.w k).pc = .starting ∨ (s.w k).pc = .selfkick)) ∨ s.tnOwed = true ∨ s.owner = .tnPre := by
  rcases h.owed hq with ⟨k, hk, hr⟩ | hr
  case inr => exact Or.inr (Or.inr (Or.inr hr.2))
  unfold Resp at hr
  split at hr
  · rename_i hp; exact Or.inr (Or.inr (Or.inl ⟨k, hk, Or.inl hp⟩))
  · rename_i hp; exact Or.inr (Or.inr (Or.inl ⟨k, hk, Or.inr hp⟩))
  · rename_i hp; exact Or.inl ⟨k, hk, Or.inl hp⟩
  · rename_i i hp; exact Or.inl ⟨k, hk, Or.inr (by simp [hp, WPc.isRunning])⟩
  · exact Or.inr (Or.inl ⟨k, hk, hr.1⟩)
  · exact Or.inr (Or.inl ⟨k, hk, hr.1⟩)
  · exact absurd hr id

/-- The `iv_fatal` calls of iv_work.c (die on a kicked or still-listed thread) and the timer misuse they guard
against are unreachable. -/
theorem no_fatal {s : St} (h : Inv s) : s.fatal = false := h.nofatal

/-- No lost work: in a state where the library itself can do nothing more (every thread asleep in its loop; only
new submissions, `put`, or an idle timeout could happen), every item ever submitted has completed.  This covers
"all threads busy, none idle, no kick sent" (the worker's self re-kick) and "kick races with the idle timer"
(`kicked`), for every timing of worker start-up, idleness and saturation. -/
theorem no_lost_work {s : St} (h : Inv s) (hst : Stuck s) : ∀ i, i < s.ni → (s.it i).phase = .completed :=
  Proofs.no_lost_work h hst

/-- What `iv_work_pool_submit_continuation` does when called by a thread that is neither the owner nor a worker of
this pool inside a work function (`iv_work_submit_pool` with `called_from_owner_thread = 0`): allowed exactly while the
pool has not been put; the item gets the next number and goes to the tail of `work_items`; no thread is started by the
caller; the first idle worker is marked `kicked` and its kick posted, else below `max_threads` `thread_needed` is
posted, else (at the maximum, nobody idle) nothing is posted. -/
theorem foreign_submit_effect {s s' : St} (h : Inv s) (hs : step s .submitf = some s') :
    s.shut = false ∧ s'.ni = s.ni + 1 ∧ s'.queue = s.queue ++ [s.ni] ∧ (s'.it s.ni).phase = .queued ∧
    (s'.it s.ni).workRuns = 0 ∧ s'.nw = s.nw ∧ s'.started = s.started ∧ s'.freed = false ∧
    ((∃ t rest, s.idle = t :: rest ∧ (s'.w t).kicked = true ∧ (s'.w t).kickOwed = true) ∨
     (s.idle = [] ∧ s.started < s.max ∧ s'.tnOwed = true) ∨
     (s.idle = [] ∧ s.started = s.max ∧ s'.tnOwed = s.tnOwed)) := Proofs.foreign_submit_effect h hs

/-- No lost foreign continuation (same quiescence formulation as `no_lost_work`): an item submitted by a foreign
thread to a pool that has not been put, followed by ANY continuation of the run (`ReachFrom`: every interleaving, more
submissions from any thread, `put` at any later moment, idle timeouts): in every state in which the library can do
nothing more, that item has been run exactly once by a worker and completed exactly once by the owner. -/
theorem foreign_continuation_runs {s s' t : St} (h : Inv s) (hs : step s .submitf = some s')
    (hr : ReachFrom s' t) (hst : Stuck t) :
    s.ni < t.ni ∧ (t.it s.ni).phase = .completed ∧ (t.it s.ni).workRuns = 1 ∧ (t.it s.ni).complRuns = 1 := by
  have h' := Proofs.inv_step h hs
  have ht := Proofs.reachFrom_inv h' hr
  have hni : s'.ni = s.ni + 1 := (Proofs.foreign_submit_effect h hs).2.1
  have hle := Proofs.reachFrom_ni_le hr
  have hlt : s.ni < t.ni := by omega
  have hc := Proofs.no_lost_work ht hst s.ni hlt
  have hii := ht.items s.ni hlt
  refine ⟨hlt, hc, ?_, ?_⟩
  · rw [hii.work_cnt, hc]; simp
  · rw [hii.compl_cnt, hc]; simp

/-- ... and at every moment before that, while the item (any item) is still queued, it is owed a worker: the pool is not
freed, and some worker is responsible for the queue, or no worker thread exists, `thread_needed` is owed to the owner
(or its handler is running) and the handler will find `idle_threads` empty and `started_threads < max_threads`, i.e.
will start a thread. -/
theorem queued_item_owed {s : St} (h : Inv s) {i : Nat} (hi : i < s.ni) (hp : (s.it i).phase = .queued) :
    s.freed = false ∧
    ((∃ k, k < s.nw ∧ Resp s k) ∨
     (s.started = 0 ∧ s.idle = [] ∧ s.started < s.max ∧ (s.tnOwed = true ∨ s.owner = .tnPre))) :=
  Proofs.queued_item_owed h (by intro he; have := (h.items i hi).q_iff.1 hp; simp [he] at this)

/-- NULL pool: the invariant holds initially and is kept by every action of the thread. -/
theorem null_pool_inv {s : LSt} (hr : LReach s) : LInv s := by
  induction hr with
  | init => constructor <;> simp [pairs]
  | step _ hs ih => exact Proofs.linv_step ih hs

/-- NULL pool: at every moment the calls made are work-then-completion of the items in submission order (each
exactly once, a completion never before its work function), plus possibly the work function of the next item. -/
theorem null_pool_local {s : LSt} (h : LInv s) :
    ∃ m, m ≤ s.n ∧ s.finished = List.range m ∧
      s.log = pairs (List.range m) ++ (if s.inWork then [(m, false)] else []) := Proofs.null_pool_prefix h

/-- NULL pool: when the thread's loop has nothing left to run, all n submitted items have run and completed. -/
theorem null_pool_all {s : LSt} (h : LInv s) (hst : LStuck s) : s.log = pairs (List.range s.n) :=
  Proofs.null_pool_local h hst

/-- Non-vacuity: max_threads = 1, two submissions; the single worker starts, takes both in turn (re-kicking itself
is not needed here), the owner completes both. -/
example :
    (([Act.submit, .submit, .wStart 0, .wSelfKick 0, .wKick 0, .wEnter 0, .wAfter 0, .wAfter 0, .oEv, .oSteal,
       .oComplete, .oComplete, .oFinish] : List Act).foldlM step (St.init 1)).map
      (fun s => s.ni == 2 && (s.it 0).phase == .completed && (s.it 1).phase == .completed && (s.it 0).workRuns == 1 &&
                (s.it 1).complRuns == 1 && s.idle == [0] && s.started == 1) = some true := by decide

/-- Non-vacuity of the saturated case: max_threads = 1, the item is submitted while the only worker is inside a work
function (no idle thread, no new thread, no kick sent): the worker leaves with work pending and re-kicks itself. -/
example :
    (([Act.submit, .wStart 0, .wSelfKick 0, .wKick 0, .wEnter 0, .submit, .wAfter 0] : List Act).foldlM step (St.init 1)).map
      (fun s => s.queue == [1] && (s.w 0).pc == .parked && (s.w 0).kickOwed && s.idle == []) = some true := by decide

/-- Non-vacuity of the foreign submitter: max_threads = 2, a thread that is not the owner submits to a pool without
any worker (only `thread_needed` is posted, no thread started by the caller); the owner's handler starts worker 0, which
runs the item; a second foreign submission while worker 0 is parked idle kicks it (`kicked`), it runs that one too. -/
example :
    (([Act.submitf, .oTn, .oTnRun, .wStart 0, .wSelfKick 0, .wKick 0, .wEnter 0, .wAfter 0, .submitf, .wKick 0, .wEnter 0,
       .wAfter 0, .oEv, .oSteal, .oComplete, .oComplete, .oFinish] : List Act).foldlM step (St.init 2)).map
      (fun s => s.ni == 2 && (s.it 0).phase == .completed && (s.it 1).phase == .completed && (s.it 1).workRuns == 1 &&
                s.nw == 1 && s.started == 1 && s.idle == [0] && !s.tnOwed) = some true := by decide

example :
    (([Act.submitf] : List Act).foldlM step (St.init 2)).map
      (fun s => s.queue == [0] && s.nw == 0 && s.started == 0 && s.tnOwed) = some true := by decide

end Ivy.Props.C12
