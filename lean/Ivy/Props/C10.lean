import Ivy.L2.SignalProofs
import Ivy.L1.TablesAgree
/-!
# C10 — iv_signal: every delivery reaches the interests with the documented fan-out

Property theorems only; the model is `Ivy/L2/Signal.lean` (an LTS over `/repo/src/iv_signal.c`), the
specification vocabulary (`Selected`, `Fanout`, `Inv`, `Oblig`) is in `Ivy/L2/SignalSpec.lean`, the longer proofs are
in `Ivy/L2/SignalProofs.lean` (a theorem here re-exports one of them, or is a few lines from its lemmas).  Every theorem quantifies over every state satisfying `Inv`; `run_inv` shows
that `Inv` holds after every history (any interleaving of any number of threads: registrations,
unregistrations, deliveries to any thread split in their two halves, individual raw-event writes, event runs,
forks).  The interest ids stand for the addresses of the `struct iv_signal`s (last key of the comparator).

Finding D7 (repaired in /repo by 5037219): the unrepaired `iv_signal_unregister` re-walks only the interest's
OWN tree, and `handoff_on_unregister` below is false of it; the witness is
  `[reg 0 0 10 true true, reg 0 1 10 false false, sigThread 0 10, posted 0, unreg 0 0]` from `State.init 1`:
interest 0 (exclusive, this-thread, thread 0) is noted for the delivery and unregistered before its event
runs; a walk over thread 0's now empty set alone posts nothing (`posts o = []`), whereas `Fanout st' 0 10 1`
holds for the process-wide interest 1.  The replay is /verif/corpus/C10/d7-handoff-thread-to-process.scn
(oracle signature `signal:handoff-dropped` on the unrepaired code).
-/
namespace Ivy.Props.C10
open Ivy.Signal

theorem init_inv (pid : Nat) (hp : pid ≠ 0) : Inv (State.init pid) := Proofs.init_inv pid hp

/-- The invariant is preserved by every enabled action … -/
theorem step_inv (st : State) (h : Inv st) (a : Action) {st' o} (hs : step st a = some (st', o)) : Inv st' :=
  Proofs.step_inv st h a hs

/-- … hence holds after every history (all orders of register / unregister / delivery / event runs / forks, all
interleavings of the threads' critical sections and raw-event writes). -/
theorem run_inv (pid : Nat) (hp : pid ≠ 0) (as : List Action) {st o} (hr : run (State.init pid) as = some (st, o)) :
    Inv st := Proofs.run_inv _ (Proofs.init_inv pid hp) as hr

/-- fanout_spec, first half of the handler (thread T receives signal n in the owner process): exactly the
interests the documented rule selects among T's own this-thread interests are posted (each once): the first
exclusive one if there is one, otherwise all of them.  The handler goes on to the process-wide set exactly
when T has no own interest for n (and then nothing was posted and nothing else changed). -/
theorem fanout_spec_thread (st : State) (h : Inv st) (T n : Nat) (hp : st.ownerPid = st.pid) {st' o}
    (hs : step st (.sigThread T n) = some (st', o)) :
    (∀ i, i ∈ posts o ↔ Selected (InThr st T) st n i) ∧ (posts o).Nodup ∧ o = (posts o).map Out.post ∧
    (st'.pc T = some n ↔ ¬ HasThr st T n) ∧ (HasThr st T n → st'.pc T = none) ∧ st'.pend T = posts o ∧
    (∀ i, i ∈ posts o → st'.active i = true ∧ st'.noted i = true) ∧
    (¬ HasThr st T n → st' = { st with pc := upd st.pc T (some n) }) :=
  Proofs.fanout_spec_thread st h T n hp hs

/-- fanout_spec, second half (under `sig_lock`, in whatever state the other threads have produced meanwhile):
exactly the interests the rule selects among the process-wide ones are posted, each once; their writes are the
thread's pending writes and `sig_lock` is held until they are done. -/
theorem fanout_spec_process (st : State) (h : Inv st) (T n : Nat) (hpc : st.pc T = some n) {st' o}
    (hs : step st (.sigProc T) = some (st', o)) :
    (∀ i, i ∈ posts o ↔ Selected (InProc st) st n i) ∧ (posts o).Nodup ∧ o = (posts o).map Out.post ∧
    st'.pc T = none ∧ st'.pend T = posts o ∧ (posts o ≠ [] → st'.lock = some T) ∧
    (∀ i, i ∈ posts o → st'.active i = true ∧ st'.noted i = true) :=
  Proofs.fanout_spec_process st h T n hpc hs

/-- fanout_spec for an uninterrupted delivery: what one delivery of n to thread T posts is exactly `Fanout st T n`
(T's own interests for n by the rule if it has any, else the process-wide ones by the rule). -/
theorem fanout_spec (st : State) (h : Inv st) (T n : Nat) (hp : st.ownerPid = st.pid) {st1 o1}
    (h1 : step st (.sigThread T n) = some (st1, o1)) :
    (HasThr st T n → st1.pc T = none ∧ ∀ i, i ∈ posts o1 ↔ Fanout st T n i) ∧
    (¬ HasThr st T n → o1 = [] ∧ st1.pc T = some n ∧
      ∀ {st2 o2}, step st1 (.sigProc T) = some (st2, o2) → ∀ i, i ∈ posts o2 ↔ Fanout st T n i) :=
  Proofs.fanout_spec st h T n hp h1

/-- every raw-event write of a wake walk can be performed and targets a registered interest (never a closed
descriptor); it makes the event run owed -/
theorem posts_are_written (st : State) (h : Inv st) (T i : Nat) (rest : List Nat) (hp : st.pend T = i :: rest) :
    ∃ st', step st (.posted T) = some (st', []) ∧ st'.owed i = true := by
  have := (h.pend_reg T i (by rw [hp]; simp)).1
  simp [step, postedStep, hp, this]

/-- redelivery_during_handler: a delivery (either half of the handler) that selects interest i — in particular
while i's user handler is running, `stage i = 2`, after `iv_signal_event` cleared `active` — sets `active` again
and creates the obligation `Oblig` (its write is pending, then the event run is owed); the obligation survives every
continuation that contains neither the event run of i itself nor unregistering i nor a fork; and when the handler has
returned (`stage i = 0`), the owner is not inside a signal handler and the write has been performed, the event run
is enabled: the handler is called again. -/
theorem redelivery_during_handler (st : State) (h : Inv st) (i : Nat) (d : Action) (hd : d.isDelivery = true)
    {st1 o1} (hs : step st d = some (st1, o1)) (hp : i ∈ posts o1)
    (as : List Action) (hc : ∀ a, a ∈ as → consumes i a = false) {st2 o2} (hr : run st1 as = some (st2, o2)) :
    st1.active i = true ∧ st1.noted i = true ∧ Oblig st1 i ∧ Oblig st2 i ∧
    (st2.owed i = true → st2.stage i = 0 → busy st2 (st2.owner i) = false →
      ∃ st3, step st2 (.evRead i) = some (st3, [])) :=
  Proofs.redelivery_during_handler st h i d hd hs hp as hc hr

/-- a noted delivery whose handler has not started keeps `active` set (this is what makes the hand-off fire), and
an event run is owed, in progress, or its write is pending -/
theorem noted_is_served (st : State) (h : Inv st) (i : Nat) (hr : st.reg i = true) (hn : st.noted i = true) :
    st.active i = true ∧ (st.owed i = true ∨ st.stage i = 1 ∨ ∃ T, i ∈ st.pend T) :=
  h.noted_ok i hr hn

/-- handoff_on_unregister (code as repaired, finding D7): unregistering an exclusive interest whose `active`
flag is set (by `noted_is_served`: in particular one with a noted delivery whose handler has not run) while other
interests for the signal remain registered posts exactly what a fresh delivery would reach: for a this-thread
interest `Fanout` of the unregistering thread over the remaining interests (its own remaining this-thread
interests by the rule, else the process-wide ones), for a process-wide interest the rule over the remaining
process-wide ones.  Everything posted is marked noted/active and becomes a pending write. -/
theorem handoff_on_unregister (st : State) (h : Inv st) (T i : Nat) {st' o}
    (hs : step st (.unreg T i) = some (st', o))
    (hex : st.excl i = true) (hact : st.active i = true) (hmore : st.count (st.sig i) ≠ 1) :
    (∀ j, j ∈ posts o ↔ (if st.this i then Fanout st' T (st.sig i) j else Selected (InProc st') st' (st.sig i) j)) ∧
    (posts o).Nodup ∧ o = (posts o).map Out.post ∧ st'.pend T = posts o ∧
    (∀ j, j ∈ posts o → st'.active j = true ∧ st'.noted j = true ∧ st'.reg j = true) :=
  Proofs.handoff_on_unregister st h T i hs hex hact hmore

/-- default_restored: the disposition is SIG_DFL exactly when `total_num_interests[n]` is 0, which is exactly
when no interest for n is registered … -/
theorem default_restored (st : State) (h : Inv st) (n : Nat) :
    (st.disp n = false ↔ st.count n = 0) ∧ (st.count n = 0 ↔ ∀ i, st.reg i = true → st.sig i ≠ n) :=
  Proofs.default_restored st h n

/-- … and `iv_signal_unregister` calls sigaction(SIG_DFL) exactly when the last interest for the signal goes
away (and never touches another signal's disposition). -/
theorem default_restored_step (st : State) (h : Inv st) (T i : Nat) {st' o} (hs : step st (.unreg T i) = some (st', o)) :
    (Out.disp (st.sig i) false ∈ o ↔ ∀ j, st.reg j = true → j ≠ i → st.sig j ≠ st.sig i) ∧
    (∀ m b, Out.disp m b ∈ o → m = st.sig i ∧ b = false) :=
  Proofs.default_restored_step st h T i hs

/-- child_is_silent: in a process whose pid differs from the owner pid (a forked child that has not registered
anything itself) a delivery posts nothing and changes nothing … -/
theorem child_is_silent (st : State) (T n : Nat) (hp : st.ownerPid ≠ st.pid) {st' o}
    (hs : step st (.sigThread T n) = some (st', o)) : st' = st ∧ o = [] :=
  Proofs.child_is_silent st T n hp hs

/-- … such a process is what `fork` produces … -/
theorem fork_gives_child (st : State) (p : Nat) (hp : st.ownerPid = st.pid) {c o} (hs : step st (.fork p) = some (c, o)) :
    c.ownerPid ≠ c.pid ∧ o = [] ∧ (∀ T, c.pc T = none ∧ c.pend T = []) ∧ c.ownerPid = st.ownerPid := by
  obtain ⟨_, hne, _, rfl, rfl⟩ := Proofs.fork_eq hs
  exact ⟨fun h => hne (h.symm.trans hp), rfl, fun T => ⟨rfl, rfl⟩, rfl⟩

/-- … and no sequence of signal-handler actions (first halves, second halves, raw-event writes) in it ever posts. -/
theorem child_is_silent_run (st : State) (h : Inv st) (hp : st.ownerPid ≠ st.pid) (as : List Action)
    (hall : ∀ a, a ∈ as → Proofs.handlerAction a = true) {st' o} (hr : run st as = some (st', o)) :
    st' = st ∧ o = [] :=
  Proofs.child_is_silent_run st h hp as hall hr

/-- Non-vacuity 1 (fan-out, exclusive stop, this-thread precedence): thread 0 has a shared this-thread interest 5;
process-wide: exclusive 3 and 4, shared 6.  A delivery to thread 0 posts only 5; a delivery to thread 1 posts only
the first exclusive process-wide interest 3. -/
example : (run (State.init 1)
    [.reg 0 5 10 false true, .reg 1 4 10 true false, .reg 1 3 10 true false, .reg 0 6 10 false false,
     .sigThread 0 10, .posted 0, .sigThread 1 10, .sigProc 1, .posted 1]).map (·.2) =
    some [.disp 10 true, .post 5, .post 3] := by decide

/-- Non-vacuity 2 (the D7 scenario on the repaired code): exclusive this-thread interest 0 and process-wide
interest 1; the delivery to thread 0 is noted for 0, which is unregistered before its event runs: the delivery is
handed on to 1. -/
example : (run (State.init 1)
    [.reg 0 0 10 true true, .reg 0 1 10 false false, .sigThread 0 10, .posted 0, .unreg 0 0]).map (·.2) =
    some [.disp 10 true, .post 0, .post 1] := by decide

/-- Non-vacuity 3 (re-delivery during the handler, default restored, silent child). -/
example : (run (State.init 1)
    [.reg 0 0 10 false false, .reg 0 1 12 false false, .sigThread 1 10, .sigProc 1, .posted 1, .evRead 0, .evClear 0,
     .sigThread 1 10, .sigProc 1, .posted 1, .evEnd 0, .evRead 0, .evClear 0, .evEnd 0,
     .unreg 0 0, .fork 2, .sigThread 0 12]).map (·.2) =
    some [.disp 10 true, .disp 12 true, .post 0, .post 0, .disp 10 false] := by decide

/-- T-gen (finite table, re-checked against /repo's current code on every run): `iv_signal_compare` orders all
pairs of the 8-object universe (both signal numbers, exclusive or not, this-thread or not, address order = id order) as
the model's `less` does -/
theorem signal_compare_table_agrees :
    (∀ r ∈ Ivy.Generated.Tables.signalCompare,
      Ivy.L1.TablesAgree.cmp3 Ivy.L1.TablesAgree.sigState r.1 r.2.1 = r.2.2) ∧
    (∀ i ∈ List.range Ivy.Generated.Tables.signalObjs.length, ∀ j ∈ List.range Ivy.Generated.Tables.signalObjs.length,
      (i, j, Ivy.L1.TablesAgree.cmp3 Ivy.L1.TablesAgree.sigState i j) ∈ Ivy.Generated.Tables.signalCompare) :=
  Ivy.L1.TablesAgree.signal_compare_table_agrees

end Ivy.Props.C10
