import Ivy.L0.ListPtrProofs
/-!
# C06 (pointer level) — ivykis' intrusive circular doubly-linked list (`struct iv_list_head`,
iv_list.h, and `__iv_list_steal_elements`, iv_private.h) refines Lean lists

Every model in this tree (tasks, timers' expired list, events, work items, ...) represents an
`iv_list_head` list as a plain Lean `List`.  `Ivy/L0/ListPtr.lean` transcribes the pointer code
statement by statement over a heap `Nat → Option Node`, `Node = {next prev : Option Nat}`
(`none` = NULL; an operation returns `none` where the C code would dereference NULL or an
unallocated address).  The theorems below say that on a well-formed list the pointer code
never faults and does to the heap exactly what the list operation does to the list.

`Repr h head xs` (`Ivy/L0/ListPtrProofs.lean`): the addresses `head :: xs` are pairwise
distinct; following `next` from `head` one visits exactly `xs`, in order, and is back at
`head`; following `prev` from `head` one visits exactly `xs.reverse` and is back at `head`
(so `a->next->prev == a == a->prev->next` all the way round: `ring_consistent`).
`hd l d` / `lst l d` = first / last element of `l`, or `d` when `l = []` (so `hd xs head` is
`head->next` and `lst xs head` is `head->prev`).
`Preserves h h' big` (separation): every list represented in `h` none of whose nodes (head
included) is in `big` is still represented, unchanged, in `h'`.
Each theorem also states the exact frame: the (at most five) addresses outside which memory
is untouched.

Property theorems only; the lemmas are in `Ivy/L0/ListPtrProofs.lean`.
-/
namespace Ivy.Props.C06list
open Ivy.ListPtr

/-- The head record: `head->next` is the first element and `head->prev` the last (the head
itself when the list is empty). -/
theorem head_fields {h : Heap} {head : Nat} {xs : List Nat} (hR : Repr h head xs) :
    h head = some ⟨some (hd xs head), some (lst xs head)⟩ :=
  node_of_fields (repr_head hR).1 (repr_head hR).2

/-- An element record: `next` is its successor in `xs` (the head for the last element), `prev`
its predecessor (the head for the first). -/
theorem elem_fields {h : Heap} {head : Nat} {A : List Nat} {x : Nat} {B : List Nat}
    (hR : Repr h head (A ++ x :: B)) : h x = some ⟨some (hd B head), some (lst A head)⟩ :=
  node_of_fields (repr_elem hR).1 (repr_elem hR).2

/-- `next`/`prev` are mutually consistent all the way round, head included. -/
theorem ring_consistent {h : Heap} {head : Nat} {xs : List Nat} (hR : Repr h head xs) {a : Nat}
    (ha : a ∈ head :: xs) :
    ∃ n p, nextOf h a = some (some n) ∧ prevOf h a = some (some p) ∧
      prevOf h n = some (some a) ∧ nextOf h p = some (some a) :=
  repr_consistent hR ha

/-- `Repr` depends on nothing but the records of `head :: xs` (frame rule). -/
theorem frame_rule {h h' : Heap} {head : Nat} {xs : List Nat} (hR : Repr h head xs)
    (hf : ∀ i ∈ head :: xs, h' i = h i) : Repr h' head xs :=
  repr_frame hR hf

/-- `INIT_IV_LIST_HEAD` of any allocated record makes it the head of the empty list and
touches nothing else. -/
theorem init_empty {h : Heap} {a : Nat} (ha : Alloc h a) :
    ∃ h', init h a = some h' ∧ Repr h' a [] ∧ ∀ j, j ≠ a → h' j = h j :=
  ⟨_, init_eq ha, repr_initH ha, fun _ hj => initH_ne hj⟩

/-- `iv_list_empty` returns true exactly when the represented list is `[]`. -/
theorem empty_iff {h : Heap} {head : Nat} {xs : List Nat} (hR : Repr h head xs) :
    empty h head = some xs.isEmpty :=
  empty_spec hR

/-- `iv_list_add(x, head)` of an allocated record `x` that is not a node of the list (whatever
its fields hold): no fault, the list becomes `x :: xs`; only `x`, `head` and the old first
element are written; disjoint lists are preserved. -/
theorem add_front {h : Heap} {head : Nat} {xs : List Nat} {x : Nat}
    (hR : Repr h head xs) (hx : Alloc h x) (hfresh : x ∉ head :: xs) :
    ∃ h', add h x head = some h' ∧ Repr h' head (x :: xs) ∧
      (∀ j, j ∉ [x, head, hd xs head] → h' j = h j) ∧ Preserves h h' (x :: head :: xs) := by
  obtain ⟨h', e, r, f⟩ := add_refines hR hx hfresh
  exact ⟨h', e, r, f, preserves_of_frame f (all_mem_cons (List.mem_cons_self ..)
    (all_mem_cons (List.mem_cons_of_mem _ (List.mem_cons_self ..))
      (all_mem_cons (List.mem_cons_of_mem _ (hd_mem ..)) nofun)))⟩

/-- `iv_list_add_tail(x, head)`: the list becomes `xs ++ [x]`; only `x`, `head` and the old
last element are written. -/
theorem add_tail {h : Heap} {head : Nat} {xs : List Nat} {x : Nat}
    (hR : Repr h head xs) (hx : Alloc h x) (hfresh : x ∉ head :: xs) :
    ∃ h', addTail h x head = some h' ∧ Repr h' head (xs ++ [x]) ∧
      (∀ j, j ∉ [x, head, lst xs head] → h' j = h j) ∧ Preserves h h' (x :: head :: xs) := by
  obtain ⟨h', e, r, f⟩ := addTail_refines hR hx hfresh
  exact ⟨h', e, r, f, preserves_of_frame f (all_mem_cons (List.mem_cons_self ..)
    (all_mem_cons (List.mem_cons_of_mem _ (List.mem_cons_self ..))
      (all_mem_cons (List.mem_cons_of_mem _ (lst_mem ..)) nofun)))⟩

/-- `iv_list_del(x)` takes only `x` — not the head — and unlinks it from whichever list
`Repr h head xs` it is an element of: the list becomes `xs.erase x` (`= A ++ B` where
`xs = A ++ x :: B`), `x`'s fields are NULL, only `x` and its two neighbours (either may be the
head) are written. -/
theorem del_anywhere {h : Heap} {head : Nat} {xs : List Nat} {x : Nat}
    (hR : Repr h head xs) (hx : x ∈ xs) :
    ∃ h' A B, xs = A ++ x :: B ∧ del h x = some h' ∧ Repr h' head (xs.erase x) ∧
      h' x = some ⟨none, none⟩ ∧ (∀ j, j ∉ [x, lst A head, hd B head] → h' j = h j) ∧
      Preserves h h' (head :: xs) := by
  obtain ⟨A, B, rfl⟩ := List.append_of_mem hx
  obtain ⟨h', e, r, n, f⟩ := del_mid hR
  refine ⟨h', A, B, rfl, e, ?_, n, f, preserves_of_frame f (mid_touch_sub A x B)⟩
  rw [erase_mid (List.nodup_cons.1 hR.1).2]; exact r

/-- `iv_list_del_init(x)`: the same, and `x` is left self-linked, i.e. the head of an empty
list (`iv_list_empty(x)` is how ivykis tests "not registered"). -/
theorem del_init_anywhere {h : Heap} {head : Nat} {xs : List Nat} {x : Nat}
    (hR : Repr h head xs) (hx : x ∈ xs) :
    ∃ h' A B, xs = A ++ x :: B ∧ delInit h x = some h' ∧ Repr h' head (xs.erase x) ∧
      Repr h' x [] ∧ (∀ j, j ∉ [x, lst A head, hd B head] → h' j = h j) ∧
      Preserves h h' (head :: xs) := by
  obtain ⟨A, B, rfl⟩ := List.append_of_mem hx
  obtain ⟨h', e, r, n, f⟩ := delInit_mid hR
  refine ⟨h', A, B, rfl, e, ?_, n, f, preserves_of_frame f (mid_touch_sub A x B)⟩
  rw [erase_mid (List.nodup_cons.1 hR.1).2]; exact r

/-! In the four splice theorems `src` heads `ys`, `dst` heads `xs`, and the two lists (heads included) share no node. -/

/-- `iv_list_splice(src, dst)`: `dst` heads `ys ++ xs`.  The record of `src` is NOT written
(`h' src = h src`); an empty source is a complete no-op. -/
theorem splice_front {h : Heap} {src dst : Nat} {ys xs : List Nat}
    (hRs : Repr h src ys) (hRd : Repr h dst xs) (hdis : ∀ i ∈ src :: ys, i ∉ dst :: xs) :
    ∃ h', splice h src dst = some h' ∧ Repr h' dst (ys ++ xs) ∧ h' src = h src ∧
      (ys = [] → h' = h) ∧
      (∀ j, j ∉ [hd ys src, lst ys src, dst, hd xs dst] → h' j = h j) ∧
      Preserves h h' (src :: ys ++ dst :: xs) := by
  obtain ⟨h', e, r, hs, n, f⟩ := splice_gap (A := []) (B := xs) hRs hRd hdis
  exact ⟨h', (splice_eq hRs hRd).trans e, r, hs, n, f, preserves_of_frame f
    (fun j hj => splice_touch_sub (List.mem_cons_self ..) (hd_mem ..) j (List.mem_cons_of_mem _ hj))⟩

/-- `iv_list_splice_tail(src, dst)`: `dst` heads `xs ++ ys`; `src` not written. -/
theorem splice_back {h : Heap} {src dst : Nat} {ys xs : List Nat}
    (hRs : Repr h src ys) (hRd : Repr h dst xs) (hdis : ∀ i ∈ src :: ys, i ∉ dst :: xs) :
    ∃ h', spliceTail h src dst = some h' ∧ Repr h' dst (xs ++ ys) ∧ h' src = h src ∧
      (ys = [] → h' = h) ∧
      (∀ j, j ∉ [hd ys src, lst ys src, lst xs dst, dst] → h' j = h j) ∧
      Preserves h h' (src :: ys ++ dst :: xs) := by
  obtain ⟨h', e, r, hs, n, f⟩ :=
    splice_gap (A := xs) (B := []) hRs ((List.append_nil xs).symm ▸ hRd) ((List.append_nil xs).symm ▸ hdis)
  exact ⟨h', (spliceTail_eq hRs hRd).trans e, by simpa using r, hs, n, f, preserves_of_frame f
    (fun j hj => splice_touch_sub (lst_mem ..) (List.mem_cons_self ..) j (List.mem_cons_of_mem _ hj))⟩

/-- What exactly is guaranteed about the source head after a non-`_init` splice of a non-empty
list: its record still holds the old first/last element, and it is the head of NO well-formed
list any more (its first element's `prev` points into `dst`'s ring) — it must be re-initialised
before any further use.  (With `ys = []` it is untouched and still heads `[]`: `splice_front`.) -/
theorem splice_source_stale {h h' : Heap} {src dst : Nat} {ys xs : List Nat}
    (hRs : Repr h src ys) (hRd : Repr h dst xs) (hdis : ∀ i ∈ src :: ys, i ∉ dst :: xs)
    (hne : ys ≠ []) (he : splice h src dst = some h' ∨ spliceTail h src dst = some h') :
    h' src = some ⟨some (hd ys src), some (lst ys src)⟩ ∧ ∀ zs, ¬ Repr h' src zs :=
  splice_stale hRs hRd hdis hne he

/-- `iv_list_splice_init(src, dst)`: `dst` heads `ys ++ xs` and `src` heads `[]`. -/
theorem splice_front_init {h : Heap} {src dst : Nat} {ys xs : List Nat}
    (hRs : Repr h src ys) (hRd : Repr h dst xs) (hdis : ∀ i ∈ src :: ys, i ∉ dst :: xs) :
    ∃ h', spliceInit h src dst = some h' ∧ Repr h' dst (ys ++ xs) ∧ Repr h' src [] ∧
      (ys = [] → h' = h) ∧
      (∀ j, j ∉ [src, hd ys src, lst ys src, dst, hd xs dst] → h' j = h j) ∧
      Preserves h h' (src :: ys ++ dst :: xs) := by
  obtain ⟨h', e, r, hs, n, f⟩ := splice_gap_init (A := []) (B := xs) hRs hRd hdis
  exact ⟨h', (spliceInit_eq hRs hRd).trans e, r, hs, n, f, preserves_of_frame f
    (splice_touch_sub (List.mem_cons_self ..) (hd_mem ..))⟩

/-- `iv_list_splice_tail_init(src, dst)`: `dst` heads `xs ++ ys` and `src` heads `[]`. -/
theorem splice_back_init {h : Heap} {src dst : Nat} {ys xs : List Nat}
    (hRs : Repr h src ys) (hRd : Repr h dst xs) (hdis : ∀ i ∈ src :: ys, i ∉ dst :: xs) :
    ∃ h', spliceTailInit h src dst = some h' ∧ Repr h' dst (xs ++ ys) ∧ Repr h' src [] ∧
      (ys = [] → h' = h) ∧
      (∀ j, j ∉ [src, hd ys src, lst ys src, lst xs dst, dst] → h' j = h j) ∧
      Preserves h h' (src :: ys ++ dst :: xs) := by
  obtain ⟨h', e, r, hs, n, f⟩ :=
    splice_gap_init (A := xs) (B := []) hRs ((List.append_nil xs).symm ▸ hRd)
      ((List.append_nil xs).symm ▸ hdis)
  exact ⟨h', (spliceTailInit_eq hRs hRd).trans e, by simpa using r, hs, n, f, preserves_of_frame f
    (splice_touch_sub (lst_mem ..) (List.mem_cons_self ..))⟩

/-- `__iv_list_steal_elements(oldh, newh)` with `newh` any allocated record outside the list
(uninitialised is fine): `newh` heads exactly the old elements in the old order and `oldh`
heads `[]` — also when the list was empty.  This is what iv_run_tasks / iv_event / iv_work use
to process a batch while handlers register new elements on `oldh`. -/
theorem steal_all {h : Heap} {oldh newh : Nat} {xs : List Nat}
    (hR : Repr h oldh xs) (hnew : Alloc h newh) (hfresh : newh ∉ oldh :: xs) :
    ∃ h', steal h oldh newh = some h' ∧ Repr h' newh xs ∧ Repr h' oldh [] ∧
      (∀ j, j ∉ [oldh, newh, hd xs oldh, lst xs oldh] → h' j = h j) ∧
      Preserves h h' (newh :: oldh :: xs) := by
  obtain ⟨h', e, r, ro, f⟩ := steal_refines hR hnew hfresh
  exact ⟨h', e, r, ro, f, preserves_of_frame f (all_mem_cons (List.mem_cons_of_mem _ (List.mem_cons_self ..))
    (all_mem_cons (List.mem_cons_self ..) (all_mem_cons (List.mem_cons_of_mem _ (hd_mem ..))
      (all_mem_cons (List.mem_cons_of_mem _ (lst_mem ..)) nofun))))⟩

/-- `iv_list_for_each` visits exactly `xs`, in order, and terminates: fuel `xs.length`
suffices (one unit per loop iteration). -/
theorem for_each_visits {h : Heap} {head : Nat} {xs : List Nat} {fuel : Nat}
    (hR : Repr h head xs) (hf : xs.length ≤ fuel) : forEach fuel h head = some xs := by
  obtain ⟨e, t⟩ := walk_iff_tail.1 hR.2.1
  simp [forEach, ldNext_some, e, forEachLoop_tail t (List.nodup_cons.1 hR.1).1 hf]

/-- `iv_list_for_each_safe` whose body deletes (`iv_list_del`) the current element at the
positions selected by `d`: no fault, every element of the original `xs` is visited exactly
once in order, the heap is left representing the survivors, the deleted elements have NULL
fields, nothing outside the list is written. -/
theorem for_each_safe_visits {h : Heap} {head : Nat} {xs : List Nat} {fuel : Nat}
    (d : Nat → Bool) (hR : Repr h head xs) (hf : xs.length ≤ fuel) :
    ∃ h', forEachSafe fuel h head d = some (h', xs) ∧ Repr h' head (survivors d 0 xs) ∧
      (∀ j, j ∉ head :: xs → h' j = h j) ∧
      (∀ x ∈ xs, x ∉ survivors d 0 xs → h' x = some ⟨none, none⟩) ∧
      Preserves h h' (head :: xs) := by
  obtain ⟨e, _⟩ := repr_head hR
  obtain ⟨v, ev, hv⟩ := ldNext_rest (S := []) hR
  obtain ⟨h', e', r', f', n'⟩ := forEachSafeLoop_spec (d := d) xs [] h fuel 0 v (by simpa using hR) hf hv
  have f : ∀ j, j ∉ head :: xs → h' j = h j := by simpa using f'
  exact ⟨h', by simp [forEachSafe, ldNext_some, e, ev, e'], by simpa using r', f, n',
    preserves_of_frame f (fun _ hj => hj)⟩

/-- `survivors d 0 xs` is `xs` without the elements at the positions `i` with `d i`. -/
theorem survivors_filter (d : Nat → Bool) (xs : List Nat) :
    survivors d 0 xs = ((xs.zipIdx 0).filter (fun p => !d p.2)).map (·.1) :=
  survivors_eq d 0 xs

/-- Queue then cancel (`iv_task_register` … `iv_task_unregister`, `iv_event_post` … the
unregister's `iv_list_del`): `iv_list_add_tail(x, head)` followed by `iv_list_del(x)` never
faults and gives back the list that was there before. -/
theorem add_tail_then_del {h : Heap} {head : Nat} {xs : List Nat} {x : Nat}
    (hR : Repr h head xs) (hx : Alloc h x) (hfresh : x ∉ head :: xs) :
    ∃ h1 h2, addTail h x head = some h1 ∧ del h1 x = some h2 ∧ Repr h2 head xs ∧
      h2 x = some ⟨none, none⟩ := by
  obtain ⟨h1, e1, r1, _, _⟩ := add_tail hR hx hfresh
  obtain ⟨h2, _, _, _, e2, r2, z, _⟩ := del_anywhere r1 (x := x) (by simp)
  exact ⟨h1, h2, e1, e2, erase_snoc (fun m => hfresh (List.mem_cons_of_mem _ m)) ▸ r2, z⟩

/-- The same with `iv_list_del_init`: afterwards `iv_list_empty(x)` answers true, which is
ivykis' "not registered / not pending" test, and the record can be queued again at once. -/
theorem add_tail_then_del_init {h : Heap} {head : Nat} {xs : List Nat} {x : Nat}
    (hR : Repr h head xs) (hx : Alloc h x) (hfresh : x ∉ head :: xs) :
    ∃ h1 h2, addTail h x head = some h1 ∧ delInit h1 x = some h2 ∧ Repr h2 head xs ∧
      empty h2 x = some true ∧
      ∃ h3, addTail h2 x head = some h3 ∧ Repr h3 head (xs ++ [x]) := by
  obtain ⟨h1, e1, r1, _, _⟩ := add_tail hR hx hfresh
  obtain ⟨h2, _, _, _, e2, r2, rx, _⟩ := del_init_anywhere r1 (x := x) (by simp)
  rw [erase_snoc fun m => hfresh (List.mem_cons_of_mem _ m)] at r2
  obtain ⟨h3, e3, r3, _⟩ := add_tail r2 (repr_alloc rx (by simp)) hfresh
  exact ⟨h1, h2, e1, e2, r2, by simpa using empty_iff rx, h3, e3, r3⟩

/-- FIFO: two `iv_list_add_tail`s are traversed in the order they were queued, after whatever
was there already. -/
theorem add_tail_fifo {h : Heap} {head : Nat} {xs : List Nat} {x y : Nat} {fuel : Nat}
    (hR : Repr h head xs) (hx : Alloc h x) (hy : Alloc h y) (hfx : x ∉ head :: xs)
    (hfy : y ∉ head :: xs) (hxy : x ≠ y) (hf : xs.length + 2 ≤ fuel) :
    ∃ h1 h2, addTail h x head = some h1 ∧ addTail h1 y head = some h2 ∧
      forEach fuel h2 head = some (xs ++ [x, y]) := by
  obtain ⟨h1, e1, r1, fr, _⟩ := add_tail hR hx hfx
  have hy' : Alloc h1 y := by
    unfold Alloc; rw [fr y]; exact hy
    simp only [List.mem_cons, List.not_mem_nil, or_false, not_or]
    exact ⟨Ne.symm hxy, fun c => hfy (c ▸ List.mem_cons_self), fun c => hfy (c ▸ lst_mem xs head)⟩
  have hfy' : y ∉ head :: (xs ++ [x]) := by
    simp only [List.mem_cons, List.mem_append, List.not_mem_nil, or_false] at hfy ⊢
    rintro (c | c | c)
    · exact hfy (Or.inl c)
    · exact hfy (Or.inr c)
    · exact hxy c.symm
  obtain ⟨h2, e2, r2, _, _⟩ := add_tail r1 hy' hfy'
  refine ⟨h1, h2, e1, e2, ?_⟩
  have := for_each_visits (fuel := fuel) r2 (by simp; omega)
  simpa using this

/-- LIFO: two `iv_list_add`s (head insertion) are traversed newest first, before whatever was
there already. -/
theorem add_front_lifo {h : Heap} {head : Nat} {xs : List Nat} {x y : Nat} {fuel : Nat}
    (hR : Repr h head xs) (hx : Alloc h x) (hy : Alloc h y) (hfx : x ∉ head :: xs)
    (hfy : y ∉ head :: xs) (hxy : x ≠ y) (hf : xs.length + 2 ≤ fuel) :
    ∃ h1 h2, add h x head = some h1 ∧ add h1 y head = some h2 ∧
      forEach fuel h2 head = some (y :: x :: xs) := by
  obtain ⟨h1, e1, r1, fr, _⟩ := add_front hR hx hfx
  have hy' : Alloc h1 y := by
    unfold Alloc; rw [fr y]; exact hy
    simp only [List.mem_cons, List.not_mem_nil, or_false, not_or]
    exact ⟨Ne.symm hxy, fun c => hfy (c ▸ List.mem_cons_self), fun c => hfy (c ▸ hd_mem xs head)⟩
  have hfy' : y ∉ head :: x :: xs := by
    simp only [List.mem_cons, not_or] at hfy ⊢
    exact ⟨hfy.1, fun c => hxy c.symm, hfy.2⟩
  obtain ⟨h2, e2, r2, _, _⟩ := add_front r1 hy' hfy'
  exact ⟨h1, h2, e1, e2, for_each_visits (fuel := fuel) r2 (by simp; omega)⟩

/-! ## Non-vacuity: concrete heaps built by the pointer-level code itself
Addresses 0..15 hold zeroed records (NULL fields); 0, 1, 2 are used as heads. -/

def runOps (ops : List (Heap → Option Heap)) : Option Heap :=
  ops.foldl (fun oh f => oh.bind f) (some (zeroed 16))

/-- follow `prev` from `head` until back at `head` (the C library has no reverse macro) -/
def backward (h : Heap) (head : Nat) : Nat → Option Nat → Option (List Nat)
  | 0, cur => if cur = some head then some [] else none
  | f + 1, cur => if cur = some head then some [] else do
      let c ← cur
      let r ← backward h head f (← ldPrev h (some c))
      some (c :: r)

def build1 : List (Heap → Option Heap) :=
  [(init · 0), (addTail · 4 0), (addTail · 5 0), (addTail · 6 0), (add · 7 0)]

example : (runOps build1).bind (forEach 8 · 0) = some [7, 4, 5, 6] := by decide
example : (runOps build1).bind (fun h => backward h 0 8 (h 0 >>= (·.prev))) = some [6, 5, 4, 7] := by
  decide
example : (runOps build1).bind (empty · 0) = some false := by decide
example : (runOps [(init · 0)]).bind (empty · 0) = some true := by decide
/-- delete the middle: the list shrinks, the deleted record holds NULLs -/
example : (runOps (build1 ++ [(del · 5)])).bind (forEach 8 · 0) = some [7, 4, 6] := by decide
example : (runOps (build1 ++ [(del · 5)])).bind (· 5) = some ⟨none, none⟩ := by decide
/-- del_init leaves the element self-linked -/
example : (runOps (build1 ++ [(delInit · 5)])).bind (· 5) = some ⟨some 5, some 5⟩ := by decide

def build2 : List (Heap → Option Heap) :=
  build1 ++ [(del · 5), (init · 1), (addTail · 8 1), (addTail · 9 1)]

example : (runOps (build2 ++ [(splice · 0 1)])).bind (forEach 8 · 1) = some [7, 4, 6, 8, 9] := by
  decide
example : (runOps (build2 ++ [(spliceTail · 0 1)])).bind (forEach 8 · 1) = some [8, 9, 7, 4, 6] := by
  decide
/-- after the non-init splice the source head still points at its old first/last element -/
example : (runOps (build2 ++ [(spliceTail · 0 1)])).bind (· 0) = some ⟨some 7, some 6⟩ := by decide
example : (runOps (build2 ++ [(spliceInit · 0 1)])).bind
    (fun h => do some ((← forEach 8 h 1), (← forEach 8 h 0), (← backward h 1 8 (h 1 >>= (·.prev))))) =
    some ([7, 4, 6, 8, 9], [], [9, 8, 6, 4, 7]) := by decide
example : (runOps (build2 ++ [(spliceTailInit · 0 1)])).bind
    (fun h => do some ((← forEach 8 h 1), (← empty h 0))) = some ([8, 9, 7, 4, 6], true) := by decide
/-- splicing an empty list is a no-op -/
example : (runOps (build2 ++ [(init · 2), (splice · 2 1)])).bind (forEach 8 · 1) = some [8, 9] := by
  decide

/-- steal into an uninitialised head, then traverse; the source is empty and usable again -/
def build3 : List (Heap → Option Heap) := build2 ++ [(spliceInit · 0 1), (steal · 1 2)]

example : (runOps build3).bind
    (fun h => do some ((← forEach 8 h 2), (← forEach 8 h 1), (← backward h 2 8 (h 2 >>= (·.prev))))) =
    some ([7, 4, 6, 8, 9], [], [9, 8, 6, 4, 7]) := by decide
example : (runOps (build3 ++ [(addTail · 10 1)])).bind (forEach 8 · 1) = some [10] := by decide
/-- stealing an empty list leaves both heads empty -/
example : (runOps [(init · 0), (steal · 0 1)]).bind
    (fun h => do some ((← empty h 0), (← empty h 1))) = some (true, true) := by decide

/-- for_each_safe deleting the elements at positions 0 and 2 (and then position 4): all five are
visited, the survivors remain -/
example : ((runOps build3).bind (forEachSafe 8 · 2 (fun i => i == 0 || i == 2))).map (·.2) =
    some [7, 4, 6, 8, 9] := by decide
example : ((runOps build3).bind (forEachSafe 8 · 2 (fun i => i == 0 || i == 2))).bind
    (fun r => forEach 8 r.1 2) = some [4, 8, 9] := by decide
example : ((runOps build3).bind (forEachSafe 8 · 2 (fun _ => true))).bind
    (fun r => do some (r.2, (← empty r.1 2))) = some ([7, 4, 6, 8, 9], true) := by decide

/-- the faults the model reports: `iv_list_del` of a record with NULL fields (deleted twice),
`iv_list_add` to a head that was never initialised, an operation on unallocated memory, a
traversal with too little fuel -/
example : (runOps (build1 ++ [(del · 5), (del · 5)])).isNone = true := by decide
example : (runOps [(add · 4 0)]).isNone = true := by decide
example : (runOps [(init · 99)]).isNone = true := by decide
example : ((runOps build1).bind (forEach 3 · 0)).isNone = true := by decide

/-- The hypothesis `Repr` is satisfiable by heaps the pointer code produced, and the theorems
above apply to them. -/
def h1 : Heap := (runOps build1).getD (zeroed 0)
def h2 : Heap := (runOps build2).getD (zeroed 0)

theorem h1_repr : Repr h1 0 [7, 4, 5, 6] := by decide
theorem h2_repr : Repr h2 0 [7, 4, 6] ∧ Repr h2 1 [8, 9] := by decide

example : forEach 4 h1 0 = some [7, 4, 5, 6] := for_each_visits h1_repr (by decide)
example : ∃ h', del h1 5 = some h' ∧ Repr h' 0 [7, 4, 6] := by
  obtain ⟨h', _, _, _, e, r, _⟩ := del_anywhere h1_repr (x := 5) (by decide)
  exact ⟨h', e, r⟩
example : ∃ h', spliceTailInit h2 0 1 = some h' ∧ Repr h' 1 [8, 9, 7, 4, 6] ∧ Repr h' 0 [] := by
  obtain ⟨h', e, r, s, _⟩ := splice_back_init h2_repr.1 h2_repr.2 (by decide)
  exact ⟨h', e, r, s⟩
example : ∃ h', steal h2 1 2 = some h' ∧ Repr h' 2 [8, 9] ∧ Repr h' 1 [] ∧ Repr h' 0 [7, 4, 6] := by
  obtain ⟨h', e, r, s, _, p⟩ := steal_all (newh := 2) h2_repr.2 (by decide) (by decide)
  exact ⟨h', e, r, s, p _ _ h2_repr.1 (by decide)⟩

example : ∃ a b, addTail h1 9 0 = some a ∧ del a 9 = some b ∧ Repr b 0 [7, 4, 5, 6] := by
  obtain ⟨a, b, p, q, r, _⟩ := add_tail_then_del h1_repr (x := 9) (by decide) (by decide)
  exact ⟨a, b, p, q, r⟩
example : ∃ a b, addTail h1 9 0 = some a ∧ addTail a 10 0 = some b ∧
    forEach 8 b 0 = some [7, 4, 5, 6, 9, 10] :=
  add_tail_fifo h1_repr (x := 9) (y := 10) (by decide) (by decide) (by decide) (by decide)
    (by decide) (by decide)

example : ∃ a b, add h1 9 0 = some a ∧ add a 10 0 = some b ∧
    forEach 8 b 0 = some [10, 9, 7, 4, 5, 6] :=
  add_front_lifo h1_repr (x := 9) (y := 10) (by decide) (by decide) (by decide) (by decide)
    (by decide) (by decide)

end Ivy.Props.C06list
