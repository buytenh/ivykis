import Ivy.L1.ProofsC04
import Ivy.L1.TablesAgree
/-!
# C04 — property theorem over the L1 loop machine

Statement: every trace the machine can produce — for every poll method, every configuration of
optional kernel facilities, every user program (any API calls from set-up code and from any handler),
every kernel answer allowed by the kernel contract `envOk` (wait results, EINTR, ENOSYS, clock values,
raw-event reads) and every foreign-thread post at a wait — is accepted by the monitor
`Ivy.Mon.C04`, which states the property over observable records only.  The same monitor is run on the
implementation's logs by the check.
-/
namespace Ivy.Props.C04
open Ivy.L1

theorem monitor_accepts (m : Method) (ntimers : Nat) (timerfdAvail pwait2 : Bool)
    (evs : List Ev) (s' : St) (h : Exec (St.init m ntimers timerfdAvail pwait2) evs s') :
    Ivy.Mon.C04.verdict evs = none :=
  Ivy.L1.ProofsC04.monitor_accepts m ntimers timerfdAvail pwait2 evs s' h

/-- T-gen (sampled grid, re-checked against /repo's current code on every run): `timespec_gt`, `to_relative`,
`to_msec`, `timespec_cmp` are `TS.gt`, `toRelative`, `toMsec`, `tsCmp` on every row of the grid -/
theorem timespec_tables_agree :
    (∀ r ∈ Ivy.Generated.Tables.timespec, Ivy.L1.TablesAgree.tsRowOk r) ∧
    (∀ r ∈ Ivy.Generated.Tables.timespecCmpNull, tsCmp none ⟨r.1, r.2.1⟩ = r.2.2) :=
  Ivy.L1.TablesAgree.timespec_tables_agree

end Ivy.Props.C04
