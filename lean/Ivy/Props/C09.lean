import Ivy.L2.RawProofs
/-!
# C09 — iv_event_raw: posts from threads, signal handlers and children reach the owner

Property theorems only; the model is `Ivy/L2/Raw.lean` (one `iv_event_raw` object as a labelled
transition system over its kernel object, the process-wide `eventfd_in_use` latch, the owner's
progress through `iv_event_raw_got_event` and any number of posters), the invariant and vocabulary are
in `Ivy/L2/RawSpec.lean`, the longer proofs in `Ivy/L2/RawProofs.lean` (a theorem here re-exports one of them, or is
a few lines from the step relation `Proofs.Step` and the invariant).

Every theorem quantifies over every kernel configuration `cfg` (eventfd2 present / only the old
eventfd / neither, hence the pipe fallback; any non-zero pipe capacity) and every `Reachable` state:
every interleaving of any number of posters (a poster is only a `pid`; owner thread, other thread,
signal handler interrupting any thread at any point, forked child holding a copy of the descriptor —
all are interleavings of `postBegin`/`postWrite` with the owner's steps), every kernel answer allowed
by the kernel contract (EINTR any number of times, EAGAIN only when the object holds data), every
number of re-registrations.  "Behaves identically": the same statements hold for both
representations, and both refine one abstract machine (`abs_refines`).
-/
namespace Ivy.Props.C09
open Ivy.Raw

/-- The invariant holds initially and is preserved by every enabled action (hence in every reachable state). -/
theorem inv_reachable (cfg : Cfg) (hwf : cfg.wf) (s : St) (h : Reachable cfg s) : Inv cfg s :=
  Proofs.reachable_inv hwf h

/-- **No lost post.** In any reachable state in which the object is registered, the descriptor is not
readable and the owner is not between its drain and the handler call (in particular: whenever the owner
is blocked, or idle, or still inside the handler), every post completed so far on this registration
ended with a write that was accepted or hit a full (hence readable) descriptor, and the handler was
entered at a time strictly after that write — hence after the post began.  A handler entry that
preceded the write does not count, which is what rules out "drain after the handler". -/
theorem C09_no_lost_post (cfg : Cfg) (hwf : cfg.wf) (s : St) (h : Reachable cfg s) (hr : s.registered = true)
    (hpc : s.pc ≠ .drained) (hc : s.k.readable = false) :
    ∀ p ∈ s.posts, (p.res = .ok ∨ p.res = .eagain) ∧ ∃ t ∈ s.hstarts, p.tb ≤ p.tw ∧ p.tw < t :=
  Proofs.no_lost_post hwf h hr hpc hc

/-- With the loop-side assumption `LoopSpec` (level-triggered dispatch, L1: C02/C03): whenever the
owner is blocked, every completed post has been followed by a handler entry. -/
theorem C09_delivered_when_blocked (cfg : Cfg) (hwf : cfg.wf) (blocked : St → Prop) (L : LoopSpec cfg blocked)
    (s : St) (h : Reachable cfg s) (hb : blocked s) (hr : s.registered = true) :
    ∀ p ∈ s.posts, ∃ t ∈ s.hstarts, p.tb ≤ p.tw ∧ p.tw < t := by
  have l := L.no_sleep_on_ready s h hb hr
  intro p hp
  exact (Proofs.no_lost_post hwf h hr (by rw [l.1]; decide) l.2 p hp).2

/-- **Posting never blocks (flags).** While the object is registered, the description posters write
to and the one the owner reads from both have O_NONBLOCK set — for eventfd2 (created with
EFD_NONBLOCK), the old eventfd (set by `iv_fd_register` on the shared description) and the pipe
(write end set explicitly). -/
theorem post_never_blocks (cfg : Cfg) (hwf : cfg.wf) (s : St) (h : Reachable cfg s) (hr : s.registered = true) :
    s.k.nbW = true ∧ s.k.nbR = true :=
  ((Proofs.reachable_inv hwf h).nonblock hr).symm

/-- **Posting never blocks (progress).** A poster inside `iv_event_raw_post` always has an immediate
kernel answer other than EINTR available: its write either fits or fails with EAGAIN at once. -/
theorem post_write_enabled (cfg : Cfg) (hwf : cfg.wf) (s : St) (h : Reachable cfg s) (pid : Nat) (f : Flight)
    (hf : findFlight s.flights pid = some f) :
    ∃ res, res ≠ WRes.eintr ∧ (step cfg s (.postWrite pid res)).isSome = true :=
  Proofs.post_write_enabled hwf h hf

/-- The owner's drain never blocks either (a spurious wake-up returns through EAGAIN). -/
theorem owner_read_enabled (cfg : Cfg) (hwf : cfg.wf) (s : St) (h : Reachable cfg s) (hr : s.registered = true)
    (hpc : s.pc = .idle) : (step cfg s (.ownerRead false)).isSome = true := by
  have inv := Proofs.reachable_inv hwf h
  have rs := Proofs.read_spec inv hr
  by_cases hc : s.k.content = 0
  · simp [step, Proofs.not_fatal_eq inv, hr, hpc, doOwnerRead, rs.1 hc]
  · obtain ⟨ret, taken, hret, _, _, _, hrd⟩ := rs.2 hc
    simp [step, Proofs.not_fatal_eq inv, hr, hpc, doOwnerRead, hrd, Nat.ne_of_gt hret]

/-- `iv_fatal` is never reached: the drain never sees 0, EINVAL or another error. -/
theorem never_fatal (cfg : Cfg) (hwf : cfg.wf) (s : St) (h : Reachable cfg s) : s.fatal = false :=
  (Proofs.reachable_inv hwf h).not_fatal

/-- **Readable ⟺ undrained post.** Content of the descriptor = accepted writes − amount drained; so
it is readable exactly when some accepted write has not been drained yet. -/
theorem readable_iff_undrained (cfg : Cfg) (hwf : cfg.wf) (s : St) (h : Reachable cfg s) (hr : s.registered = true) :
    s.k.content + s.ndrained = s.nok ∧ (s.k.readable = true ↔ s.ndrained < s.nok) := by
  have a := (Proofs.reachable_inv hwf h).account hr
  refine ⟨a, ?_⟩
  simp [KObj.readable]; omega

/-- Coalescing only: the handler is never entered more often than writes were accepted. -/
theorem no_spurious_handler (cfg : Cfg) (hwf : cfg.wf) (s : St) (h : Reachable cfg s) (hr : s.registered = true) :
    s.hstarts.length ≤ s.nok := by
  have a := (Proofs.reachable_inv hwf h).account hr
  have b := (Proofs.reachable_inv hwf h).handlers hr
  omega

/-- The representation is the pipe exactly when the kernel offers neither eventfd2 nor eventfd. -/
theorem transport_selection (cfg : Cfg) (hwf : cfg.wf) (s : St) (h : Reachable cfg s) (hr : s.registered = true) :
    s.k.isPipe = (settle cfg == 0) := by
  have inv := Proofs.reachable_inv hwf h
  rw [inv.kind hr, inv.latch_reg hr]

/-- **Behaves identically.** Every step of the concrete machine, in either representation, is a step
of the one-bit abstract machine `AStep` (which does not mention the representation)... -/
theorem abs_refines (cfg : Cfg) (s s' : St) (inv : Inv cfg s) (a : Action) (hs : step cfg s a = some s') :
    AStep (abs s) a (abs s') :=
  Proofs.abs_refines inv a hs

/-- ... in which a completed post on the current registration always leaves the descriptor readable
(its write was accepted, or failed with EAGAIN on an object that holds data; never EINVAL) ... -/
theorem live_post_sets_pending (cfg : Cfg) (s s' : St) (inv : Inv cfg s) (pid : Nat) (res : WRes)
    (hl : liveFlight s pid = true) (hne : res ≠ .eintr) (hs : step cfg s (.postWrite pid res) = some s') :
    s'.k.readable = true ∧ (res = .ok ∨ res = .eagain) := by
  cases inv.step hs with
  | postEintr => exact absurd rfl hne
  | postStale _ hf hst => simp [liveFlight, hf, hst] at hl
  | postOk => exact ⟨by simp [tick, postDone, KObj.readable], .inl rfl⟩
  | postEagain _ _ hnz => exact ⟨by simpa [tick, postDone, KObj.readable] using hnz, .inr rfl⟩

/-- ... and the only difference is that a drain of the counter always clears it, whereas a drain of
the pipe may leave data behind (more than 1024 bytes queued), which only causes further handler calls. -/
theorem eventfd_drain_clears (cfg : Cfg) (s s' : St) (inv : Inv cfg s) (hp : s.k.isPipe = false)
    (hs : step cfg s (.ownerRead false) = some s') : s'.k.readable = false := by
  cases inv.step hs with
  | readEmpty _ _ hz => simp [tick, KObj.readable, hz]
  | readData _ _ _ _ hall => simp [tick, KObj.readable, hall hp]

/-! ### Non-vacuity and strength -/

def cfgEventfd2 : Cfg := { has2 := true, has1 := true, cap := 65536 }
def cfgEventfdOld : Cfg := { has2 := false, has1 := true, cap := 65536 }
def cfgPipe : Cfg := { has2 := false, has1 := false, cap := 4 }

/-- a run with a post during the handler, an EINTR, and a post from a second context -/
def demo : List Action :=
  [.register, .postBegin 1, .postWrite 1 .eintr, .postWrite 1 .ok, .ownerRead false, .handlerStart,
   .postBegin 102, .postWrite 102 .ok, .handlerEnd, .ownerRead false, .handlerStart, .handlerEnd, .ownerRead false]

/-- Non-vacuity: in all three transports the run is an execution, ends registered, idle and not
readable with two completed posts, both covered — the hypotheses of `C09_no_lost_post` are satisfiable
with posts. -/
example : [cfgEventfd2, cfgEventfdOld, cfgPipe].map (fun cfg => (runFrom cfg St.init demo).map observe) =
    List.replicate 3 (some ⟨true, .idle, false, 2, 2, [true, true]⟩) := by decide

/-- Non-vacuity of EAGAIN-on-full: a burst of 6 posts into a pipe of capacity 4 — the last two get
EAGAIN, nobody blocks, one drain takes everything, one handler call covers all six. -/
example : (runFrom cfgPipe St.init
    ([.register] ++ (List.range 4).flatMap (fun i => [.postBegin i, .postWrite i .ok]) ++
     [.postBegin 4, .postWrite 4 .eagain, .postBegin 5, .postWrite 5 .eagain, .ownerRead false, .handlerStart, .handlerEnd])).map observe
    = some ⟨true, .idle, false, 6, 1, List.replicate 6 true⟩ := by decide

/-- EAGAIN is not an execution when the pipe is empty (kernel contract). -/
example : runFrom cfgPipe St.init [.register, .postBegin 1, .postWrite 1 .eagain] = none := by decide

/-- Strength: the statement of `C09_no_lost_post` is FALSE for the mutant "drain after the handler
instead of before" (same kernel, same posters; `Ivy.Raw.Mutant`), in every transport: the witness ends
registered, idle and not readable with a completed post (the most recent one) that no handler entry follows. -/
example : [cfgEventfd2, cfgEventfdOld, cfgPipe].map (fun cfg => (Mutant.witness cfg).map observe) =
    List.replicate 3 (some ⟨true, .idle, false, 2, 1, [false, true]⟩) := by decide

end Ivy.Props.C09
