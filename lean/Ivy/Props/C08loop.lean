import Ivy.L1.ProofsC08loop
/-!
# C08 (owner's side, inside one loop) — property theorem over the L1 loop machine

Every trace the loop machine can produce — every poll method, configuration, user program, kernel answer allowed by
`envOk`, and every foreign-thread post at a wait — is accepted by the monitor `Ivy.Mon.C08`: event handlers run only
for registered events and only after a post (coalesced, never over-delivered), and the loop never enters a wait that
can block while a posted event is undelivered unless the wake-up source of the post (one-shot kick armed / kick
descriptor watched) is in place.  The multi-thread side of C08 (posting threads, the pending list under its mutex)
is `Ivy.Props.C08`.
-/
namespace Ivy.Props.C08loop
open Ivy.L1

theorem monitor_accepts (m : Method) (ntimers : Nat) (timerfdAvail pwait2 : Bool)
    (evs : List Ev) (s' : St) (h : Exec (St.init m ntimers timerfdAvail pwait2) evs s') :
    Ivy.Mon.C08.verdict evs = none :=
  Ivy.L1.ProofsC08loop.monitor_accepts m ntimers timerfdAvail pwait2 evs s' h

end Ivy.Props.C08loop
