import Ivy.Generated.Consts
import Ivy.L3.InotifyProofs
/-!
# C20 — iv_inotify routes every event to its watch; unregistering inside handlers is safe

The property theorems; definitions are in `Ivy/L3/Inotify.lean` (model of `src/iv_inotify.c`) and
`Ivy/L3/InotifySpec.lean` (`Inv`, `validUse`, `ValidFrom`, `specCalls`, `CallFacts`); the longer proofs are in
`Ivy/L3/InotifyProofs.lean`.

Quantification: every state satisfying `Inv` (all sets of instances and watches reachable by valid
use), every buffer (`recs : List Rec`, any number of records, any `len`, any masks, descriptors with or
without a watch), every reaction program (`ins : List In`: whatever the handlers do — register,
unregister, release watches, unregister or register instances — and when they return).
-/
namespace Ivy.Props.C20
open Ivy.Inotify

theorem init_inv : Inv St.init := Proofs.init_inv

/-- Valid use keeps the invariant (tree nodes are live watches filed under their own descriptor, one per
descriptor; `term` is set exactly while the instance's walk runs; the walk frame is consistent). -/
theorem step_inv (s : St) (a : In) (hi : Inv s) (hv : validUse s a = true) {s' o} (h : step s a = .ok s' o) : Inv s' :=
  Proofs.step_inv s a hi hv h

/-- no_fault, one step: under valid use the code never touches a released instance or watch, never
stores through a stale `term`, never hands `iv_avl_tree_delete` a node that is not in the tree, never
reads name bytes as a record header (the stride `len + sizeof` always lands on a record), never calls
iv_fatal. -/
theorem no_fault (s : St) (a : In) (hi : Inv s) (hv : validUse s a = true) : ∃ s' o, step s a = .ok s' o ∧ Inv s' :=
  Proofs.step_ok_inv s a hi hv

/-- no_fault, whole histories from the initial state. -/
theorem no_fault_run (ins : List In) (hv : ValidFrom St.init ins) : ∃ s' o, run St.init ins = .ok s' o ∧ Inv s' :=
  Proofs.run_ok_inv ins St.init Proofs.init_inv hv

/-- routing_in_order: for one read returning `recs` and any reaction program `ins` (no second read),
the handler invocations are exactly `specCalls`: in buffer order, one per record whose descriptor had a
watch in the instance at the moment the record was reached, to that watch, with the pointer at the
record's byte offset; nothing after the instance was unregistered. -/
theorem routing_in_order (s : St) (hi : Inv s) (i k : Nat) (recs : List Rec) (ins : List In)
    (hng : ∀ a ∈ ins, isGotEvent a = false) (hv : ValidFrom s (.gotEvent i k (.data recs) :: ins))
    {s' : St} {outs : List Out} (h : run s (.gotEvent i k (.data recs) :: ins) = .ok s' outs) :
    calls outs = specCalls i 0 recs s (returnStates s (.gotEvent i k (.data recs) :: ins)) :=
  Proofs.routing_in_order s hi i k recs ins hng hv h

/-- The target of every invocation: the watch was registered when the record was reached, it is the
watch whose descriptor the record carries, on the instance being walked; at most one invocation per step. -/
theorem call_target (s : St) (hi : Inv s) (a : In) (hv : validUse s a = true) {s' : St} {o : List Out}
    (h : step s a = .ok s' o) {w off : Nat} {r : Rec} {b : Bool} (hc : Out.call w off r b ∈ o) :
    CallFacts s s' w off r b ∧ calls o = [(w, off, r)] :=
  Proofs.call_target s hi a hv h hc

/-- "and to no other": two registered watches of one instance never share a descriptor. -/
theorem wd_unique (s : St) (hi : Inv s) (w1 w2 : Nat) (a b : WInfo) (ha : s.ws w1 = some a) (hb : s.ws w2 = some b)
    (r1 : isReg s w1 = true) (r2 : isReg s w2 = true) (hinst : a.inst = b.inst) (hwd : a.wd = b.wd) : w1 = w2 :=
  Proofs.wd_unique s hi w1 w2 a b ha hb r1 r2 hinst hwd

/-- dropped_before_handler: when the handler is entered for an IN_IGNORED record or on a one-shot
watch, the watch is already out of the instance (`b = false`, `isReg s' w = false`); otherwise it is
still in. -/
theorem dropped_before_handler (s : St) (hi : Inv s) (a : In) (hv : validUse s a = true) {s' : St} {o : List Out}
    (h : step s a = .ok s' o) {w off : Nat} {r : Rec} {b : Bool} (hc : Out.call w off r b ∈ o) :
    ∃ wi, s.ws w = some wi ∧ b = !dropCond r.mask wi.mask ∧ isReg s' w = !dropCond r.mask wi.mask :=
  Proofs.dropped_before_handler s hi a hv h hc

/-- A watch that is not registered gets no record — later in the same walk or in any later
walk — until it is registered again. -/
theorem unregistered_no_call (w : Nat) (ins : List In) (s s' : St) (outs : List Out) (hi : Inv s) (hn : isReg s w = false)
    (hnr : ∀ a ∈ ins, isWatchRegister w a = false) (hv : ValidFrom s ins) (h : run s ins = .ok s' outs) :
    ∀ o ∈ outs, isCallTo w o = false :=
  Proofs.unregistered_no_call w ins s s' outs hi hn hnr hv h

/-- unregister_suppresses, watch: after `iv_inotify_watch_unregister(w)`, called from any handler
(its own or another watch's) or outside, nothing more is delivered to `w`. -/
theorem unregister_suppresses (s : St) (hi : Inv s) (w : Nat) (ins : List In)
    (hnr : ∀ a ∈ ins, isWatchRegister w a = false) (hv : ValidFrom s (.watchUnregister w :: ins))
    {s' : St} {outs : List Out} (h : run s (.watchUnregister w :: ins) = .ok s' outs) :
    ∀ o ∈ outs, isCallTo w o = false := by
  obtain ⟨s1, o1, o2, h1, h2, rfl⟩ := Proofs.run_cons h
  obtain ⟨hva, hvas⟩ := Proofs.validFrom_cons hv h1
  have hn1 := Proofs.watchUnregister_notReg s hi w hva h1
  intro o ho
  rw [List.mem_append] at ho
  rcases ho with ho | ho
  · have := (Proofs.user_step_effect s _ rfl hi hva h1).1 o ho
    cases o <;> simp_all [isCall, isCallTo]
  · exact Proofs.unregistered_no_call w ins s1 s' o2 (Proofs.step_inv s _ hi hva h1) hn1 hnr hvas h2 o ho

/-- A dropped watch (handler entered with `b = false`) gets no later record, e.g. one carrying the
same descriptor further on in the same buffer. -/
theorem dropped_suppresses (s : St) (hi : Inv s) (a : In) (hv : validUse s a = true) {s1 : St} {o : List Out}
    (h : step s a = .ok s1 o) {w off : Nat} {r : Rec} (hc : Out.call w off r false ∈ o)
    (ins : List In) (hnr : ∀ a ∈ ins, isWatchRegister w a = false) (hvs : ValidFrom s1 ins)
    {s' : St} {outs : List Out} (hrun : run s1 ins = .ok s' outs) :
    ∀ o ∈ outs, isCallTo w o = false :=
  Proofs.unregistered_no_call w ins s1 s' outs (Proofs.step_inv s a hi hv h) (Proofs.call_target s hi a hv h hc).1.reg_after hnr hvs hrun

/-- unregister_suppresses, instance: `iv_inotify_unregister` of the instance being walked, from
inside a handler: the history is an execution (no fault), no further handler is called, and the
unregistered instance is never modified again (it is exactly as `unregister` left it). -/
theorem instance_unregister_stops (s : St) (hi : Inv s) (wk : Walk) (hw : s.walk = some wk) (i : Nat) (ht : wk.this = some i)
    (ins : List In) (hng : ∀ a ∈ ins, isGotEvent a = false) (hv : ValidFrom s (.instUnregister i :: ins)) :
    ∃ s' outs x, run s (.instUnregister i :: ins) = .ok s' outs ∧ calls outs = [] ∧
      s.insts i = some x ∧ s'.insts i = some { x with registered := false } := by
  obtain ⟨s', outs, h, _⟩ := Proofs.run_ok_inv _ s hi hv
  obtain ⟨s1, o1, o2, h1, h2, rfl⟩ := Proofs.run_cons h
  obtain ⟨hva, hvas⟩ := Proofs.validFrom_cons hv h1
  obtain ⟨_, x, hx, hr, hterm⟩ := hi.walk_this wk i hw ht
  have e1 : step s (.instUnregister i) = .ok { s.setInst i { x with registered := false } with walk := some { wk with this := none } } [.close x.fd] := by
    simp [step, hx, hr, hterm, hw]
  rw [e1] at h1; cases h1
  have hi1 := Proofs.step_inv s _ hi hva e1
  refine ⟨s', _, x, h, ?_, hx, ?_⟩
  · rw [Proofs.calls_append, Proofs.stopped_no_calls ins _ s' o2 hi1 (by intro wk2 hw2; simp at hw2; subst hw2; rfl) hng hvas h2]; rfl
  · exact Proofs.dead_untouched_run i _ rfl ins _ s' o2 hi1 (by simp) hvas h2

/-- No step ever modifies an instance that has been unregistered. -/
theorem dead_untouched (s : St) (hi : Inv s) (a : In) (hv : validUse s a = true) {s' : St} {o : List Out}
    (h : step s a = .ok s' o) (i : Nat) (x : Inst) (hx : s.insts i = some x) (hd : x.registered = false) :
    s'.insts i = some x :=
  Proofs.dead_untouched s hi a hv h i x hx hd

/-! Non-vacuity.  Instance 0 with watches 1 (wd 5), 2 (wd 7, one-shot), 3 (wd 9).  One read of seven
records, two of them with names (len 16, 32).  Handler of 1 unregisters 3 and registers 4 (wd 11);
the one-shot 2 is delivered once and its second record is skipped; the record for 9 is skipped;
4 gets its record; the IN_IGNORED record drops 1, whose last record is skipped. -/
def demo : List In :=
  [.instRegister 0 4, .watchRegister 1 0 2 5, .watchRegister 2 0 0x80000002 7, .watchRegister 3 0 2 9,
   .gotEvent 0 1 (.data [⟨5, 2, 0, 0⟩, ⟨7, 2, 0, 16⟩, ⟨9, 2, 0, 0⟩, ⟨11, 2, 1, 32⟩, ⟨7, 2, 0, 0⟩, ⟨5, 0x8000, 0, 0⟩, ⟨5, 2, 0, 0⟩]),
   .watchUnregister 3, .watchFree 3, .watchRegister 4 0 2 11, .handlerEnd,
   .watchFree 2, .handlerEnd, .handlerEnd, .handlerEnd]

example : runCalls St.init demo =
    some [(1, 0, ⟨5, 2, 0, 0⟩), (2, 16, ⟨7, 2, 0, 16⟩), (4, 64, ⟨11, 2, 1, 32⟩), (1, 128, ⟨5, 0x8000, 0, 0⟩)] := by decide

example : ValidFrom St.init demo := (Proofs.validFromB_iff demo St.init).1 (by decide)

/-- unregistering the instance inside the first handler stops the walk: one invocation only -/
example : runCalls St.init
    [.instRegister 0 4, .watchRegister 1 0 2 5, .watchRegister 2 0 2 7,
     .gotEvent 0 0 (.data [⟨5, 2, 0, 0⟩, ⟨7, 2, 0, 0⟩, ⟨5, 2, 0, 0⟩]), .instUnregister 0, .watchFree 1, .watchFree 2, .handlerEnd] =
    some [(1, 0, ⟨5, 2, 0, 0⟩)] := by decide

/-- the valid-use clause is needed: unregistering a watch the library has dropped is a fault
(`iv_avl_tree_delete` on a node that is not in the tree) -/
example : (match run St.init [.instRegister 0 4, .watchRegister 1 0 2 5, .gotEvent 0 0 (.data [⟨5, 0x8000, 0, 0⟩]), .watchUnregister 1] with
    | .fault _ => true | _ => false) = true := by decide

/-- T-gen obligation: the buffer `iv_inotify_got_event` hands to `read(2)` (its size is evaluated by the compiler from the source's own
declaration and regenerated on every run) holds at least one event of the largest size the kernel can produce (header + NAME_MAX + 1
name bytes, padded to 16); otherwise `read` fails with EINVAL for such an event and it — and everything queued behind it — is never
delivered. The model's `gotEvent` (a read returns whole records) relies on it. -/
theorem read_buffer_holds_any_event :
    0 < Ivy.Generated.INOTIFY_MAX_EVENT ∧ Ivy.Generated.INOTIFY_MAX_EVENT ≤ Ivy.Generated.INOTIFY_READ_BUF := by decide

end Ivy.Props.C20
