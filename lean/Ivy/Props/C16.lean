import Ivy.L0.AvlProofs
/-!
# C16 — the AVL tree stays a correct balanced ordered set under any history

Property theorems only; every helper lemma lives in `Ivy/L0/AvlProofs.lean`.
The model (`Ivy/L0/Avl.lean`) keeps the stored height field and the early stop
of `rebalance_path`, so "stop when the height is unchanged" is proved safe here.
-/
namespace Ivy.Props.C16
open Ivy.Avl

/-- Inserting an absent key succeeds, keeps the invariant (ordered, stored heights
exact, balanced) and adds exactly that key. -/
theorem insert_new (t : Tree) (x : Int) (h : Inv t) (hx : x ∉ toList t) :
    ∃ t', insert x t = some (t', 0) ∧ Inv t' ∧ ∀ y, y ∈ toList t' ↔ (y = x ∨ y ∈ toList t) :=
  Proofs.insert_new t x h hx

/-- Inserting a key already present fails with −1 and leaves the tree identical. -/
theorem insert_dup (t : Tree) (x : Int) (h : Inv t) (hx : x ∈ toList t) :
    insert x t = some (t, -1) :=
  Proofs.insert_dup t x h hx

/-- Deleting a present key never faults, keeps the invariant and removes exactly that key. -/
theorem delete_mem (t : Tree) (x : Int) (h : Inv t) (hx : x ∈ toList t) :
    ∃ t', delete x t = some t' ∧ Inv t' ∧ ∀ y, y ∈ toList t' ↔ (y ≠ x ∧ y ∈ toList t) :=
  Proofs.delete_mem t x h hx

/-- Stored heights are the real heights, and the height is logarithmic in the size. -/
theorem height_exact (t : Tree) (h : Bal t) : height t = realHeight t := by
  induction t with
  | nil => rfl
  | node l k h' r ihl ihr =>
    rw [Proofs.bal_node] at h
    obtain ⟨bl, br, eh, _, _⟩ := h
    simp [realHeight, eh, ← ihl bl, ← ihr br]

theorem height_log (t : Tree) (h : Bal t) : 2 ^ (height t / 2) ≤ size t + 1 :=
  Proofs.height_log t h

/-- Every valid history (any length, any keys, duplicates included) runs without a
fault, ends in a tree satisfying the invariant whose traversal is strictly
increasing and visits exactly the inserted-and-not-deleted keys. -/
theorem history (ops : List Op) (hv : ValidHist ops) :
    ∃ t rcs, runHist ops = some (t, rcs) ∧ Inv t ∧ ∀ y, y ∈ toList t ↔ specMem ops y :=
  Proofs.history ops hv

/-- Non-vacuity: a concrete history with a duplicate insert, interior deletions and
rotations satisfies the hypothesis. -/
example : ValidHist [.del 4, .ins 4, .del 2, .ins 7, .ins 6, .ins 5, .ins 4, .ins 3, .ins 2, .ins 2, .ins 1] := by
  simp [ValidHist, specMem]

end Ivy.Props.C16
