import Ivy.L2.Lockset
import Ivy.Generated.AccessTable
/-!
# C14 — cross-thread entry points have no unsynchronised conflicting accesses

* `lockset_sound` (+ the easy variants): the generic happens-before theorem, for every execution of any length
  with any number of threads and locks in which locks are mutually exclusive.
* `accesses_comply`: every row of the access table REGENERATED FROM THE CURRENT C SOURCE
  (`Ivy/Generated/AccessTable.lean`, written by `gen/gen_access.py` before this file is built) complies with the
  hand-written `policy`.  This is the theorem that fails when an access leaves its critical section.
* `C14_drf`: consequently, in any well-formed execution, two conflicting accesses to the same memory word that
  are instances of table rows are ordered by happens-before or are both atomic operations (no data race either
  way), unless the word is one of the listed
  idempotent one-way flags, or one of the rows uses a listed exemption (object private to the thread:
  before publication / after unpublication / detached stolen list / refcount-guarded read / no libpthread).

Standing assumption for the one-way / first-initialisation flags (`inited`, `method`, `iv_state_key_allocated`,
`sig_owner_pid`, the feature-detection levels): THE FIRST `iv_init` OF THE PROCESS COMPLETES BEFORE ANY OTHER THREAD
CALLS INTO THE LIBRARY (documented in iv_init(3)); after that every writer stores the value that is already there, or
moves a support level one way.  These locations are exempt from the data-race claim by the property statement.

Assumptions (trusted, see gen/gen_access.py header): the extractor's rows describe the code (`Inst`: the
claimed locks are held, `ctx = owner` rows run in the owning thread, the abstract location and canonical lock
names denote what `Interp` says), and exempted phases are ordered with respect to the rest by publication.
-/
namespace Ivy.Props.C14
open Ivy.L2.Lockset

/-- a common lock orders two events (no bound on trace length, threads, locks) -/
theorem lockset_sound {L X C : Type} [DecidableEq L] (tr : Trace L X C) (wf : WF tr) {i j : Nat} {ei ej : Ev L X C}
    {l : L} (hij : i < j) (hi : tr[i]? = some ei) (hj : tr[j]? = some ej)
    (hli : stateAt tr i l = some ei.tid) (hlj : stateAt tr j l = some ej.tid) : HB tr i j :=
  Ivy.L2.Lockset.lockset_sound tr wf hij hi hj hli hlj

/-- accesses by one thread are ordered -/
theorem same_thread_ordered {L X C : Type} (tr : Trace L X C) {i j : Nat} {ei ej : Ev L X C}
    (hij : i < j) (hi : tr[i]? = some ei) (hj : tr[j]? = some ej) (ht : ei.tid = ej.tid) : HB tr i j :=
  HB.po hij hi hj ht

/-- what a thread did before creating a child is ordered before everything the child does -/
theorem fork_ordered {L X C : Type} (tr : Trace L X C) {i f j : Nat} {ei ef ej : Ev L X C}
    (hif : i ≤ f) (hfj : f < j) (hi : tr[i]? = some ei) (hf : tr[f]? = some ef) (hj : tr[j]? = some ej)
    (ht : ei.tid = ef.tid) (hop : ef.op = .fork ej.tid) : HB tr i j :=
  (HB.fork hfj hf hj hop).extend hif (Nat.le_refl _) hi hf hj hj ht rfl

/-- what a thread did is ordered before what its joiner does after the join -/
theorem join_ordered {L X C : Type} (tr : Trace L X C) {i g j : Nat} {ei eg ej : Ev L X C}
    (hig : i < g) (hgj : g ≤ j) (hi : tr[i]? = some ei) (hg : tr[g]? = some eg) (hj : tr[j]? = some ej)
    (hop : eg.op = .join ei.tid) (ht : eg.tid = ej.tid) : HB tr i j :=
  (HB.join hig hi hg hop).extend (Nat.le_refl _) hgj hi hi hg hj rfl ht

/-- what a poster did before posting is ordered before what the receiver does from the receipt on -/
theorem msg_ordered {L X C : Type} (tr : Trace L X C) {i p r j : Nat} {ei ep er ej : Ev L X C} {c : C}
    (hip : i ≤ p) (hpr : p < r) (hrj : r ≤ j)
    (hi : tr[i]? = some ei) (hp : tr[p]? = some ep) (hr : tr[r]? = some er) (hj : tr[j]? = some ej)
    (t1 : ei.tid = ep.tid) (t2 : er.tid = ej.tid) (o1 : ep.op = .post c) (o2 : er.op = .recv c) : HB tr i j :=
  (HB.msg hpr hp hr o1 o2).extend hip hrj hi hp hr hj t1 t2

/-- every chunk of the generated table complies (one kernel evaluation per chunk of ≤ 80 rows) -/
theorem chunks_comply : ∀ l ∈ Ivy.Generated.accessChunks, compliesAll l = true := by
  decide +kernel

/-- every access extracted from the current source complies with the policy -/
theorem accesses_comply : ∀ a ∈ Ivy.Generated.accesses, complies a = true :=
  compliesAll_flatten chunks_comply

/-- race freedom of everything the table permits -/
theorem C14_drf {L X C : Type} [DecidableEq L] (I : Interp L X) (tr : Trace L X C) (wf : WF tr)
    {i j : Nat} {ei ej : Ev L X C} {x : X} {a b : Access} (hij : i < j)
    (ha : a ∈ Ivy.Generated.accesses) (hb : b ∈ Ivy.Generated.accesses)
    (hi : Inst I tr i ei x a) (hj : Inst I tr j ej x b) (hw : a.kind = .write ∨ b.kind = .write) :
    HB tr i j ∨ (a.atomic = true ∧ b.atomic = true) ∨ isOneWay (I.absRec x) (I.absLoc x) = true ∨
      usesExemption a = true ∨ usesExemption b = true :=
  drf_of_comply Ivy.Generated.accesses accesses_comply I tr wf hij ha hb hi hj hw

/-! ### non-vacuity -/

section examples

private def m : Nat := 7
/-- thread 1 writes `x` under lock 7, then thread 2 reads it under lock 7 -/
private def good : Trace Nat Nat Nat :=
  [⟨1, .acq 7⟩, ⟨1, .wr 0⟩, ⟨1, .rel 7⟩, ⟨2, .acq 7⟩, ⟨2, .rd 0⟩, ⟨2, .rel 7⟩]

private theorem good_wf : WF good := by
  intro n e h
  match n with
  | 0 => simp [good] at h; subst h; simp [stateAt]
  | 1 => simp [good] at h; subst h; simp
  | 2 => simp [good] at h; subst h; simp [stateAt, step, good]
  | 3 => simp [good] at h; subst h; simp [stateAt, step, good]
  | 4 => simp [good] at h; subst h; simp
  | 5 => simp [good] at h; subst h; simp [stateAt, step, good]
  | n + 6 => simp [good] at h

/-- the hypotheses of `lockset_sound` are satisfiable and give the expected edge: the locked write (event 1) happens
before the locked read (event 4) -/
example : HB good 1 4 :=
  lockset_sound (l := 7) (ei := ⟨1, .wr 0⟩) (ej := ⟨2, .rd 0⟩) good good_wf (by decide) (by simp [good]) (by simp [good])
    (by simp [stateAt, step, good]) (by simp [stateAt, step, good])

/-- the shape of the repaired defect D5: thread 2 writes `x` under the lock while thread 1 reads it WITHOUT the lock -/
private def racy : Trace Nat Nat Nat :=
  [⟨2, .acq 7⟩, ⟨1, .rd 0⟩, ⟨2, .wr 0⟩, ⟨2, .rel 7⟩]

/-- … and those two accesses are NOT ordered: `HB` is not trivially true -/
example : ¬ HB racy 1 2 := by
  intro h
  cases h with
  | po _ h1 h2 ht => simp [racy] at h1 h2; subst h1 h2; simp at ht
  | sync _ h1 _ ho _ => simp [racy] at h1; subst h1; simp at ho
  | fork _ h1 _ ho => simp [racy] at h1; subst h1; simp at ho
  | join _ _ h2 ho => simp [racy] at h2; subst h2; simp at ho
  | msg _ h1 _ ho _ => simp [racy] at h1; subst h1; simp at ho
  | trans a b => have := a.lt; have := b.lt; omega

/-- the policy is not the constant "complies": an unlocked read of an event's list linkage outside its
initialisation (the pre-repair `iv_event_unregister`) is rejected, the locked one is accepted -/
example : complies ⟨"iv_event.c", "iv_event_unregister", 128, "iv_event", "iv_event.list", .read, [], .owner, false, false, false⟩ = false := by
  decide +kernel
example : complies ⟨"iv_event.c", "iv_event_unregister", 130, "iv_event", "iv_event.list", .read,
    ["event_list_mutex(owner)"], .owner, false, false, false⟩ = true := by
  decide +kernel
/-- a foreign-thread write to per-thread loop state is rejected -/
example : complies ⟨"iv_event.c", "iv_event_post", 150, "iv_state", "iv_state.numobjs", .write, [], .foreign, true, false, false⟩ = false := by
  decide +kernel
/-- `iv_thread.tid` (repaired defect D8): the child's atomic store complies, a plain store by the child would not -/
example : complies ⟨"iv_thread_posix.c", "iv_thread_handler", 110, "iv_thread", "iv_thread.tid", .write, [], .foreign, true, false, true⟩ = true := by
  decide +kernel
example : complies ⟨"iv_thread_posix.c", "iv_thread_handler", 110, "iv_thread", "iv_thread.tid", .write, [], .foreign, true, false, false⟩ = false := by
  decide +kernel
/-- a location the policy does not know is rejected (new shared state must be classified) -/
example : complies ⟨"iv_event.c", "iv_event_post", 150, "iv_event", "iv_event.brand_new_field", .read, [], .foreign, true, false, false⟩ = false := by
  decide +kernel

end examples

end Ivy.Props.C14
