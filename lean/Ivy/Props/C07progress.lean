import Ivy.L1.Progress
/-!
# C07, progress clause — "every wake-up makes progress instead of polling repeatedly without dispatching anything"

Property-level statements over the L1 loop machine under the FULL kernel contract; definitions
(`wretStrong`, `ExecS`, `idleSeg`, the oracles `idleVerdict` / `srcVerdict`) and proofs live in
`Ivy/L1/Progress.lean`.

* `wretStrong s r` — `wretOk s r`, and for `r = .events l`: every `.fd f ev` has a bit set and its `IN`/`OUT`
  bits are within the mask the kernel was given for `f` (epoll: `s.kint f`; poll: the `pfds` entry;
  `ERR`/`HUP` always allowed); `.kick` only while `s.kickArmed`; `.ktimer` only while `s.ktimer.isSome`.
* "a reported raw descriptor is readable" is the absence of `Ev.inp (.rawRead false)` in the wake-up
  segment (`isRawFail`); a successful raw read is progress (it drains the eventfd that caused the wake-up).
* `ExecS` — `Exec` with `wretStrong` for every wait result and `rawRead true` for every raw read.
-/
namespace Ivy.Props.C07progress
open Ivy.L1 Ivy.L1.Progress
open Ivy.Heap (TS)

/-- Every wake-up makes progress: from any reachable state blocked in the kernel wait, after any non-empty
wait result allowed by the full kernel contract, and for every continuation `evs` (user inputs and later
kernel answers), either the result consumed a one-shot wake source (armed kick → disarmed, armed kernel
timer → disarmed), or `evs` does not reach the next `Out.wait` / `Out.mainRet` without an `Out.cb _` or a
successful raw read (`idleSeg evs = false`; a failed raw read of a reported descriptor voids the claim). -/
theorem wake_progress (m : Method) (ntimers : Nat) (timerfdAvail pwait2 : Bool) (evs0 : List Ev) (s : St)
    (hreach : Exec (St.init m ntimers timerfdAvail pwait2) evs0 s)
    (abs : Option TS) (km : Bool) (hpc : s.pc = .waiting abs km)
    (l : List WItem) (hl : l ≠ []) (hs : wretStrong s (.events l) = true)
    (evs : List Ev) (s' : St) (hex : Exec s (Ev.inp (.wret (.events l)) :: evs) s') :
    (hasKick l = true ∧ s.kickArmed = true ∧ (afterWait s abs km (.events l)).1.kickArmed = false) ∨
    (hasKtimer l = true ∧ s.ktimer.isSome = true ∧ (afterWait s abs km (.events l)).1.ktimer = none) ∨
    idleSeg evs = false :=
  Ivy.L1.Progress.wake_progress m ntimers timerfdAvail pwait2 evs0 s hreach abs km hpc l hl hs evs s' hex

/-- The same over explicit segments: no trace segment `inp (wret (events l)) :: pre ++ [out (wait …) | out mainRet]`
with `l ≠ []` allowed by the full contract has a `pre` without callback and without successful raw read,
unless `l` reports the kick / the kernel timer, or a raw read of a reported descriptor fails in `pre`. -/
theorem wake_progress_split (m : Method) (ntimers : Nat) (timerfdAvail pwait2 : Bool) (evs0 : List Ev) (s : St)
    (hreach : Exec (St.init m ntimers timerfdAvail pwait2) evs0 s)
    (abs : Option TS) (km : Bool) (hpc : s.pc = .waiting abs km)
    (l : List WItem) (hl : l ≠ []) (hs : wretStrong s (.events l) = true)
    (pre post : List Ev) (o : Out) (s' : St)
    (hex : Exec s (Ev.inp (.wret (.events l)) :: (pre ++ Ev.out o :: post)) s')
    (hstop : isStop (.out o) = true) (hraw : ∀ x ∈ pre, isRawFail x = false) :
    hasKick l = true ∨ hasKtimer l = true ∨ ∃ x ∈ pre, isProgress x = true :=
  Ivy.L1.Progress.wake_progress_split m ntimers timerfdAvail pwait2 evs0 s hreach abs km hpc l hl hs pre post o s'
    hex hstop hraw

/-- No idle wake-up at all: every trace of the machine under the full kernel contract is accepted by the
source-aware oracle (a non-empty result that reports neither kick nor kernel timer is followed by a callback
or a successful raw read before the next wait, before `iv_main` returns, and before the next wait result). -/
theorem idle_free (m : Method) (ntimers : Nat) (timerfdAvail pwait2 : Bool) (evs : List Ev) (s' : St)
    (h : ExecS (St.init m ntimers timerfdAvail pwait2) evs s') : idleVerdict evs = none :=
  Ivy.L1.Progress.idle_free m ntimers timerfdAvail pwait2 evs s' h

/-- The implementation-side oracle accepts every trace of the machine under the full kernel contract on
which no third non-empty wake-up follows two wake-ups that each consumed a one-shot wake source without a
callback in between. -/
theorem no_spin (m : Method) (ntimers : Nat) (timerfdAvail pwait2 : Bool) (evs : List Ev) (s' : St)
    (h : ExecS (St.init m ntimers timerfdAvail pwait2) evs s') (hsrc : srcVerdict evs = none) :
    Ivy.Mon.C07.spinVerdict evs = none :=
  Ivy.L1.Progress.no_spin m ntimers timerfdAvail pwait2 evs s' h hsrc

/-! ## non-vacuity -/

def kin : KEv := ⟨true, false, false, false⟩

/-- descriptor 3 with an input handler; `iv_main` blocks in `epoll_wait` -/
def demoPre : List Input := [.api (.fdRegister 3 true false false), .api .main]
def demoS : St := (runTrace 20 (St.init .epoll 0 true true) demoPre).2
/-- the wait reports descriptor 3 readable; its handler returns; the loop waits again -/
def demoSeg : List Input := [.handlerEnd]
def demoS1 : St := (afterWait demoS none false (.events [.fd 3 kin])).1
def demoEvs : List Ev := (runTrace 20 demoS1 demoSeg).1

theorem demo_reach : Exec (St.init .epoll 0 true true) (runTrace 20 (St.init .epoll 0 true true) demoPre).1 demoS :=
  runTrace_exec _ _ _

theorem demo_cont : Exec demoS (Ev.inp (.wret (.events [.fd 3 kin])) :: demoEvs) (runTrace 20 demoS1 demoSeg).2 :=
  Exec.input (s := demoS) (s' := demoS1) (i := .wret (.events [.fd 3 kin])) (outs := []) rfl rfl
    (runTrace_exec 20 demoS1 demoSeg)

/-- the hypotheses of `wake_progress` are satisfiable, the continuation does reach the next wait, and the
callback of descriptor 3 is entered before it -/
example :
    demoS.pc = .waiting none false ∧ wretStrong demoS (.events [.fd 3 kin]) = true ∧
    demoEvs.any isStop = true ∧ demoEvs.any isProgress = true ∧ idleSeg demoEvs = false := by
  refine ⟨rfl, by decide, by decide, by decide, ?_⟩
  have := wake_progress .epoll 0 true true _ demoS demo_reach none false rfl [.fd 3 kin] (by simp)
    (by decide) demoEvs _ demo_cont
  simpa [hasKick, hasKtimer] using this

/-- five rounds of a self-re-registering task put the loop into kernel-timer mode (timerfd armed); a
foreign thread posts event 1 (kick armed); descriptor 3 is reported first and its handler unregisters
event 1; then the kick is reported (nothing pending: no callback), then the kernel timer (nothing due: no
callback), then descriptor 3 again -/
def rnd : List Input := [.api (.taskRegister 1), .handlerEnd, .time ⟨5, 0⟩, .wret (.events [])]
def fpInputs : List Input :=
  [.api (.taskRegister 1), .api (.fdRegister 3 true false false), .api (.evRegister 1 true),
   .api (.evRegister 2 true), .api .main] ++ rnd ++ rnd ++ rnd ++ rnd ++
  [.api (.taskRegister 1), .handlerEnd, .xpost 1,
   .wret (.events [.fd 3 kin]), .api (.evUnregister 1), .handlerEnd, .handlerEnd,
   .wret (.events [.kick]),
   .wret (.events [.ktimer]),
   .wret (.events [.fd 3 kin])]

def fpTrace : List Ev × St := runTraceS 400 (St.init .epollTimerfd 0 true true) fpInputs
theorem fp_exec : ExecS (St.init .epollTimerfd 0 true true) fpTrace.1 fpTrace.2 := runTraceS_exec _ _ _

def isWret : Ev → Bool | .inp (.wret (.events (_ :: _))) => true | _ => false

/-- `no_spin` needs its side condition: this trace of the machine under the full kernel contract consumes
all its inputs (8 wait results, 4 of them non-empty), every wake-up made progress (`idleVerdict` accepts:
two of them by consuming a stale one-shot wake source), and yet the implementation-side oracle rejects it
at the third consecutive non-empty wait result. -/
theorem spin_false_positive :
    ExecS (St.init .epollTimerfd 0 true true) fpTrace.1 fpTrace.2 ∧
    (fpTrace.1.filter isWret).length = 4 ∧
    idleVerdict fpTrace.1 = none ∧
    (Ivy.Mon.C07.spinVerdict fpTrace.1).isSome = true ∧
    (srcVerdict fpTrace.1).isSome = true :=
  ⟨fp_exec, by decide, idle_free _ _ _ _ _ _ fp_exec, by decide, by decide⟩

/-- without the last wait result the side condition holds, and `no_spin` applies: two cb-free wake-ups in a
row are tolerated by the oracle -/
def okTrace : List Ev × St := runTraceS 400 (St.init .epollTimerfd 0 true true) fpInputs.dropLast
theorem ok_exec : ExecS (St.init .epollTimerfd 0 true true) okTrace.1 okTrace.2 := runTraceS_exec _ _ _

example :
    (okTrace.1.filter isWret).length = 3 ∧ srcVerdict okTrace.1 = none ∧
    Ivy.Mon.C07.spinVerdict okTrace.1 = none :=
  ⟨by decide, by decide, no_spin _ _ _ _ _ _ ok_exec (by decide)⟩

end Ivy.Props.C07progress
