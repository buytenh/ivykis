import Ivy.L3.PumpProofs
import Ivy.L3.PumpCacheProofs
/-!
# C17 — iv_fd_pump relays the byte stream intact and reports its state truthfully

Property theorems only; helper lemmas live in `Ivy/L3/PumpProofs.lean` and `Ivy/L3/PumpCacheProofs.lean`.
All theorems quantify over every state satisfying `Inv` and every event list (every pattern of
partial reads/writes, EAGAIN, EINTR, EOF, errors), in both transfer modes (`s.splice`).

The single-pump model starts every buffer acquisition from an empty buffer.  The thread-level
theorems at the end (`cache_clean` … `deinit_no_leak`) discharge that assumption: they are about
the thread machine of `Ivy/L3/PumpCache.lean` (per-thread buffer cache with the contents of the
cached buffers, several live pumps, `new`/`pump`/`destroy`/`purge` in any order) and quantify over
all operation sequences from the initial thread state, `m` = initial `splice_available`
(`none` = not probed yet, the real initial value).
-/
namespace Ivy.Props.C17
open Ivy.Pump

theorem init_inv (sp re : Bool) : Inv (St.init sp re) := Proofs.init_inv sp re

/-- One `iv_fd_pump_pump` call, whatever the kernel answers, keeps the invariant:
`src = sink ++ buf` (no loss, duplication or reordering), byte count exact,
`full ↔ bytes = BUF_SIZE` in read/write mode, drained when done. Also on the error path. -/
theorem pump_inv (s : St) (evs : List Ev) (h : Inv s) {s' o r e} (hp : pump s evs = some (s', o, r, e)) :
    Inv s' := Proofs.pump_inv s evs h hp

/-- The return value: 0 exactly when the pump is done (EOF seen *and* buffer drained),
−1 exactly when an I/O error (or a zero-length write) was consumed, 1 otherwise. -/
theorem ret_spec (s : St) (evs : List Ev) (h : Inv s) {s' o r e} (hp : pump s evs = some (s', o, r, e)) :
    (r = 0 ∨ r = 1 ∨ r = -1) ∧ (r = 0 ↔ s'.sawFin = 2 ∧ ¬ ∃ ev, ev ∈ evs.take (evs.length - e.length) ∧ isErrEv ev = true) ∧
    (r = -1 ↔ ∃ ev, ev ∈ evs.take (evs.length - e.length) ∧ isErrEv ev = true) :=
  Proofs.ret_spec s evs h hp

/-- The bands requested always reflect the state: input while buffer space remains and no EOF was
seen, output while data is buffered; (0,1) while draining after EOF; (0,0) when done. -/
theorem bands_spec (s : St) (evs : List Ev) (h : Inv s) {s' o r e} (hp : pump s evs = some (s', o, r, e)) (hr : r ≠ -1) :
    ∃ o', o = o' ++ [Out.setBands (s'.sawFin = 0 ∧ s'.full = false) (s'.sawFin ≠ 2 ∧ (s'.sawFin = 1 ∨ s'.bytes ≠ 0))] ∧
      ∀ a b, Out.setBands a b ∉ o' := by
  obtain ⟨s2, o2, r2, S, hc⟩ := Proofs.pump_decomp s evs h hp
  rcases hc with ⟨_, _, _, rfl⟩ | ⟨_, b, hb, rfl, rfl⟩
  · exact (hr rfl).elim
  · obtain ⟨hb', _, _⟩ := Proofs.bands_eq hb
    obtain ⟨h1, h2, h3⟩ := Proofs.release_fields s2
    rw [h1, h2, h3]
    exact ⟨o2, by rw [hb'], S.noBands⟩

/-- While draining after EOF there is always something buffered, so "output wanted" is truthful. -/
theorem draining_nonempty (s : St) (evs : List Ev) (h : Inv s) {s' o r e} (hp : pump s evs = some (s', o, r, e))
    (hr : r ≠ -1) (h1 : s'.sawFin = 1) : s'.bytes ≠ 0 :=
  (Proofs.pump_inv s evs h hp).drain_ne h1

/-- `read` is never issued with a zero count in read/write mode (that would fake an EOF), never
after EOF and never when the buffer is full; `write` is never issued with a zero count. -/
theorem calls_sane (s : St) (evs : List Ev) (h : Inv s) {s' o r e} (hp : pump s evs = some (s', o, r, e)) :
    (∀ c, Out.read c ∈ o → 0 < c ∧ s.sawFin = 0 ∧ s.full = false) ∧ (∀ c, Out.write c ∈ o → 0 < c) := by
  obtain ⟨s2, o2, r2, S, hc⟩ := Proofs.pump_decomp s evs h hp
  rcases hc with ⟨_, _, rfl, _⟩ | ⟨_, b, hb, _, rfl⟩
  · exact ⟨S.reads, S.writes⟩
  · obtain ⟨rfl, _, _⟩ := Proofs.bands_eq hb
    exact ⟨fun c hm => S.reads c (by simpa using hm), fun c hm => S.writes c (by simpa using hm)⟩

/-- EOF is relayed (shutdown issued) only at the moment the pump becomes done, with everything
delivered (`sink = src`), only when requested, and exactly once over any run. -/
theorem shutdown_spec (s : St) (evs : List Ev) (h : Inv s) {s' o r e} (hp : pump s evs = some (s', o, r, e)) :
    (Out.shutdown ∈ o ↔ (s.sawFin ≠ 2 ∧ s'.sawFin = 2 ∧ s.relayEof = true)) ∧
    (s'.sawFin = 2 → s'.sink = s'.src) ∧ (o.count Out.shutdown ≤ 1) := by
  have hi := Proofs.pump_inv s evs h hp
  have hdone := (Proofs.sink_prefix hi).2
  obtain ⟨s2, o2, r2, S, hc⟩ := Proofs.pump_decomp s evs h hp
  rcases hc with ⟨_, rfl, rfl, _⟩ | ⟨_, b, hb, rfl, rfl⟩
  · exact ⟨S.shut, hdone, S.cnt⟩
  · obtain ⟨rfl, _, _⟩ := Proofs.bands_eq hb
    obtain ⟨h1, _, _⟩ := Proofs.release_fields s2
    exact ⟨by rw [h1, ← S.shut]; simp, hdone, by simpa [List.count_append] using S.cnt⟩

/-- Once done, always done: further calls return 0, perform no I/O and change nothing. -/
theorem done_stays (s : St) (evs : List Ev) (h : Inv s) (hd : s.sawFin = 2) :
    pump s evs = some ({ s with hasBuf := false }, [Out.setBands false false], 0, evs) := by
  have hb : s.bytes = 0 := by
    rw [h.bytes_eq, h.done_emp hd]; rfl
  simp [pump, hd, hb, bands]

/-- Whole runs (any number of calls, any event lists): the sink is always a prefix of the source,
and when the last call returned 0 the sink equals the source. -/
theorem run_stream (sp re : Bool) (calls : List (List Ev)) {s rs} (hr : run (St.init sp re) calls = some (s, rs)) :
    Inv s ∧ s.sink <+: s.src ∧ (rs.head? = some 0 → s.sink = s.src) := by
  obtain ⟨hi, _, hhead⟩ := Proofs.run_inv calls _ (Proofs.init_inv sp re) hr
  exact ⟨hi, (Proofs.sink_prefix hi).1, fun hh => (Proofs.sink_prefix hi).2 (hhead hh)⟩

/-- Non-vacuity: a concrete run with partial reads and writes, EINTR, EAGAIN and EOF reaches "done". -/
example : (run (St.init false true)
    [[.rdData [1,2,3], .wrN 2], [.rdEintr, .rdEagain, .wrEagain], [.rdData [4], .wrEintr, .wrN 2], [.rdEof]]).map
      (fun p => (p.1.sink, p.1.sawFin, p.2)) = some ([1,2,3,4], 2, [0, 1, 1, 1]) := by decide

/-- Every buffer in the per-thread cache is empty (a splice-mode pipe that still holds bytes is
closed, never cached), and the cache never exceeds MAX_CACHED_BUFS. -/
theorem cache_clean (m : Option Bool) (ops : List Op) {t : Thr} (hr : runT (Thr.init m) ops = some t) :
    (∀ c, c ∈ t.cache → c = []) ∧ t.cache.length ≤ Ivy.Generated.PUMP_MAX_CACHED_BUFS :=
  Proofs.cache_clean m ops hr

/-- What the next `buf_get()` returns is an empty buffer; hence, for a pump with nothing buffered,
`pumpWith` (the pump call on what the acquired buffer contains) is exactly `Ivy.Pump.pump`. -/
theorem acquire_empty (m : Option Bool) (ops : List Op) {t : Thr} (hr : runT (Thr.init m) ops = some t) :
    (bufGet t.cache).1 = [] ∧
      ∀ (s : St) (evs : List Ev), s.buf = [] → pumpWith (bufGet t.cache).1 s evs = pump s evs :=
  Proofs.acquire_empty m ops hr

/-- Isolation: every live pump on the thread satisfies `Inv` (`src = sink ++ buf` for its own
source: no byte of another pump's stream ever reaches its sink), whatever other pumps did before
or in between (including ending with an error while holding data), and runs in the thread's
transfer mode; no NULL buffer is ever used. -/
theorem pump_isolation (m : Option Bool) (ops : List Op) {t : Thr} (hr : runT (Thr.init m) ops = some t) :
    t.fault = false ∧ ∀ k p, (k, p) ∈ t.slots → Inv p.st ∧ t.splice = some p.st.splice :=
  Proofs.pump_isolation m ops hr

/-- `run_stream` for every pump of the thread: its sink is a prefix of its own source, and equal to
it when its last pump call returned 0. -/
theorem thread_stream (m : Option Bool) (ops : List Op) {t : Thr} (hr : runT (Thr.init m) ops = some t) :
    ∀ k p, (k, p) ∈ t.slots → p.st.sink <+: p.st.src ∧ (p.last = some 0 → p.st.sink = p.st.src) :=
  Proofs.thread_stream m ops hr

/-- Bookkeeping: buffers in existence (allocated − freed) = live pumps holding one + cached ones. -/
theorem no_buffer_leak (m : Option Bool) (ops : List Op) {t : Thr} (hr : runT (Thr.init m) ops = some t) :
    t.allocs = t.frees + held t.slots + t.cache.length :=
  Proofs.no_buffer_leak m ops hr

/-- Thread deinit: destroying every live pump and then `buf_purge` always succeeds and leaves no
buffer in existence (every allocation freed), no pump and an empty cache. -/
theorem deinit_no_leak (m : Option Bool) (ops : List Op) {t : Thr} (hr : runT (Thr.init m) ops = some t) :
    ∃ t', runT t (t.slots.map (fun kv => Op.destroy kv.1) ++ [Op.purge]) = some t' ∧
      t'.slots = [] ∧ t'.cache = [] ∧ t'.allocs = t'.frees :=
  Proofs.deinit_no_leak m ops hr

/-- Non-vacuity: splice mode chosen by the probe (which leaves two empty pipes cached); pump 0 takes
one, hits a write error with three bytes in its pipe (that pipe is closed, not cached) and is
destroyed; pump 1 then takes the other cached pipe, relays its own data intact in two partial
writes and finishes; its pipe goes back to the cache, which is clean; 2 buffers were allocated,
1 freed, 1 is cached. -/
example : (runT (Thr.init none)
    [.new 0 true true, .pump 0 [.rdData [1,2,3], .wrErr], .destroy 0,
     .new 1 true true, .pump 1 [.rdData [7,8], .wrN 1], .pump 1 [.rdEof, .wrN 1]]).map
      (fun t => t.slots.map (fun kv => (kv.1, kv.2.st.sink, kv.2.st.src, kv.2.last)) == [(1, [7,8], [7,8], some 0)]
                && t.cache == [[]] && t.allocs == 2 && t.frees == 1)
    = some true := by decide

/-- The cache contents do flow in the model: from a (not reachable) thread state whose cache holds a pipe with
stale bytes [1,2,3], the next pump delivers the stale bytes [1,2] instead of its own [7,8], reports
done, and the pipe goes back to the cache with [3,7,8] in it — what the real code would do. -/
example : (runT { Thr.init (some true) with cache := [[1,2,3]], allocs := 1 }
    [.new 1 true true, .pump 1 [.rdData [7,8], .wrN 2], .pump 1 [.rdEof]]).map
      (fun t => (t.slots.map (fun kv => (kv.2.st.sink, kv.2.st.src, kv.2.last)), t.cache.head?))
    = some ([([1,2], [7,8], some 0)], some [3,7,8]) := by decide

end Ivy.Props.C17
