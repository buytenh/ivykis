import Ivy.L3.WaitProofs
/-!
# C11 — iv_wait: child statuses reach the right interest once, in order, in the owner; strangers are harmless;
# the kill helper never signals a reaped pid

Property theorems only; the model is `Ivy/L3/Wait.lean` (an LTS: `step : State → Action → Option State`), the invariant
`Ivy/L3/WaitSpec.lean`, the lemmas `Ivy/L3/WaitProofs.lean`.  `Reachable s` = s is reached from the initial state by ANY
sequence of enabled actions: any number of threads and interests, every interleaving at critical-section granularity
(including the reaper being any thread and running between any two steps of any other thread), every history of
children with and without interests stopping/continuing/exiting/being killed at any moment (also before fork() has
returned), registration, unregistration (also from inside the handler) and re-registration at any moment, pid reuse as
soon as a termination has been reaped.  Ghost fields used in the statements: `queued`/`got` = everything ever appended to
the interest's queue / handed to its handler since it was registered; `cid` = the child incarnation it was attached to
(pids are reused, incarnations are not); `hist c` = all state changes of child c in the order they occurred;
`reapedOf`/`unreapedOf` = the part of it wait4() has / has not yet returned.
-/
namespace Ivy.Props.C11
open Ivy.Wait

theorem init_inv : Inv State.init := Proofs.init_inv

/-- every enabled action — of the environment, of the reaper, of any API call, of any completion — keeps the invariant -/
theorem step_inv {s s' : State} (a : Action) (h : Inv s) (hs : step s a = some s') : Inv s' := Proofs.step_inv a h hs

/-- hence it holds in every reachable state: for all interleavings and histories -/
theorem reachable_inv {s : State} (h : Reachable s) : Inv s := Proofs.reachable_inv h

/-- ROUTING (one reap): a status reaped for pid p while an interest w is registered for p is appended to the tail of w's
queue, w's event is due to be posted, and no other interest and no thread-local state is touched. -/
theorem routing_step {s s' : State} {t : Tid} {pid : Pid} {st : Status} {w : Wid}
    (hs : step s (.reapOne t pid st) = some s') (hw : alookup s.set pid = some w) :
    (s'.ints w).pending = (s.ints w).pending ++ [st] ∧ (s'.ints w).queued = (s.ints w).queued ++ [st] ∧
    s'.posting = some w ∧ (∀ x, x ≠ w → s'.ints x = s.ints x) ∧ s'.thr = s.thr := by
  obtain ⟨c, -, -, -, -, rfl⟩ := Proofs.step_reapOne.mp hs
  rw [Proofs.reapLib_some (s := Proofs.kreap s pid c st) hw]
  exact ⟨by simp [Proofs.kreap], by simp [Proofs.kreap], rfl, fun x hx => by simp [Proofs.kreap, hx], rfl⟩

/-- ROUTING (whole history): what was queued to a registered interest is exactly the contiguous segment of ITS child's
state changes reaped since the registration, in the order they occurred — nothing foreign, nothing duplicated, nothing
skipped — and it is, in this order, what the handler got ++ what the owner's completion still holds ++ what is pending. -/
theorem queue_is_history {s : State} (h : Reachable s) {w : Wid} (hr : (s.ints w).reg = true) :
    (s.ints w).queued = (reapedOf s (s.ints w).cid).drop (s.ints w).base ∧
    (s.ints w).queued = (s.ints w).got ++ infl s w ++ (s.ints w).pending :=
  ⟨(Proofs.reachable_inv h).q.routed w hr, (Proofs.reachable_inv h).t.split w hr⟩

/-- the handler therefore sees a prefix of its child's history (from the registration on), in order -/
theorem delivered_in_order {s : State} (h : Reachable s) {w : Wid} (hr : (s.ints w).reg = true) :
    (s.ints w).got <+: (s.hist (s.ints w).cid).drop (s.ints w).base := by
  have h1 := (queue_is_history h hr).1
  have p1 := Proofs.got_prefix (Proofs.reachable_inv h).t hr
  have p2 : (s.ints w).queued <+: (s.hist (s.ints w).cid).drop (s.ints w).base := by
    rw [h1, reapedOf, List.drop_take]; exact List.take_prefix _ _
  exact p1.trans p2

/-- a handler call made by thread t is for an interest that is still registered and was registered by t, with the next
status in order -/
theorem deliver_owner {s : State} (h : Reachable s) {t : Tid} {w : Wid} {st : Status} (hd : deliverCall s t = some (w, st)) :
    (s.ints w).reg = true ∧ (s.ints w).owner = t ∧ ∃ rest, infl s w = st :: rest := by
  obtain ⟨⟨rest, hc⟩, hh⟩ := Proofs.deliverCall_eq_some.mp hd
  obtain ⟨x, hx⟩ := Option.isSome_iff_exists.mp hh
  obtain ⟨a, b, l, c⟩ := (Proofs.reachable_inv h).t.handled_ok t x hx
  obtain rfl : x = w := by rw [hc] at c; cases c; rfl
  exact ⟨a, b, rest, by simp [infl, b, hc, hx]⟩

theorem deliver_step {s s' : State} {t : Tid} {w : Wid} {st : Status} (hd : deliverCall s t = some (w, st))
    (hs : step s (.deliver t) = some s') : (s'.ints w).got = (s.ints w).got ++ [st] ∧ ∀ x, x ≠ w → s'.ints x = s.ints x := by
  obtain ⟨⟨rest, hc⟩, hh⟩ := Proofs.deliverCall_eq_some.mp hd
  simp only [step, hc, hh, if_true] at hs
  cases hs
  exact ⟨by simp, fun x hx => by simp [hx]⟩

/-- after an unregister from inside the handler the rest of the batch is dropped without any handler call -/
theorem silent_deliver {s s' : State} {t : Tid} (hd : deliverCall s t = none) (hs : step s (.deliver t) = some s') :
    s'.ints = s.ints := by
  simp only [step] at hs
  split at hs <;> try cases hs
  rename_i w st rest hc
  split at hs <;> cases hs
  · rename_i hh; rw [Proofs.deliverCall_eq_some.mpr ⟨⟨rest, hc⟩, hh⟩] at hd; cases hd
  · rfl

/-- TERMINAL ONCE AND LAST: in every reachable state, of everything ever queued to (resp. handed to the handler of) a
registered interest only the LAST element can be a terminating status — so it occurs at most once and nothing is queued
or delivered behind it, also when the pid has been reused since; the dead flag is set exactly when that last element is
terminating, and then the interest is out of the set. -/
theorem terminal_once_last {s : State} (h : Reachable s) {w : Wid} (hr : (s.ints w).reg = true) :
    noDead (s.ints w).queued.dropLast ∧ noDead (s.ints w).got.dropLast ∧
    ((s.ints w).dead = true ↔ ∃ d, (s.ints w).queued.getLast? = some d ∧ d.dead = true) ∧
    ((s.ints w).dead = true → ∀ p, alookup s.set p ≠ some w) := Proofs.terminal_once_last h hr

/-- SPAWN NEVER MISSED (1): fork and insertion are one step: right after it the interest is in the set under the new pid,
attached to the new child, whose history is still empty. -/
theorem spawn_atomic {s s' : State} (h : Reachable s) {t : Tid} {w : Wid} {pid : Pid}
    (hs : step s (.registerSpawn t w pid) = some s') :
    alookup s'.set pid = some w ∧ alookup s'.procs pid = some (s'.ints w).cid ∧ s'.hist (s'.ints w).cid = [] ∧
    (s'.ints w).reg = true ∧ (s'.ints w).spawned = true ∧ (s'.ints w).owner = t ∧ (s'.ints w).pid = pid := by
  have hf := (Proofs.reachable_inv h).k.fresh s.ncid (Nat.le_refl _)
  simp only [step, Option.ite_none_left_eq_some, Option.some.injEq] at hs
  obtain ⟨-, -, rfl⟩ := hs
  simp [kfork, hf]

/-- SPAWN NEVER MISSED (2): as long as a spawned interest stays registered, EVERY state change its child ever made is
either in its queue history or still unreaped in the kernel — none was reaped and dropped, however early it happened;
the queue history is what the handler got ++ in flight ++ pending, and a non-empty pending queue always has its
completion on the way (posted, about to be posted by the reaper holding the lock, or started). -/
theorem spawn_never_missed {s : State} (h : Reachable s) {w : Wid} (hr : (s.ints w).reg = true)
    (hsp : (s.ints w).spawned = true) :
    s.hist (s.ints w).cid = (s.ints w).queued ++ unreapedOf s (s.ints w).cid ∧
    (s.ints w).queued = (s.ints w).got ++ infl s w ++ (s.ints w).pending ∧
    ((s.ints w).pending ≠ [] → (s.ints w).owed = true ∨ (s.thr (s.ints w).owner).comp = .started w ∨ s.posting = some w) :=
  Proofs.spawn_never_missed h hr hsp

/-- STRANGER HARMLESS (the repaired D1): when the drain loop reaps a status — terminating or not — of a pid nobody has an
interest in, the step is defined (no fault) and changes nothing but the kernel's own table: set, every interest, every
thread, the lock and the post obligation are untouched, and the invariant still holds. -/
theorem stranger_harmless {s : State} (h : Reachable s) {t : Tid} {pid : Pid} {c : Cid} {st : Status}
    (hl : s.lock = some t) (hp : s.posting = none) (hc : alookup s.procs pid = some c)
    (hg : (s.hist c)[s.nreaped c]? = some st) (hn : alookup s.set pid = none) :
    ∃ s', step s (.reapOne t pid st) = some s' ∧ s'.set = s.set ∧ s'.ints = s.ints ∧ s'.thr = s.thr ∧
      s'.posting = none ∧ s'.lock = s.lock ∧ s'.kills = s.kills ∧ Inv s' := Proofs.stranger_harmless h hl hp hc hg hn

/-- D1: the loop body before the repair (`reapLibD1`) faults exactly on a terminated stranger and is `reapLib` everywhere
else -/
theorem d1_prerepair_faults {s : State} {pid : Pid} {st : Status} (hn : alookup s.set pid = none) (hd : st.dead = true) :
    reapLibD1 s pid st = none := by simp [reapLibD1, hn, hd]

theorem d1_prerepair_same_otherwise {s : State} {pid : Pid} {st : Status} (h : alookup s.set pid ≠ none ∨ st.dead = false) :
    reapLibD1 s pid st = some (reapLib s pid st) := by
  cases hw : alookup s.set pid with
  | some w => simp [reapLibD1, hw]
  | none => simp [reapLibD1, hw, Proofs.reapLib_none hw, h.resolve_left (· hw)]

/-- KILL NEVER AFTER REAP: for a registered interest the dead flag is clear exactly when its pid is still held by the very
child it was attached to (termination not reaped); the helper passes a pid to kill() only then — flag and pid are read in
the same critical section that the reaper needs to set the flag — and otherwise makes no system call (-ESRCH). -/
theorem kill_never_after_reap {s : State} (h : Reachable s) {w : Wid} (hr : (s.ints w).reg = true) :
    ((s.ints w).dead = false ↔ alookup s.procs (s.ints w).pid = some (s.ints w).cid) ∧
    (∀ p, killTarget s w = some p → p = (s.ints w).pid ∧ alookup s.procs p = some (s.ints w).cid) ∧
    (killTarget s w = none ↔ (s.ints w).dead = true) := Proofs.kill_never_after_reap h hr

theorem kill_step {s s' : State} (h : Reachable s) {t : Tid} {w : Wid} {sig : Nat} (hs : step s (.kill t w sig) = some s') :
    (s'.kills = s.kills ∧ (s.ints w).dead = true ∧ killRet s w = -3) ∨
    (s'.kills = ((s.ints w).pid, sig) :: s.kills ∧ alookup s.procs (s.ints w).pid = some (s.ints w).cid ∧ killRet s w = 0) := by
  simp only [step, Option.ite_none_left_eq_some] at hs
  obtain ⟨hg, hs⟩ := hs
  have hk := Proofs.kill_never_after_reap h (w := w) (by simp at hg; exact hg.2)
  cases hd : (s.ints w).dead <;> simp only [killTarget, hd, Bool.false_eq_true, if_true, if_false] at hs <;> cases hs
  · exact .inr ⟨rfl, hk.1.mp hd, by simp [killRet, hd]⟩
  · exact .inl ⟨rfl, rfl, by simp [killRet, hd]⟩

/-! ## Non-vacuity -/

/-- thread 1 spawns through w0; the child exits before fork returns; thread 2 drains SIGCHLD, posts; thread 1 completes:
the handler gets the exit status, the interest is flagged dead and out of the set, kill would make no system call. -/
example : (run State.init
    [.registerSpawn 1 0 500, .childChange 500 (.exited 7), .reapBegin 2, .reapOne 2 500 (.exited 7), .reapPost 2, .reapDone 2,
     .complStart 1 0, .steal 1, .deliver 1, .complEnd 1, .kill 1 0 15]).map
      (fun s => ((s.ints 0).got, (s.ints 0).dead, alookup s.set 500, killTarget s 0, s.kills, alookup s.procs 500)) =
    some ([.exited 7], true, none, none, [], none) := by rfl

/-- pid reuse: w0's child (pid 500) terminates and is reaped; the pid goes to a new child spawned through w1 while w0 is
still registered; the new child's stop is routed to w1 only, w0 keeps exactly its terminating status. Meanwhile a stranger
(pid 7) exits and is reaped without any effect. -/
example : (run State.init
    [.registerSpawn 1 0 500, .fork 7, .childChange 500 (.killed 9), .childChange 7 (.exited 0), .reapBegin 1,
     .reapOne 1 7 (.exited 0), .reapOne 1 500 (.killed 9), .reapPost 1, .reapDone 1,
     .registerSpawn 1 1 500, .childChange 500 (.stopped 19), .reapBegin 1, .reapOne 1 500 (.stopped 19), .reapPost 1, .reapDone 1]).map
      (fun s => ((s.ints 0).queued, (s.ints 1).queued, (s.ints 0).dead, alookup s.set 500, alookup s.procs 7)) =
    some ([.killed 9], [.stopped 19], true, some 1, none) := by rfl

/-- unregister from inside the handler: three statuses stolen, the handler unregisters at the first, the other two are
dropped silently -/
example : (run State.init
    [.registerSpawn 1 0 500, .childChange 500 (.stopped 19), .childChange 500 .continued, .childChange 500 (.exited 0),
     .reapBegin 1, .reapOne 1 500 (.stopped 19), .reapPost 1, .reapOne 1 500 .continued, .reapPost 1,
     .reapOne 1 500 (.exited 0), .reapPost 1, .reapDone 1, .complStart 1 0, .steal 1, .deliver 1, .unregister 1 0,
     .deliver 1, .deliver 1, .complEnd 1]).map
      (fun s => ((s.ints 0).got, (s.ints 0).reg, (s.thr 1).comp)) =
    some ([.stopped 19], false, .idle) := by rfl

/-- the unrepaired loop body faults on the very input of corpus/C11/d1-stranger-child.scn -/
example : reapLibD1 State.init 5001 (.exited 0) = none := by rfl

end Ivy.Props.C11
