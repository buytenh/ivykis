import Ivy.L3.WorkProofs
/-!
# C13 — pool shutdown and iv_thread lifetime: drain, paired hooks, join, release

The property theorems; the longer proofs are in `Ivy/L3/WorkProofs.lean`.  Same LTS as C12 (`Ivy/L3/Work.lean`), plus
the `TSt` model of one iv_thread and its creator, for the code after the repair harness/iv_thread_creator_deinit.patch;
the history of the defect is in Work.lean.
The pool LTS includes submissions by threads that are neither the owner nor a worker of the pool (`submitf`, e.g. a
worker of another pool) and is the model of iv_work.c after the D10 repair harness/iv_work_d10.patch (`iv_work_event`
frees a shutting-down pool only when `work_items` is empty too); history and witness in Work.lean and at the end of this file.
-/
namespace Ivy.Props.C13
open Ivy.Work

/-- `iv_work_pool_put` clears the user's handle at once and marks the pool shutting down; queued and finished items
are untouched (nothing is cancelled). -/
theorem put_effect {s s' : St} (hs : step s .put = some s') :
    s'.handle = false ∧ s'.shut = true ∧ s'.queue = s.queue ∧ s'.done = s.done ∧ s'.it = s.it ∧ s'.ni = s.ni := by
  simp only [step] at hs; split at hs <;> try simp at hs
  split at hs <;> simp at hs <;> subst hs <;> simp

/-- After put, once the library can do nothing more: every item submitted before the put has completed, every worker
thread has been joined, the pool has been freed and the owner's loop holds no object of this pool any more
(both pool events and every `dead` event unregistered), so `iv_main` can return. -/
theorem drained {s : St} (h : Inv s) (hsh : s.shut = true) (hst : Stuck s) :
    (∀ i, i < s.ni → (s.it i).phase = .completed) ∧ (∀ k, k < s.nw → (s.w k).pc = .joined) ∧ s.freed = true ∧
    poolObjs s = 0 := Proofs.drained h hsh hst

/-- thread_start and thread_stop as a function of the worker's life-cycle stage: start called exactly once from
stage 1 on, stop exactly once from stage 3 (died) on, never a stop without a start. -/
theorem hooks_paired {s : St} (h : Inv s) {k : Nat} (hk : k < s.nw) :
    (s.w k).starts = (if 1 ≤ (s.w k).pc.rank then 1 else 0) ∧ (s.w k).stops = (if 3 ≤ (s.w k).pc.rank then 1 else 0) ∧
    (s.w k).stops ≤ (s.w k).starts := by
  have h1 := (h.wk k hk).starts_eq
  have h2 := (h.wk k hk).stops_eq
  cases hp : (s.w k).pc <;> simp_all [WPc.live]

/-- A worker only moves forward through its life cycle (not started, thread_start called, serving, thread_stop
called, exited, joined), one stage per step: so each hook is called exactly once, stop after start, then the
thread exits and is joined. -/
theorem lifecycle_step {s s' : St} {a : Act} (hs : step s a = some s') {k : Nat} (hk : k < s.nw) :
    (s.w k).pc.rank ≤ (s'.w k).pc.rank ∧ (s'.w k).pc.rank ≤ (s.w k).pc.rank + 1 :=
  (Proofs.step_frame hs).rank k hk

/-- The last worker posts the owner: whenever a shutting-down pool has no thread left and is not yet freed, the
owner's event is owed or the owner is already inside iv_work_event — or work is still queued and `thread_needed` is owed
(or being handled), so that a worker WILL be started, and that worker posts the owner when it dies.
(The last alternative cannot be dropped: `submitf` can enqueue while `started = 0`; the repaired `iv_work_event` then
declines to free the pool and returns with nothing owed on `ev`: state after submitf, put, oEv, oSteal, oFinish.
Without queued work one of the first three alternatives holds.) -/
theorem owner_owed_when_last_worker_gone {s : St} (h : Inv s) (hsh : s.shut = true) (h0 : s.started = 0)
    (hf : s.freed = false) :
    s.evOwed = true ∨ s.owner = .evPre ∨ (∃ b, s.owner = .compl b) ∨
    (s.queue ≠ [] ∧ (s.tnOwed = true ∨ s.owner = .tnPre)) := h.shut_ev hsh h0 hf

/-- The repaired code cannot hang in that last situation: in every reachable state without a worker thread but with
work queued (shutting down or not), the pool is not freed, `thread_needed` is owed to the owner or its handler has been
invoked (the handler starts the thread inside its critical section: there is no separate "start in progress" state), and
the library is not quiescent: the owner's loop has a handler to run. -/
theorem no_hang_when_last_worker_gone {max : Nat} (hm : 1 ≤ max) {s : St} (hr : Reach max s) (h0 : s.started = 0)
    (hq : s.queue ≠ []) : s.freed = false ∧ (s.tnOwed = true ∨ s.owner = .tnPre) ∧ ¬ Stuck s :=
  have h := Proofs.reach_inv hm hr
  ⟨(Proofs.queued_item_owed h hq).1, Proofs.tn_of_started_zero h h0 hq, fun hst => hq (Proofs.stuck_queue h hst)⟩

/-- thread_needed is honoured while shutting down — about ALL reachable states, every interleaving:
(1) `iv_work_pool_put` does not cancel an owed `thread_needed`, nor touch the queue or the thread count;
(2) the handler does not look at `shutting_down`: with nobody idle and fewer than `max_threads` threads it starts a
    worker (which finds the queue as it was);
(3) while anything is queued, the pool is not freed, and a worker is responsible for the queue or no thread exists and
    `thread_needed` is owed / being handled in a state where (2) applies (`idle = []`, `started < max`);
(4) hence "freed with a non-empty queue" is unreachable.
A handler that skipped the start when shutting_down would break (2); iv_work.c before the D10 repair broke (4). -/
theorem thread_needed_honoured_when_shutting_down {max : Nat} (hm : 1 ≤ max) {s : St} (hr : Reach max s) :
    (∀ s', step s .put = some s' → s'.tnOwed = s.tnOwed ∧ s'.queue = s.queue ∧ s'.started = s.started) ∧
    (∀ s', step s .oTnRun = some s' → s.idle = [] → s.started < s.max →
       s'.nw = s.nw + 1 ∧ s'.started = s.started + 1 ∧ (s'.w s.nw).pc = .starting ∧ s'.queue = s.queue ∧ s'.shut = s.shut) ∧
    (s.queue ≠ [] → s.freed = false ∧
       ((∃ k, k < s.nw ∧ Resp s k) ∨
        (s.started = 0 ∧ s.idle = [] ∧ s.started < s.max ∧ (s.tnOwed = true ∨ s.owner = .tnPre)))) ∧
    (s.freed = true → s.queue = []) := by
  refine ⟨fun s' hs => ?_, fun s' hs hi hlt => ?_, fun hq => Proofs.queued_item_owed (Proofs.reach_inv hm hr) hq,
    fun hf => ((Proofs.reach_inv hm hr).freed_imp hf).2.2.1⟩
  · simp only [step] at hs
    split at hs <;> try simp at hs
    split at hs <;> simp at hs <;> subst hs <;> exact ⟨rfl, rfl, rfl⟩
  · simp only [step] at hs
    split at hs <;> try simp at hs
    split at hs <;> simp at hs
    · subst hs; simp [startThread]
    · rename_i hc; exact absurd ⟨hi, hlt⟩ hc

/-- The pool's two events are unregistered exactly at the owner's shutting_down test with `started = 0 ∧ done = []`,
never before: at that moment nothing is queued, every item has completed and no worker is alive. -/
theorem free_exact {s s' : St} {a : Act} (h : Inv s) (hs : step s a = some s') (hf : s.freed = false) (hf' : s'.freed = true) :
    a = .oFinish ∧ s.shut = true ∧ s.started = 0 ∧ s.done = [] ∧ s.queue = [] ∧
    (∀ i, i < s.ni → (s.it i).phase = .completed) ∧ (∀ k, k < s.nw → (s.w k).pc.live = false) :=
  Proofs.free_exact h hs hf hf'

/-- While not freed the pool holds the owner's loop open with its two events; each worker's `dead` event is
registered from its creation until its join. -/
theorem loop_objects {s : St} (h : Inv s) :
    (s.freed = false → 2 ≤ poolObjs s) ∧ (∀ k, k < s.nw → ((s.w k).deadReg = true ↔ (s.w k).pc ≠ .joined)) ∧
    (∀ k, k < s.nw → ((s.w k).deadOwed = true ↔ (s.w k).pc = .exited)) :=
  ⟨fun hf => by simp [poolObjs, hf], fun k hk => (h.wk k hk).dead_reg, fun k hk => (h.wk k hk).dead_owed⟩

/-- iv_thread, every interleaving of the thread's progress, the creator's loop and the creator deinitialising its
loop at any moment (`TReach` has no restriction), for every way the body ends: nothing freed is ever used (neither
the creator's loop state nor the record); `dead` is registered exactly from create until the join or the creator's
deinit, and owed exactly between the thread's exit and the join while the creator's loop exists; it is posted at most
once; the record is freed at most once, and it has been freed exactly when the thread was joined or the thread has
exited and the creator's loop is gone (by whichever of the two came second). -/
theorem thread_inv {m : ExitMode} {s : TSt} (hr : TReach m s) :
    s.fault = false ∧
    (s.deadReg = true ↔ (s.creatorGone = false ∧ s.pc ≠ .joined)) ∧
    (s.deadOwed = true ↔ (s.creatorGone = false ∧ s.pc = .exited)) ∧
    s.posts = (if s.exited then 1 else 0) ∧
    s.frees = (if s.pc = .joined ∨ (s.creatorGone = true ∧ s.pc = .exited) then 1 else 0) :=
  ⟨(Proofs.treach_inv hr).1.nofault, (Proofs.treach_inv hr).1.dead_reg, (Proofs.treach_inv hr).1.dead_owed,
   (Proofs.treach_inv hr).1.posts_eq, (Proofs.treach_inv hr).1.frees_eq⟩

/-- `dead` is never posted to a deinitialised loop: a post happens only in the exiting thread's destructor, only
while the creator's loop exists, and it is the first and only one. -/
theorem post_only_to_live_loop {m : ExitMode} {s s' : TSt} {a : TAct} (hr : TReach m s) (hs : tstep s a = some s')
    (hp : s'.posts ≠ s.posts) : a = .destruct ∧ s.creatorGone = false ∧ s.posts = 0 ∧ s'.posts = 1 :=
  Proofs.post_only_to_live_loop (Proofs.treach_inv hr).1 hs hp

/-- Whichever way the body ends (return, pthread_exit, with or without iv_deinit, never initialised) and whenever the
creator deinitialises: once neither the thread nor the creator's loop can do anything more, the thread has been
joined, or it has exited and the creator's loop is gone; the record has been freed exactly once, `dead` is
unregistered and not pending, the thread's loop state (if any) was deinitialised exactly once, nothing freed was used. -/
theorem thread_final {m : ExitMode} {s : TSt} (hr : TReach m s) (hst : TStuck s) :
    (s.pc = .joined ∨ (s.pc = .exited ∧ s.creatorGone = true)) ∧ s.frees = 1 ∧ s.deadReg = false ∧ s.deadOwed = false ∧
    s.ivState = false ∧ s.deinits = (if s.mode = .noInit then 0 else 1) ∧ s.fault = false :=
  Proofs.thread_final (Proofs.treach_inv hr).1 hst

/-- While the creator stays in its loop (does not deinitialise), a thread that can make no further step has been
joined: the creator's `iv_main` is held open (registered `dead`) until then. -/
theorem thread_joined {m : ExitMode} {s : TSt} (hr : TReach m s) (hst : TStuck s) (hg : s.creatorGone = false) :
    s.pc = .joined ∧ s.deadReg = false ∧ s.posts = 1 := by
  have h := (Proofs.treach_inv hr).1
  have hf := Proofs.thread_final h hst
  rcases hf.1 with hp | ⟨_, hg'⟩
  · exact ⟨hp, hf.2.2.1, by have := h.posts_eq; have := h.exited_iff; simp_all⟩
  · simp [hg] at hg'

/-- Non-vacuity: put while the single worker is parked idle: the worker is kicked, dies (thread_stop), posts the
owner, exits and is joined; the owner frees the pool. -/
example :
    (([Act.submit, .wStart 0, .wSelfKick 0, .wKick 0, .wEnter 0, .wAfter 0, .put, .wKick 0, .wEnter 0, .wExit 0,
       .oEv, .oSteal, .oComplete, .oFinish, .oJoin 0] : List Act).foldlM step (St.init 2)).map
      (fun s => s.freed && !s.handle && (s.w 0).pc == .joined && (s.w 0).starts == 1 && (s.w 0).stops == 1 &&
                poolObjs s == 0 && (s.it 0).phase == .completed) = some true := by decide

/-- Non-vacuity, the scenario of corpus/C13/foreign-continuation-then-put.scn seen from pool p1 (max 2, no worker yet):
a worker of another pool submits a continuation (only `thread_needed` is posted), the owner calls put before its loop
handled it (no thread: `ev` posted); the loop handles `thread_needed` first: worker 0 is started although the pool is
shutting down; `ev` finds a live thread and returns; the worker runs the item, finds the queue empty while shutting
down and dies, posting `ev`; the owner completes the item and frees the pool; the thread is joined. -/
example :
    (([Act.submitf, .put, .oTn, .oTnRun, .oEv, .oSteal, .oFinish, .wStart 0, .wSelfKick 0, .wKick 0, .wEnter 0, .wAfter 0,
       .wExit 0, .oEv, .oSteal, .oComplete, .oFinish, .oJoin 0] : List Act).foldlM step (St.init 2)).map
      (fun s => s.freed && !s.handle && s.queue == [] && (s.it 0).phase == .completed && (s.it 0).workRuns == 1 &&
                (s.it 0).complRuns == 1 && (s.w 0).pc == .joined && (s.w 0).starts == 1 && (s.w 0).stops == 1 &&
                poolObjs s == 0) = some true := by decide

/-- Non-vacuity of the repaired test: the same with `ev` handled BEFORE `thread_needed` (the order in which they were
posted when `ev` was pending already, as in D10): iv_work_event declines to free the pool (item queued), then
`thread_needed` starts the worker and everything drains. -/
example :
    (([Act.submitf, .put, .oEv, .oSteal, .oFinish] : List Act).foldlM step (St.init 2)).map
      (fun s => !s.freed && s.queue == [0] && s.tnOwed && !s.evOwed && s.owner == .idle && s.started == 0) = some true := by decide

example :
    (([Act.submitf, .put, .oEv, .oSteal, .oFinish, .oTn, .oTnRun, .wStart 0, .wSelfKick 0, .wKick 0, .wEnter 0, .wAfter 0,
       .wExit 0, .oEv, .oSteal, .oComplete, .oFinish, .oJoin 0] : List Act).foldlM step (St.init 2)).map
      (fun s => s.freed && (s.it 0).phase == .completed && (s.w 0).pc == .joined && poolObjs s == 0) = some true := by decide

/-- Defect D10 (corpus/C13/d10-freed-with-queued-continuation.scn): on the LTS of iv_work.c BEFORE the
repair (`stepD10`: the free test ignores `work_items`) the pool is freed with item 1 queued and `thread_needed` owed:
the owner did not run its loop for 10 s while `ev` was pending, the only worker idled out, a foreign continuation
arrived, then put.  Item 1 is never run. -/
example :
    (([Act.submit, .wStart 0, .wSelfKick 0, .wKick 0, .wEnter 0, .wAfter 0, .wTimeout 0, .wTimeoutRun 0, .submitf, .put,
       .oEv, .oSteal, .oComplete, .oFinish] : List Act).foldlM stepD10 (St.init 1)).map
      (fun s => s.freed && s.queue == [1] && (s.it 1).phase == .queued && (s.it 1).workRuns == 0 && s.started == 0) = some true := by decide

/-- ... and on the repaired LTS the same schedule ends with the pool alive and `thread_needed` owed. -/
example :
    (([Act.submit, .wStart 0, .wSelfKick 0, .wKick 0, .wEnter 0, .wAfter 0, .wTimeout 0, .wTimeoutRun 0, .submitf, .put,
       .oEv, .oSteal, .oComplete, .oFinish] : List Act).foldlM step (St.init 1)).map
      (fun s => !s.freed && s.queue == [1] && s.tnOwed && s.started == 0) = some true := by decide

/-- Non-vacuity (iv_thread): a body that returns without iv_deinit, joined by the creator's loop. -/
example : (([TAct.run, .leave, .destruct, .died] : List TAct).foldlM tstep { mode := .retNoDeinit }).map
    (fun s => s.pc == .joined && !s.deadReg && s.posts == 1 && s.deinits == 1 && s.frees == 1 && !s.fault) = some true := by decide

/-- Non-vacuity: the creator deinitialises first (the schedule of the use-after-free D9): the thread finds itself orphaned,
does not post, and frees the record. -/
example : (([TAct.run, .creatorDeinit, .deinit, .leave, .destruct] : List TAct).foldlM tstep { mode := .ret }).map
    (fun s => s.pc == .exited && s.orphaned && !s.deadReg && s.posts == 0 && s.frees == 1 && !s.fault) = some true := by decide

/-- Non-vacuity: the thread exits and posts first, the creator deinitialises before its loop ran the handler: the
pending post is dropped with the unregistration and the creator frees the record. -/
example : (([TAct.run, .leave, .destruct, .creatorDeinit] : List TAct).foldlM tstep { mode := .pexitNoDeinit }).map
    (fun s => s.pc == .exited && !s.orphaned && !s.deadReg && !s.deadOwed && s.posts == 1 && s.frees == 1 && !s.fault) = some true := by decide

end Ivy.Props.C13
