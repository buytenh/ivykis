import Ivy.L1.ProofsC07tmo
/-!
# C07, timeout clause — "a wake-up on a timeout dispatches the timer that was waited for; the loop does not poll
repeatedly with a zero timeout"

Model-side soundness of the two implementation-side timeout oracles of `Ivy.Mon.C07`: `tmoCapVerdict` (step
`tmoStepC`; the one the checks run on every log of the real implementation) and `tmoVerdict` (step `tmoStep`), which
differ only in that `tmoStepC` treats a millisecond wait at the 24 h cap of `to_msec` like an unbounded wait.  The
contract is defined in `Ivy/Mon/TmoContract.lean`, the proofs are in `Ivy/L1/ProofsC07tmo.lean`.

## The timeout contract `tmoContract evs` (a Bool over the trace, `monOk ctrStep {}`)

State `CSt = (last, pend, due)`, all in nanoseconds:
* `Input.time t` sets `last := ns t` (`last = 0` initially, like the machine's `time = ⟨0,0⟩`).  The machine computes
  every timeout from its cached `time`, which is always the last `Input.time` (proved: `Inv.clock`), so `last` is
  "the clock value the machine used to compute the timeout".
* `Out.wait _ to …` sets `pend := last + v` for `to = .ns v`, `last + v·10⁶` for `to = .ms v` (`v > 0`), else `none`.
* `Input.wret (.events [])` sets `due := pend`; every wait result clears `pend`, and a non-empty one `due`.
* THE ONLY REQUIREMENT: an `Input.time t` while `due = some d` must satisfy `d ≤ ns t` (then `due := none`).
So: after a wait with a finite non-zero timeout came back empty, the next clock reading is at or after
(clock value the timeout was computed from) + (the timeout).  Nothing is assumed after `EINTR`, `ENOSYS`, non-empty
results, unbounded waits or zero-timeout polls.  Clock monotonicity is part of `envOk` already (the argument about
timeouts does not use it; the machine invariant `MInv` that is carried along does).

## What holds

* Part (a) (a timed-out wait is followed by a callback before the next wait) holds EXCEPT when `to_msec` capped the
  timeout at 86 400 000 ms (`poll` / `epoll_wait` with the earliest timer more than 24 h away): the loop then
  legitimately wakes up after 24 h, finds nothing due and waits again — `day_cap_rejected` is that trace, accepted
  by the contract and rejected by `tmoVerdict`.  FULL STATEMENT (false):
  `Exec (St.init …) evs s' → tmoContract evs = true → tmoVerdict evs = none`.
  What is proved: `tmo_sound_partial` (the same with the scope restriction `noDayCap evs`: no `.ms v` wait with
  `v ≥ 86 400 000`), and `tmo_cap_sound` (no restriction) for `tmoCapVerdict`.
* Part (b) holds on the same traces: the counter `zeros` never exceeds 2 (`tmo_zeros_le_two`, for `tmoStep` under
  `noDayCap evs`; `ProofsC07tmo.tmo_cap_bound`, for `tmoStepC` without restriction), so the third consecutive empty
  zero-timeout poll never happens.  2 is reached (`zeros_two_reached`), but only through the `ppoll → poll`
  fallback after `ENOSYS`, which re-reads the clock between the two polls; on traces without an `ENOSYS` answer
  the bound is 1 (`tmo_zeros_le_one`).  The tolerance `zeros ≥ 2` of `tmoStep` is therefore exactly right under
  the weak kernel contract `envOk` (which lets `ENOSYS` come at any time).
-/
namespace Ivy.Props.C07tmo
open Ivy.L1 Ivy.L1.ProofsC07tmo
open Ivy.Mon.C07 (TmoSt tmoStep tmoVerdict tmoStepC tmoCapVerdict)

/-- Every trace of the machine from an initial state on which the environment keeps the timeout contract, and on
which no millisecond wait is at the 24 h cap of `to_msec`, is accepted by the timeout-progress oracle. -/
theorem tmo_sound_partial (m : Method) (ntimers : Nat) (timerfdAvail pwait2 : Bool) (evs : List Ev) (s' : St)
    (h : Exec (St.init m ntimers timerfdAvail pwait2) evs s') (hc : tmoContract evs = true)
    (hcap : noDayCap evs = true) : tmoVerdict evs = none :=
  tmo_accepts m ntimers timerfdAvail pwait2 evs s' h hc hcap

/-- On the same traces the oracle's count of consecutive empty zero-timeout polls without a callback never
exceeds 2 (every prefix of a trace is a trace): the tolerance `zeros ≥ 2` of `tmoStep` is exactly what the model
supports. -/
theorem tmo_zeros_le_two (m : Method) (ntimers : Nat) (timerfdAvail pwait2 : Bool) (evs : List Ev) (s' : St)
    (h : Exec (St.init m ntimers timerfdAvail pwait2) evs s') (hc : tmoContract evs = true)
    (hcap : noDayCap evs = true) : ∃ μ : TmoSt, runMon tmoStep {} evs = .ok μ ∧ μ.zeros ≤ 2 :=
  tmo_bound m ntimers timerfdAvail pwait2 evs s' h hc hcap

/-- Without an `ENOSYS` answer to a wait (`noEnosys evs`: no `Ev.inp (.wret .enosys)` record, so no `ppoll → poll`
fallback in the middle of a run) the count never exceeds 1: a second consecutive empty zero-timeout poll without a
callback in between does not happen. -/
theorem tmo_zeros_le_one (m : Method) (ntimers : Nat) (timerfdAvail pwait2 : Bool) (evs : List Ev) (s' : St)
    (h : Exec (St.init m ntimers timerfdAvail pwait2) evs s') (hc : tmoContract evs = true)
    (hcap : noDayCap evs = true) (hne : noEnosys evs = true) :
    ∃ μ : TmoSt, runMon tmoStep {} evs = .ok μ ∧ μ.zeros ≤ 1 :=
  tmo_bound_one m ntimers timerfdAvail pwait2 evs s' h hc hcap hne

/-- `tmoCapVerdict` (a millisecond wait at the 24 h cap is not a sleep that owes a callback) accepts every
trace of the machine that keeps the timeout contract — no scope restriction. -/
theorem tmo_cap_sound (m : Method) (ntimers : Nat) (timerfdAvail pwait2 : Bool) (evs : List Ev) (s' : St)
    (h : Exec (St.init m ntimers timerfdAvail pwait2) evs s') (hc : tmoContract evs = true) :
    tmoCapVerdict evs = none :=
  tmo_cap_accepts m ntimers timerfdAvail pwait2 evs s' h hc

/-- The two oracles agree on every list of records without a millisecond wait at the cap (in particular on all
logs with timers less than 24 h ahead). -/
theorem tmo_cap_agrees (evs : List Ev) (hcap : noDayCap evs = true) : tmoCapVerdict evs = tmoVerdict evs := by
  unfold tmoCapVerdict tmoVerdict runMon
  rw [tmoFold_eq evs {} hcap]

/-! ## non-vacuity -/

/-- state 0: looking for a wait with a finite non-zero timeout; 1: inside one; 2: it came back empty; `true` when
a timer callback is entered in state 2 -/
def timeoutThenTimerCb : List Ev → Nat → Bool
  | [], _ => false
  | e :: r, st =>
    match st, e with
    | _, .out (.wait _ to ..) => timeoutThenTimerCb r (if toPos to then 1 else 0)
    | 1, .inp (.wret (.events [])) => timeoutThenTimerCb r 2
    | 2, .out (.cb (.timer _)) => true
    | st, _ => timeoutThenTimerCb r st

/-- `poll`: a timer 0.5 ms ahead; the timeout is rounded UP to 1 ms; the wait times out; the clock has advanced
by 1 ms; the timer handler runs; `iv_main` returns -/
def nvPoll : List Input :=
  [.api (.timerRegister 0 ⟨1, 500000⟩), .api .main, .time ⟨1, 0⟩, .wret (.events []), .time ⟨1, 1000000⟩, .handlerEnd]

def nvPollTr : List Ev × St := runTrace 100 (St.init .poll 1) nvPoll

/-- the hypotheses of `tmo_sound_partial` are satisfiable by a trace with a timed-out millisecond wait followed by
the timer callback -/
example :
    Exec (St.init .poll 1) nvPollTr.1 nvPollTr.2 ∧ tmoContract nvPollTr.1 = true ∧ noDayCap nvPollTr.1 = true ∧
    nvPollTr.1.any (fun e => match e with | .out (.wait "poll" (.ms 1) ..) => true | _ => false) = true ∧
    timeoutThenTimerCb nvPollTr.1 0 = true ∧ tmoVerdict nvPollTr.1 = none :=
  ⟨runTrace_exec _ _ _, by decide +kernel, by decide +kernel, by decide +kernel, by decide +kernel,
   tmo_sound_partial _ _ _ _ _ _ (runTrace_exec _ _ _) (by decide +kernel) (by decide +kernel)⟩

/-- `epoll_pwait2`: the same with an exact nanosecond timeout -/
def nvEpoll : List Input :=
  [.api (.timerRegister 0 ⟨1, 500000⟩), .api .main, .time ⟨1, 0⟩, .wret (.events []), .time ⟨1, 500000⟩, .handlerEnd]

def nvEpollTr : List Ev × St := runTrace 100 (St.init .epoll 1) nvEpoll

example :
    Exec (St.init .epoll 1) nvEpollTr.1 nvEpollTr.2 ∧ tmoContract nvEpollTr.1 = true ∧
    nvEpollTr.1.any (fun e => match e with | .out (.wait "epoll_pwait2" (.ns 500000) ..) => true | _ => false) = true ∧
    timeoutThenTimerCb nvEpollTr.1 0 = true ∧ tmoVerdict nvEpollTr.1 = none :=
  ⟨runTrace_exec _ _ _, by decide +kernel, by decide +kernel, by decide +kernel,
   tmo_sound_partial _ _ _ _ _ _ (runTrace_exec _ _ _) (by decide +kernel) (by decide +kernel)⟩

/-- the oracle rejects a loop that rounds its timeout down: 20 ms wait, empty result, and instead of a callback a
zero-timeout poll -/
example : (tmoVerdict
    [.inp (.api (.timerRegister 0 ⟨1, 20500000⟩)), .out (.ret 0), .inp (.api .main), .inp (.time ⟨1, 0⟩),
     .out (.wait "poll" (.ms 20) [] none none), .inp (.wret (.events [])), .inp (.time ⟨1, 20000000⟩),
     .out (.wait "poll" (.ms 0) [] none none)]).isSome = true := by decide

/-- … and a loop that polls three times in a row with a zero timeout without dispatching anything -/
example : (tmoVerdict
    [.out (.wait "epoll_wait" (.ms 0) [] none none), .inp (.wret (.events [])),
     .out (.wait "epoll_wait" (.ms 0) [] none none), .inp (.wret (.events [])),
     .out (.wait "epoll_wait" (.ms 0) [] none none), .inp (.wret (.events []))]).isSome = true := by decide

/-- the contract cannot be dropped: the same machine trace as `nvPoll`, but the clock has not advanced when the
wait times out (a legal environment under `envOk`): nothing is due, the loop waits again, the oracle rejects -/
def lazyClock : List Input :=
  [.api (.timerRegister 0 ⟨1, 500000⟩), .api .main, .time ⟨1, 0⟩, .wret (.events []), .time ⟨1, 0⟩]

def lazyTr : List Ev × St := runTrace 100 (St.init .poll 1) lazyClock

theorem contract_needed :
    Exec (St.init .poll 1) lazyTr.1 lazyTr.2 ∧ noDayCap lazyTr.1 = true ∧ tmoContract lazyTr.1 = false ∧
    (tmoVerdict lazyTr.1).isSome = true :=
  ⟨runTrace_exec _ _ _, by decide +kernel, by decide +kernel, by decide +kernel⟩

/-- the scope restriction cannot be dropped for `tmoVerdict`: `poll`, one timer 200 000 s ahead; the
timeout is capped at 86 400 000 ms, the wait times out, the clock has advanced by exactly 24 h, nothing is due and
the loop waits again.  The trace keeps the contract, `tmoVerdict` rejects it, `tmoCapVerdict` accepts it. -/
def capInputs : List Input :=
  [.api (.timerRegister 0 ⟨200000, 0⟩), .api .main, .time ⟨0, 0⟩, .wret (.events []), .time ⟨86400, 0⟩]

def capTr : List Ev × St := runTrace 100 (St.init .poll 1) capInputs

theorem day_cap_rejected :
    Exec (St.init .poll 1) capTr.1 capTr.2 ∧ tmoContract capTr.1 = true ∧ noDayCap capTr.1 = false ∧
    (tmoVerdict capTr.1).isSome = true ∧ tmoCapVerdict capTr.1 = none :=
  ⟨runTrace_exec _ _ _, by decide +kernel, by decide +kernel, by decide +kernel,
   tmo_cap_sound _ _ _ _ _ _ (runTrace_exec _ _ _) (by decide +kernel)⟩

/-- the bound 2 of `tmo_zeros_le_two` is reached.  `ppoll`; the handler of event 1 posts event 1 again (task 0 is
queued for the next round) and unregisters it: a zero-timeout `ppoll` comes back empty and task 0 finds nothing
pending (first empty zero poll, no callback); the next `ppoll` (9 s) fails with `ENOSYS`, the loop falls back to
`poll`, reads the clock again — now past the timer's expiry — and polls with 0 ms (second empty zero poll); then the
timer handler runs. -/
def fbInputs : List Input :=
  [.api (.evRegister 1 true), .api (.taskRegister 1), .api (.timerRegister 0 ⟨10, 0⟩), .api .main, .time ⟨1, 0⟩,
   .api (.evPost 1), .handlerEnd,
   .api (.evPost 1), .api (.evUnregister 1), .handlerEnd,
   .wret (.events []), .time ⟨1, 0⟩,
   .wret .enosys, .time ⟨20, 0⟩, .wret (.events []), .time ⟨20, 0⟩, .handlerEnd]

def fbTr : List Ev × St := runTrace 200 (St.init .ppoll 1) fbInputs

def zerosAfter (evs : List Ev) : Option Nat :=
  match runMon tmoStep {} evs with
  | .ok μ => some μ.zeros
  | .error _ => none

theorem zeros_two_reached :
    Exec (St.init .ppoll 1) fbTr.1 fbTr.2 ∧ tmoContract fbTr.1 = true ∧ noDayCap fbTr.1 = true ∧
    (List.range fbTr.1.length).any (fun n => zerosAfter (fbTr.1.take n) == some 2) = true ∧
    fbTr.1.any (fun e => match e with | .out (.cb (.timer 0)) => true | _ => false) = true ∧
    tmoVerdict fbTr.1 = none :=
  ⟨runTrace_exec _ _ _, by decide +kernel, by decide +kernel, by decide +kernel, by decide +kernel,
   tmo_sound_partial _ _ _ _ _ _ (runTrace_exec _ _ _) (by decide +kernel) (by decide +kernel)⟩

/-- the bound 1 of `tmo_zeros_le_one` is reached: the same run cut before the `ENOSYS` answer (one empty
zero-timeout `ppoll` after which task 0 finds nothing pending, then a 9 s `ppoll`) -/
def fb1Tr : List Ev × St := runTrace 200 (St.init .ppoll 1) (fbInputs.take 12)

theorem zeros_one_reached :
    Exec (St.init .ppoll 1) fb1Tr.1 fb1Tr.2 ∧ tmoContract fb1Tr.1 = true ∧ noDayCap fb1Tr.1 = true ∧
    noEnosys fb1Tr.1 = true ∧ zerosAfter fb1Tr.1 = some 1 ∧
    fb1Tr.1.any (fun e => match e with | .out (.wait "ppoll" (.ns 9000000000) ..) => true | _ => false) = true :=
  ⟨runTrace_exec _ _ _, by decide +kernel, by decide +kernel, by decide +kernel, by decide +kernel,
   by decide +kernel⟩

end Ivy.Props.C07tmo
