import Ivy.L1.Invariant
import Ivy.L1.FdInv
import Ivy.L1.TimeInv
/-!
# What `numobjs` counts

`st->numobjs` is what `iv_main` tests to decide whether to go on: `iv_fd_register`, `iv_timer_register`,
`iv_task_register` and `iv_event_register` count an object in (`st->numobjs++`), the matching unregister calls count it
out, and so does the loop when it takes an expired timer off the heap (`iv_run_timers`) or a task off the batch
(`iv_run_tasks`).  `Cnt s` says what the count is made of: the registered descriptors (`numfds`, those of the raw events
among them), the timers on the heap, the tasks on a list, the events, and the kick descriptor that epoll registers with
the first event of a thread that uses no raw event.  `Cnt.zero` and `Cnt.own` read it at the exit test.
-/
namespace Ivy.L1
open Ivy.Heap ProofsC01

/-- `n` is the number of registered descriptors (those of the raw events among them) -/
abbrev NumFds (fds : FdId → FdObj) (n : Int) : Prop := Counted (fun f => (fds f).registered) n

/-- the tasks on a list, the library's own among them -/
def queued (s : St) : List TaskId := s.tasks ++ allTasks s.stack

/-- `numobjs` counts the registered descriptors, the timers on the heap (an expired timer leaves the count when it
joins the batch), the tasks on a list, the events, and the kick descriptor that epoll registers with the first event -/
structure Cnt (s : St) : Prop where
  objs : s.numobjs = s.numfds + (s.heap.num : Int) + ((queued s).length : Int) + s.eventCount + (s.kickReg.toNat : Int)
  kick : s.kickReg = true ↔ (s.useRaw = false ∧ 1 ≤ s.eventCount)
  fds : NumFds s.fds s.numfds

theorem timerBatch_nil {s : St} (h : s.stack = []) : timerBatch s = [] := by unfold timerBatch; rw [h]; rfl

/-- `numobjs = 0` between two iterations: nothing is registered -/
theorem Cnt.zero {s : St} (hN : Cnt s) (hC : Core s) (hF : FdInv s) (hT : TimeInv s) (hst : s.stack = [])
    (h0 : s.numobjs = 0) : ∀ p, ¬ Regd s p := by
  obtain ⟨l, -, hl, hn⟩ := hN.fds
  obtain ⟨le, -, hle, hne⟩ := hF.evcount
  have ho := hN.objs
  have hq : queued s = s.tasks := by unfold queued; rw [hst]; exact List.append_nil _
  rw [hq, h0, hn, hne] at ho
  have l0 : l = [] := List.eq_nil_of_length_eq_zero (by omega)
  have le0 : le = [] := List.eq_nil_of_length_eq_zero (by omega)
  have t0 : s.tasks = [] := List.eq_nil_of_length_eq_zero (by omega)
  have nofd : ∀ f, (s.fds f).registered ≠ true := fun f h => by have := (hl f).1 h; rw [l0] at this; cases this
  refine Regd_cases _ (fun f h => nofd f h.2) (fun t h => ?_) (fun k h => ?_) (fun e h => ?_) (fun r h => ?_)
    (fun k x => Regd5 s k x)
  · rcases Proofs.nonneg_idx.1 h with h | h
    · have := Proofs.num_pos_of_onHeap hC.tm.1 h; omega
    · have := (hT.bidx t).1 h; rw [timerBatch_nil hst] at this; cases this
  · have : k ∈ queued s := h.2
    rw [hq, t0] at this; cases this
  · have := (hle e).1 h; rw [le0] at this; cases this
  · exact nofd (rawFd r) ((hC.raw.1 r).trans h.2)

/-- nothing is registered and `numobjs ≠ 0`: the library's own task is queued -/
theorem Cnt.own {s : St} (hN : Cnt s) (hC : Core s) (hF : FdInv s) (hst : s.stack = []) (hn : ∀ p, ¬ Regd s p)
    (h0 : s.numobjs ≠ 0) : s.tasks ≠ [] := by
  intro ht
  obtain ⟨l, -, hl, hnl⟩ := hN.fds
  obtain ⟨le, -, hle, hne⟩ := hF.evcount
  have le0 : le = [] := List.eq_nil_iff_forall_not_mem.2 fun e he => hn (3, e) ((hle e).2 he)
  have ec : s.eventCount = 0 := by rw [hne, le0]; rfl
  have l0 : l = [] := List.eq_nil_iff_forall_not_mem.2 fun f hf => by
    have hr := (hl f).2 hf
    by_cases h1 : f < 1000
    · exact hn (0, f) ⟨h1, hr⟩
    · obtain ⟨r, rfl⟩ : ∃ r, f = rawFd r := ⟨f - 1000, (Nat.add_sub_cancel' (Nat.le_of_not_lt h1)).symm⟩
      have hr' := (hC.raw.1 r).symm.trans hr
      rcases Nat.eq_zero_or_pos r with rfl | hp
      · have := (hC.raw.kick_iff.1 hr').1; omega
      · exact hn (4, r) ⟨hp, hr'⟩
  have hh : s.heap.num = 0 := by
    rcases Proofs.soonest_eq hC.tm.1 with ⟨h, -⟩ | ⟨r, hr, -⟩
    · exact h
    · exact absurd (show Regd s (1, r) by rw [Regd1, Proofs.getD_idx hr]; omega) (hn _)
  have hk : s.kickReg = false := by
    cases h : s.kickReg
    · rfl
    · have := (hN.kick.1 h).2; omega
  have ho := hN.objs
  rw [show queued s = s.tasks by unfold queued; rw [hst]; exact List.append_nil _, ht, hnl, l0, hh, ec, hk] at ho
  exact h0 ho

/-- the fields `Cnt` reads, by what a step adds to each -/
theorem Cnt.step {s s' : St} (h : Cnt s)
    (ho : s'.numobjs - s.numobjs = (s'.numfds - s.numfds) + ((s'.heap.num : Int) - s.heap.num) +
      (((queued s').length : Int) - (queued s).length) + (s'.eventCount - s.eventCount) +
      ((s'.kickReg.toNat : Int) - s.kickReg.toNat))
    (hk : s'.kickReg = true ↔ (s'.useRaw = false ∧ 1 ≤ s'.eventCount)) (hf : NumFds s'.fds s'.numfds) : Cnt s' :=
  ⟨by have := h.objs; omega, hk, hf⟩

theorem Cnt.same {s s' : St} (h : Cnt s) (h4 : queued s' = queued s)
    (h7 : ∀ f, (s'.fds f).registered = (s.fds f).registered) (h1 : s'.numobjs = s.numobjs := by rfl)
    (h2 : s'.numfds = s.numfds := by rfl) (h3 : s'.heap.num = s.heap.num := by rfl)
    (h5 : s'.eventCount = s.eventCount := by rfl) (h6 : s'.kickReg = s.kickReg := by rfl)
    (h8 : s'.useRaw = s.useRaw := by rfl) : Cnt s' :=
  h.step (by rw [h1, h2, h3, h4, h5, h6]; omega) (by rw [h5, h6, h8]; exact h.kick) (h2 ▸ h.fds.congr h7)

theorem Cnt.dead {s : St} (h : Cnt s) : Cnt { s with pc := .dead } := h.same rfl fun _ => rfl

theorem queued_of {s s' : St} (ht : s'.tasks = s.tasks) (hs : allTasks s'.stack = allTasks s.stack) :
    queued s' = queued s := by
  unfold queued; rw [ht, hs]

theorem queued_map {s s' : St} {e : Frame → Frame} (ht : s'.tasks = s.tasks) (hs : s'.stack = s.stack.map e)
    (he : ∀ x, frTasks (e x) = frTasks x := by intro x; cases x <;> rfl) : queued s' = queued s := by
  unfold queued allTasks
  rw [ht, hs, flat_map_same frTasks e _ he]

theorem Cnt.init (m : Method) (n : Nat) (a b : Bool) : Cnt (St.init m n a b) :=
  ⟨by simp [St.init, queued, Store.init], by simp [St.init], [], List.nodup_nil, fun f => ⟨nofun, nofun⟩, rfl⟩

theorem Cnt.internal {s : St} {b : Block} {x : St × List Out} (h : Cnt s) (hs : Step s b x)
    (hh : HeapInv s.heap) : Cnt x.1 := by
  cases hs with
  | collect h' batch hst e =>
    -- the expired timers leave the heap and the count together
    obtain ⟨h2, b2, e2, hn, -⟩ := Proofs.collect_sorted s.heap s.time hh
    cases e.symm.trans e2
    refine h.step ?_ h.kick h.fds
    rw [show queued { s with heap := h', numobjs := _, stack := [.timers batch], pc := _ } = queued s by
      unfold queued; simp [hst]]
    dsimp only
    omega
  | startTasks hst =>
    refine h.step ?_ h.kick h.fds
    rw [show queued { s with stack := [.tasks s.tasks], tasks := [], taskEpoch := _, pc := _ } = s.tasks by simp [queued],
      show queued s = s.tasks by simp [queued, hst]]
    dsimp only
    omega
  | popTask_events r hst | popTask_cb _ r _ hst =>
    -- a task leaves the count when it is taken off the batch
    refine h.step ?_ h.kick h.fds
    have e : (queued s).length = (s.tasks ++ r).length + 1 := by simp [queued, hst]; omega
    rw [e]
    simp only [queued, allTasks_cons, frTasks, allTasks_nil, List.append_nil]
    omega
  | prepWait s1 abs km hst e => rw [e]; exact h.same rfl fun _ => rfl
  | flush_clock abs km | flush_go abs km =>
    rw [flushed_frame]
    exact h.same rfl fun f => by rw [flushed_obj]
  | popTimer_done hst | popTask_done hst | dispatch_done _ hst | dispatch_next _ _ _ hst | fd_done _ _ _ _ hst
  | fd_pass _ _ _ _ hst | fd_raw _ _ _ hst | fd_cb _ _ _ _ hst | popEvent_done _ hst | popEvent_cb _ _ _ hst
  | popTimer_cb _ _ hst => exact h.same (queued_of rfl (by simp [hst])) fun _ => rfl
  | runEvents_some => exact h.same (queued_of rfl (by simp)) fun _ => rfl
  | _ => exact h.same rfl fun _ => rfl

theorem Cnt.taskRegister {s : St} (h : Cnt s) (hus : UserSt s.stack) (k : TaskId) : Cnt (taskRegisterCore s k) := by
  rcases taskRegisterCore_user s k hus with e | ⟨r, hst, e⟩ | ⟨b, r, hst, e⟩ <;> rw [e] <;> refine h.step ?_ h.kick h.fds
  · simp [queued]; omega
  · simp [queued, hst]; omega
  · simp [queued, hst]; omega

theorem Cnt.rawRegister {s : St} (h : Cnt s) (r : RawId) (hu : (s.fds (rawFd r)).registered = false) :
    Cnt (rawRegisterCore s r) := by
  have hreg : FlagAt (rawFd r) true s.fds (rawRegisterCore s r).fds := fdRegisterCore_regAt s (rawFd r) true false false
  rw [rawRegisterCore_frame] at hreg ⊢
  exact h.step (by dsimp only [queued]; omega) h.kick (h.fds.add hu fun g => (hreg g).1)

theorem Cnt.rawUnregister {s : St} (h : Cnt s) (r : RawId) (hr : (s.fds (rawFd r)).registered = true) :
    Cnt (rawUnregisterCore s r) := by
  have hreg : FlagAt (rawFd r) false s.fds (rawUnregisterCore s r).fds := fdUnregisterCore_unregAt s (rawFd r)
  rw [rawUnregisterCore_frame] at hreg ⊢
  exact h.step (by dsimp only [queued]; rw [allTasks_erase]; omega) h.kick (h.fds.del hr fun g => (hreg g).1)

theorem Cnt.api {s : St} (h : Cnt s) (hC : Core s) (hF : FdInv s) (hpc : s.pc = .user) (a : Api)
    (hok : apiOk s a = true) : Cnt (api s a).1 := by
  have hus : UserSt s.stack := by have := hC.shape; rwa [hpc] at this
  have hnn := ProofsC02.evc_nonneg hF.evcount
  have hraw := hC.raw
  -- the descriptor calls that leave the registration alone: `notify_fd` after a handler is set
  have set : ∀ (f : FdId) (o' : FdObj), o'.registered = (s.fds f).registered →
      Cnt (notifyFd { s with fds := upd s.fds f o' } f) := fun f o' ho => by
    have hr : ∀ g, ((notifyFd { s with fds := upd s.fds f o' } f).fds g).registered = (s.fds g).registered :=
      fun g => by rw [notifyFd_obj]; exact upd_flag_same FdObj.registered s.fds f o' ho g
    rw [notifyFd_frame] at hr ⊢
    exact h.same rfl hr
  cases a with
  | fdRegister f i o e =>
    rw [Ivy.L1.api]
    split
    · exact h.dead
    · next hr =>
      have hreg := fdRegisterCore_regAt s f i o e
      rw [fdRegisterCore_frame] at hreg ⊢
      exact h.step (by dsimp only [ok, queued]; omega) h.kick (h.fds.add (by simpa using hr) fun g => (hreg g).1)
  | fdRegisterTry f i o e k =>
    cases hu : (s.fds f).registered with
    | true => rw [Ivy.L1.api, if_pos hu]; exact h.dead
    | false =>
      cases k with
      | false =>
        rw [ProofsC02.api_tryFail s f i o e hu]
        exact h.same rfl (upd_flag_same FdObj.registered s.fds f _ hu.symm)
      | true =>
        rw [ProofsC02.api_trySucc s f i o e hu]
        have hreg := trySucc_regAt s f i o e
        rw [ProofsC02.trySucc_frame] at hreg ⊢
        exact h.step (by dsimp only [queued]; omega) h.kick (h.fds.add hu fun g => (hreg g).1)
  | fdUnregister f =>
    rw [Ivy.L1.api]
    split
    · exact h.dead
    · next hr =>
      have hreg := fdUnregisterCore_unregAt s f
      rw [fdUnregisterCore_frame] at hreg ⊢
      exact h.step (by dsimp only [ok, queued]; rw [allTasks_erase]; omega) h.kick
        (h.fds.del (by simpa using hr) fun g => (hreg g).1)
  | fdSetIn f v | fdSetOut f v | fdSetErr f v =>
    rw [Ivy.L1.api]
    split
    · exact h.dead
    · exact set f _ rfl
  | timerRegister t e =>
    have hts : t < s.heap.idx.size := by
      simp only [apiOk, Bool.and_eq_true, decide_eq_true_eq] at hok; exact hok.1.1.1
    rcases Proofs.register_cases e hC.tm.1 hts with ⟨-, h', e', -, -, -, hn, -⟩ | e'
    · simp only [Ivy.L1.api, e']
      exact h.step (by dsimp only [ok, queued]; omega) h.kick h.fds
    · simp only [Ivy.L1.api, e']; exact h.dead
  | timerUnregister t =>
    have hts : t < s.heap.idx.size := of_decide_eq_true hok
    have keep : ∀ b, allTasks (s.stack.map (setTimerBatch · b)) = allTasks s.stack := fun b => flat_map_same frTasks _ _
    rcases Proofs.unregister_cases (timerBatch s) hC.tm.1 hts with e | ⟨h0, e⟩ | ⟨hon, h', e, -, -, hnum, -⟩
    · simp only [Ivy.L1.api, e]; exact h.dead
    · -- a timer of the expired batch has left the count already
      simp only [Ivy.L1.api, e, ok]
      refine h.step ?_ h.kick h.fds
      dsimp only [queued]; rw [keep, Proofs.getD_idx h0]; simp
    · simp only [Ivy.L1.api, e, ok]
      refine h.step ?_ h.kick h.fds
      obtain ⟨i, hi, hidx⟩ := hon
      dsimp only [queued]; rw [keep, Proofs.getD_idx hidx, if_pos (by simp; omega)]; omega
  | taskRegister k =>
    rcases api_taskRegister_cases s k with ⟨-, m, e⟩ | ⟨-, e⟩ <;> rw [e]
    · exact h.dead
    · exact h.taskRegister hus k
  | taskUnregister k =>
    rcases api_taskUnregister_cases s k with ⟨-, m, e⟩ | ⟨hon, e⟩ <;> rw [e]
    · exact h.dead
    · have hk : k ∈ queued s := (taskOnList_iff s k).1 hon
      have hnd : (queued s).Nodup := hC.tk.1
      obtain ⟨hsub, hmem⟩ := erase_both frTasks eraseTask (fun x k => by cases x <;> rfl) s.tasks s.stack k hnd
      -- the lists without `k` are a permutation of the erased list
      have hp : (queued { s with numobjs := s.numobjs - 1, tasks := s.tasks.erase k,
                                 stack := s.stack.map (eraseTask · k) }).Perm ((queued s).erase k) :=
        (List.perm_ext_iff_of_nodup (hnd.sublist hsub) (hnd.erase k)).2 fun x => by
          rw [hnd.mem_erase_iff]; exact hmem x
      refine h.step ?_ h.kick h.fds
      have := List.length_pos_of_mem hk
      rw [hp.length_eq, List.length_erase_of_mem hk]
      dsimp only
      omega
  | evRegister e rawOk =>
    rcases api_evRegister_cases s e rawOk with ⟨h0, eq⟩ | ⟨h0, hu, -, eq⟩ | ⟨h0, hu, -, eq⟩ | ⟨h0, -, -, eq⟩ <;> rw [eq]
    · exact h.step (by dsimp only [ok, queued]; omega)
        (h.kick.trans (and_congr_right fun _ => by dsimp only [ok]; omega)) h.fds
    · -- the first event, with epoll's kick descriptor: an object of its own
      have hk : s.kickReg = false := Bool.eq_false_iff.2 fun hk => by have := (h.kick.1 hk).2; omega
      exact h.step (by dsimp only [ok, queued]; rw [hk]; simp; omega)
        ⟨fun _ => ⟨hu, (by dsimp only [ok]; omega)⟩, fun _ => rfl⟩ h.fds
    · -- the first event, with the kick raw event and its descriptor
      have hk : s.kickReg = false := Bool.eq_false_iff.2 fun hk => by have := (h.kick.1 hk).2; omega
      have hun : (s.fds (rawFd 0)).registered = false := by
        rw [hraw.1 0, hraw.2.1, h0]; simp
      have h1 : Cnt { s with numobjs := s.numobjs + 1, eventCount := s.eventCount + 1, useRaw := true } :=
        h.step (by dsimp only [queued]; omega) ⟨fun hk' => (by rw [hk] at hk'; cases hk'), fun hk' => (by cases hk'.1)⟩ h.fds
      exact (h1.rawRegister 0 hun).same rfl fun _ => rfl
    · have hk : s.kickReg = false := Bool.eq_false_iff.2 fun hk => by have := (h.kick.1 hk).2; omega
      exact h.step (by dsimp only [queued]; omega) ⟨fun hk' => (by rw [hk] at hk'; cases hk'), fun hk' => (by cases hk'.1)⟩
        h.fds
  | evUnregister e =>
    have he : (s.evs e).registered = true := by simpa [apiOk] using hok
    have hnn' := ProofsC02.evc_nonneg (ProofsC02.evc_unreg hF.evcount e he { (s.evs e) with registered := false } rfl)
    have hq : queued (evUnregMid s e) = queued s := queued_map rfl rfl
    rcases api_evUnregister_cases s e with ⟨h0, eq⟩ | ⟨h0, hu, eq⟩ | ⟨h0, hu, eq⟩ <;> rw [eq]
    · show Cnt { evUnregMid s e with numobjs := s.numobjs - 1 }
      exact h.step (by rw [show queued ({ evUnregMid s e with numobjs := s.numobjs - 1 } : St) = queued s from hq]
                       dsimp only [evUnregMid]; omega)
        (h.kick.trans (and_congr_right fun _ => by dsimp only [evUnregMid]; omega)) h.fds
    · -- the last event takes the kick descriptor with it
      have hk : s.kickReg = true := h.kick.2 ⟨hu, by omega⟩
      show Cnt { evUnregMid s e with kickReg := false, kickArmed := false, numobjs := s.numobjs - 1 - 1 }
      exact h.step (by
          rw [show queued ({ evUnregMid s e with kickReg := false, kickArmed := false,
                                                 numobjs := s.numobjs - 1 - 1 } : St) = queued s from hq]
          dsimp only [evUnregMid]; rw [hk]; simp; omega)
        ⟨nofun, fun hk' => (by have := hk'.2; dsimp only [evUnregMid] at this; omega)⟩ h.fds
    · -- or the kick raw event
      have hk : s.kickReg = false := Bool.eq_false_iff.2 fun hk => by have := (h.kick.1 hk).1; rw [hu] at this; cases this
      have hr : (s.fds (rawFd 0)).registered = true := by
        rw [hraw.1 0, hraw.2.1, hu]; simp; omega
      have hreg : FlagAt (rawFd 0) false s.fds (rawUnregisterCore (evUnregMid s e) 0).fds :=
        fdUnregisterCore_unregAt (evUnregMid s e) (rawFd 0)
      rw [rawUnregisterCore_frame] at hreg ⊢
      refine h.step ?_ ⟨fun hk' => absurd (show s.kickReg = true from hk') (by rw [hk]; nofun),
        fun hk' => absurd (show s.useRaw = false from hk'.1) (by rw [hu]; nofun)⟩ (h.fds.del hr fun g => (hreg g).1)
      dsimp only [ok, queued, evUnregMid]
      rw [allTasks_erase, show allTasks (s.stack.map (eraseEvent · e)) = allTasks s.stack from flat_map_same frTasks _ _]
      omega
  | evPost e =>
    have h1 : Cnt { s with pending := s.pending ++ [e] } := h.same rfl fun _ => rfl
    rcases api_evPost_cases s e with ⟨-, eq⟩ | ⟨-, -, -, eq⟩ | ⟨-, -, eq⟩ <;> rw [eq]
    · exact h
    · exact h1.taskRegister hus 0
    · exact h1
  | rawRegister r okk =>
    have hu : (s.fds (rawFd r)).registered = false := by
      rw [hraw.1 r]; exact (by simpa [apiOk] using hok : _ ∧ (s.raws r).registered = false).2
    rw [Ivy.L1.api]
    split
    · exact h
    · exact h.rawRegister r hu
  | rawUnregister r =>
    exact h.rawUnregister r (by rw [hraw.1 r]; exact (by simpa [apiOk] using hok : _ ∧ (s.raws r).registered = true).2)
  | validateNow =>
    rw [Ivy.L1.api]
    split
    · exact h
    · exact h.same rfl fun _ => rfl
  | main =>
    rw [Ivy.L1.api]
    split
    · exact h.same rfl fun _ => rfl
    · exact h.dead
  | _ => exact h.same rfl fun _ => rfl

theorem Cnt.input {s : St} {i : Input} {r : St × List Out} (h : Cnt s) (hC : Core s) (hF : FdInv s)
    (henv : envOk s i = true) (hi : input s i = some r) : Cnt r.1 := by
  cases input_inv hi with
  | api a hpc => exact h.api hC hF hpc a (Bool.and_eq_true _ _ ▸ henv).1
  | free k id hpc =>
    -- freed memory keeps its flags
    show Cnt (freeObj s k id)
    rw [freeObj_frame]
    exact h.same rfl fun g => (congrArg FdObj.registered (freeObj_fds s k id g)).trans rfl
  | init k id hpc =>
    show Cnt (initObj s k id)
    unfold envOk unregisteredObj at henv
    unfold initObj
    split
    · have hu : (s.fds id).registered = false := (by simpa using henv : id < 1000 ∧ _).2
      exact h.same rfl (upd_flag_same FdObj.registered s.fds id _ hu.symm)
    all_goals exact h.same rfl fun _ => rfl
  | time t k hpc => rw [afterTime_eq]; exact h.same rfl fun _ => rfl
  | wret abs km w hpc =>
    obtain ⟨hf, ho, -, hst⟩ := afterWait_effect s abs km w
    generalize (afterWait s abs km w).1 = x at hf ho hst ⊢
    rw [hf]
    refine h.same (queued_of rfl ?_) fun g => by show (x.fds g).registered = _; rw [ho g]
    rcases hst with e | ⟨a, rt, e⟩ <;> dsimp only <;> rw [e]
    rfl
  | _ => exact h.same rfl fun _ => rfl

end Ivy.L1
