import Ivy.Props.C05
import Ivy.L1.StepFrames
import Ivy.L1.Step
import Ivy.Mon.C04  -- for `ns` only, in which the definitions `AbsOk` and `KOk` are stated
/-!
# Timers against the clock, and the state of `iv_fd_timeout_check`

`TimeInv s`: the timers with `idx = 0` are exactly the expired batch on the frame stack, and they have expired; the
clock, the expiries of live timers and the last deadline are normalised and not negative; in kernel-timer mode the
timerfd is armed with the last deadline (`KT`); the arguments of a wait being prepared or under way are the deadline
itself, or no timeout with the timerfd armed not after it (`WaitEx`); the cached clock is valid where it is used.
It is kept by every branch of every block (`TimeInv.internal`, over `Step`) and by every enabled input
(`TimeInv.input`), given the heap invariant and, for the inputs, the place of the batch on the stack (`Stk`) before the
step.

Before it, the vocabulary: `timespec`s in nanoseconds, `Stk`, what the arguments of a wait promise about the sleep
(`WaitOk`, which `TimeInv.waitOk` derives), and the steps that touch none of this (`Same`, `Plain`) with the case
analysis of API calls and inputs.
-/
namespace Ivy.L1.ProofsC04
open Ivy.L1 Ivy.Heap
open Ivy.Mon.C04 (ns)

def Nm (t : TS) : Prop := 0 ≤ t.nsec ∧ t.nsec < 1000000000
def NN (t : TS) : Prop := 0 ≤ t.sec ∧ 0 ≤ t.nsec ∧ t.nsec < 1000000000

theorem NN.nm {t : TS} (h : NN t) : Nm t := ⟨h.2.1, h.2.2⟩

theorem ns_nonneg {t : TS} (h : NN t) : 0 ≤ ns t := by
  unfold ns; unfold NN at h; omega

theorem le_iff_ns {a b : TS} (ha : Nm a) (hb : Nm b) : a.le b ↔ ns a ≤ ns b := by
  unfold Nm at *
  simp only [TS.le, TS.gt, Bool.or_eq_false_iff, Bool.and_eq_false_iff, decide_eq_false_iff_not, ns]
  omega

theorem gt_iff_ns {a b : TS} (ha : Nm a) (hb : Nm b) : a.gt b = true ↔ ns b < ns a := by
  have := le_iff_ns ha hb
  unfold TS.le at this
  cases h : a.gt b <;> simp [h] at this ⊢ <;> omega

theorem toRel_ns (now a : TS) :
    TS.toNs (toRelative now a) = if a.gt now = true then ns a - ns now else 0 := by
  unfold toRelative
  split
  · simp only [TS.toNs, ns]
    split <;> simp only [] <;> omega
  · simp [TS.toNs]

theorem toRel_nm {now a : TS} (hn : Nm now) (ha : Nm a) : Nm (toRelative now a) := by
  unfold Nm at *
  simp only [toRelative]
  split
  · split <;> simp only [] <;> omega
  · simp

theorem toMsec_bounds {now a : TS} (hn : Nm now) (ha : Nm a) :
    toMsec now a = 86400000 ∨
    ((toMsec now a - 1) * 1000000 < TS.toNs (toRelative now a) ∧
      TS.toNs (toRelative now a) ≤ toMsec now a * 1000000) := by
  have hm := toRel_nm hn ha
  unfold Nm at hm
  simp only [toMsec, TS.toNs]
  split
  · rw [Int.tdiv_eq_ediv_of_nonneg (by omega)]
    omega
  · exact Or.inl rfl

def isT : Frame → Bool
  | .timers _ => true
  | _ => false

def noT (st : List Frame) : Prop := ∀ fr ∈ st, isT fr = false

@[simp] theorem noT_nil : noT [] := by simp [noT]
@[simp] theorem noT_cons (fr : Frame) (st : List Frame) : noT (fr :: st) ↔ isT fr = false ∧ noT st := by
  simp [noT]

def SRel : List Frame → List Frame → Prop
  | [], [] => True
  | a :: as, b :: bs => (a = b ∨ (isT a = false ∧ isT b = false)) ∧ SRel as bs
  | _, _ => False

theorem SRel.refl : ∀ st, SRel st st
  | [] => trivial
  | _ :: as => ⟨Or.inl rfl, SRel.refl as⟩

theorem SRel.timers {b : List Nat} {rest st : List Frame} (h : SRel (.timers b :: rest) st) :
    ∃ rest', st = .timers b :: rest' ∧ SRel rest rest' := by
  cases st with
  | nil => exact h.elim
  | cons y ys =>
    rcases h.1 with e | ⟨p, _⟩
    · exact ⟨ys, by rw [e], h.2⟩
    · simp [isT] at p

def Nice (f : Frame → Frame) : Prop := ∀ fr, f fr = fr ∨ (isT fr = false ∧ isT (f fr) = false)

theorem SRel.map {f : Frame → Frame} (hf : Nice f) : ∀ st, SRel st (st.map f)
  | [] => trivial
  | a :: as => ⟨by rcases hf a with e | h
                   · exact Or.inl e.symm
                   · exact Or.inr h, SRel.map hf as⟩

/-- the expired timers of a frame stack: those of its first `timers` frame; `timerBatch` of the machine is this
function of `s.stack` (`timerBatch_eq`) -/
def timersOf (st : List Frame) : List Nat :=
  match st.find? (fun fr => match fr with | .timers _ => true | _ => false) with
  | some (.timers rest) => rest
  | _ => []

theorem timerBatch_eq (s : St) : timerBatch s = timersOf s.stack := rfl

theorem timersOf_skip {fr : Frame} (h : isT fr = false) (st : List Frame) : timersOf (fr :: st) = timersOf st := by
  cases fr <;> first | rfl | cases h

theorem SRel.timersOf : ∀ {a b : List Frame}, SRel a b → timersOf b = timersOf a
  | [], [], _ => rfl
  | x :: xs, y :: ys, h => by
    rcases h.1 with rfl | ⟨p, q⟩
    · cases hx : isT x
      · rw [timersOf_skip hx, timersOf_skip hx]; exact SRel.timersOf h.2
      · cases x <;> first | rfl | cases hx
    · rw [timersOf_skip p, timersOf_skip q]; exact SRel.timersOf h.2
  | [], _ :: _, h => h.elim
  | _ :: _, [], h => h.elim

theorem SRel.timerBatch {s s' : St} (h : SRel s.stack s'.stack) : timerBatch s' = timerBatch s := by
  rw [timerBatch_eq, timerBatch_eq]; exact h.timersOf

theorem map_setTimerBatch_noT (b : List Nat) : ∀ {st : List Frame}, noT st → st.map (setTimerBatch · b) = st
  | [], _ => rfl
  | a :: as, h => by
    simp only [noT_cons] at h
    simp only [List.map_cons, map_setTimerBatch_noT b h.2]
    cases a <;> simp_all [setTimerBatch, isT]

/-! ## `Same`: steps that do not touch anything the timers and the timeout check depend on -/

structure Same (s s' : St) : Prop where
  heap : s'.heap = s.heap
  time : s'.time = s.time
  ktimer : s'.ktimer = s.ktimer
  timerfd : s'.timerfd = s.timerfd
  lastAbs : s'.lastAbs = s.lastAbs
  lastAbsCount : s'.lastAbsCount = s.lastAbsCount
  method : s'.method = s.method
  pc : s'.pc = s.pc
  stack : SRel s.stack s'.stack
  timeValid : s'.timeValid = s.timeValid

theorem Same.refl (s : St) : Same s s := ⟨rfl, rfl, rfl, rfl, rfl, rfl, rfl, rfl, SRel.refl _, rfl⟩

/-- `Same s { s with … }` by `rfl` in every field, `SRel.refl` for the stack -/
macro "same_rfl" : tactic => `(tactic| exact ⟨rfl, rfl, rfl, rfl, rfl, rfl, rfl, rfl, SRel.refl _, rfl⟩)

def live (h : Store) (t : Nat) : Prop := onHeap h t ∨ h.idx[t]? = some 0

/-- program points at which a `.timers` frame may be on top of the stack -/
def pcT : Pc → Prop
  | .user => True
  | .run .popTimer => True
  | .needTime .forValidate => True
  | _ => False

def Stk (s : St) (batch : List Nat) : Prop :=
  (noT s.stack ∧ batch = []) ∨ (∃ rest, s.stack = .timers batch :: rest ∧ noT rest ∧ pcT s.pc)

def waitArgs : Pc → Option (Option TS × Bool)
  | .run (.flush abs km) => some (abs, km)
  | .run (.wait abs km) => some (abs, km)
  | .needTime (.forWait abs km) => some (abs, km)
  | .waiting abs km => some (abs, km)
  | _ => none

/-- the value `set_poll_timeout` arms the timerfd with -/
def armV (a : TS) : TS := if a.sec == 0 && a.nsec == 0 then ⟨0, 1⟩ else a

def KT (s : St) : Prop :=
  s.method = .epollTimerfd → s.lastAbsCount = 5 → s.timerfd = true ∧ s.ktimer = some (armV s.lastAbs)

def AbsOk (h : Store) : Option TS → Prop
  | none => ∀ t, ¬ onHeap h t
  | some a => Nm a ∧ ∀ t, onHeap h t → ns a ≤ ns (expOf h t)

def KOk (s : St) : Prop :=
  s.timerfd = true ∧ ∃ v, s.ktimer = some v ∧
    ((v.sec = 0 ∧ v.nsec = 1) ∨ ∀ t, onHeap s.heap t → ns v ≤ ns (expOf s.heap t))

def WaitOk (s : St) (abs : Option TS) (km : Bool) : Prop :=
  if km = true then abs = none ∧ KOk s
  else (s.method = .epollTimerfd → s.lastAbsCount ≠ 5) ∧ AbsOk s.heap abs

/-- program points at which the loop is about to use (or has just used) its clock value -/
def needsTV : Pc → Bool
  | .run .collect => true
  | .run (.wait abs _) => abs.isSome
  | .waiting abs _ => abs.isSome
  | _ => false

theorem Stk.elim {s : St} {b : List Nat} (h : Stk s b) (hpc : ¬ pcT s.pc) : noT s.stack ∧ b = [] := by
  rcases h with h | ⟨_, _, _, h3⟩
  · exact h
  · exact absurd h3 hpc

theorem WaitOk.congr {s s' : St} {abs : Option TS} {km : Bool} (h : WaitOk s abs km)
    (hheap : s'.heap = s.heap) (htfd : s'.timerfd = s.timerfd) (hkt : s'.ktimer = s.ktimer)
    (hcnt : s'.method = .epollTimerfd → s'.lastAbsCount = 5 → s.method = .epollTimerfd ∧ s.lastAbsCount = 5) :
    WaitOk s' abs km := by
  unfold WaitOk KOk at *
  rw [hheap, htfd, hkt]
  split
  · next hk => rw [if_pos hk] at h; exact h
  · next hk =>
    rw [if_neg hk] at h
    refine ⟨fun hm hc => ?_, h.2⟩
    obtain ⟨a, b⟩ := hcnt hm hc
    exact h.1 a b

theorem live_iff_nonneg {h : Store} {t : Nat} : live h t ↔ 0 ≤ h.idx.getD t (-1) := Proofs.nonneg_idx.symm

theorem not_live_of_neg {h : Store} {t : Nat} (e : h.idx[t]? = some (-1)) : ¬ live h t := by
  rw [live_iff_nonneg, Proofs.getD_idx e]; decide

theorem not_live_init (n t : Nat) : ¬ live (Store.init n) t := by
  rintro (⟨i, hi, e⟩ | e) <;> have := Proofs.init_idx e <;> omega

theorem setIdx_facts {h : Store} {t : Nat} (hi : HeapInv h) (h0 : h.idx[t]? = some 0) :
    HeapInv { h with idx := h.idx.setIfInBounds t (-1) } ∧
    (∀ u, onHeap { h with idx := h.idx.setIfInBounds t (-1) } u ↔ onHeap h u) ∧
    (∀ u, ({ h with idx := h.idx.setIfInBounds t (-1) } : Store).idx[u]? = some 0 ↔
        (h.idx[u]? = some 0 ∧ u ≠ t)) ∧
    (∀ u, expOf { h with idx := h.idx.setIfInBounds t (-1) } u = expOf h u) := by
  have hts := Proofs.lt_of_getElem? h0
  have hoth := Proofs.setIdx_others h hts (-1)
  have ht' : (Proofs.setIdx h t (-1)).idx[t]? = some (-1) := by rw [Proofs.setIdx_idx hts, if_pos rfl]
  refine ⟨Proofs.expire_inv hi h0, fun u => ?_, fun u => ?_, fun u => rfl⟩
  · by_cases e : u = t
    · subst e
      exact iff_of_false (fun ho => not_live_of_neg ht' (.inl ho)) (fun ho => Proofs.onHeap_not_zero ho h0)
    · exact (hoth u e).2.2.1
  · by_cases e : u = t
    · subst e
      exact iff_of_false (fun h => not_live_of_neg ht' (.inr h)) (fun h => h.2 rfl)
    · exact ((hoth u e).2.1).trans (and_iff_left e).symm

theorem live_setIdx {h : Store} {t : Nat} (u : Nat) :
    live { h with idx := h.idx.setIfInBounds t (-1) } u ↔ (live h u ∧ u ≠ t) := by
  rw [live_iff_nonneg, live_iff_nonneg]; exact (Proofs.nonneg_unmark h.idx t u).trans And.comm

/-- `iv_run_timers`' first loop, entered with no expired timer left over from the last round: afterwards the timers
with `idx = 0` are exactly the batch; which timers are live, and their expiries, are as before -/
theorem collect_live {h : Store} (now : TS) (hi : HeapInv h) (hnz : ∀ t : Nat, h.idx[t]? ≠ some 0) :
    ∃ h' batch, runCollect h now = (.ok h', batch) ∧ HeapInv h' ∧ batch.Nodup ∧
      (∀ t, h'.idx[t]? = some 0 ↔ t ∈ batch) ∧ (∀ t ∈ batch, (expOf h t).le now) ∧
      (∀ t, live h' t ↔ live h t) ∧ ∀ t, expOf h' t = expOf h t := by
  obtain ⟨h', batch, heq, hinv', -, hnd, hmem, hon, hz, hexp, hoth⟩ := Ivy.Props.C05.collect_sorted h now hi
  have hb : ∀ t, h'.idx[t]? = some 0 ↔ t ∈ batch := fun t => by
    refine ⟨fun h0 => ?_, hz t⟩
    by_cases ho : onHeap h t
    · cases hg : (expOf h t).gt now
      · exact (hmem t).2 ⟨ho, hg⟩
      · exact absurd h0 (Proofs.onHeap_not_zero ((hon t).2 ⟨ho, hg⟩))
    · rw [hoth t ho] at h0; exact absurd h0 (hnz t)
  refine ⟨h', batch, heq, hinv', hnd, hb, fun t ht => ((hmem t).1 ht).2, fun t => ?_, hexp⟩
  rw [live_iff_nonneg, live_iff_nonneg]; exact Proofs.nonneg_collect hi heq t

theorem absOk_prep {s : St} (hi : HeapInv s.heap) (hn : ∀ t, onHeap s.heap t → NN (expOf s.heap t)) :
    AbsOk s.heap (if !s.tasks.isEmpty then some ⟨0, 0⟩ else soonest s.heap) := by
  split
  · refine ⟨by simp [Nm], fun t ht => ?_⟩
    have := ns_nonneg (hn t ht)
    simpa [ns] using this
  · cases hs : soonest s.heap with
    | none =>
      intro t ht
      obtain ⟨m, hm, _⟩ := Ivy.Props.C05.soonest_is_min s.heap hi t ht
      rw [hs] at hm; cases hm
    | some m =>
      obtain ⟨t0, ht0, rfl⟩ := Proofs.soonest_some hi hs
      refine ⟨(hn t0 ht0).nm, fun t ht => ?_⟩
      obtain ⟨m', hm', hle⟩ := Ivy.Props.C05.soonest_is_min s.heap hi t ht
      rw [hs] at hm'; cases hm'
      exact (le_iff_ns (hn t0 ht0).nm (hn t ht).nm).1 hle

theorem kok_of_arm {s : St} {a : TS} (htfd : s.timerfd = true) (hk : s.ktimer = some (armV a))
    (h : ∀ t, onHeap s.heap t → ns a ≤ ns (expOf s.heap t)) : KOk s := by
  refine ⟨htfd, armV a, hk, ?_⟩
  unfold armV
  split
  · left; simp
  · right; exact h

theorem timeoutOf_some (s : St) (a : TS) :
    timeoutOf s (some a) = .ns (TS.toNs (toRelative s.time a)) ∨ timeoutOf s (some a) = .ms (toMsec s.time a) := by
  unfold timeoutOf
  simp only []
  repeat' split
  all_goals simp

/-- a step that ends outside the wait and leaves alone what the timers depend on, but for `pc`, the stack around
the expired batch and the validity of the cached clock -/
structure Calm (s s' : St) : Prop where
  same : Same s { s' with pc := s.pc, stack := s.stack, timeValid := s.timeValid }
  batch : timerBatch s' = timerBatch s
  wait : waitArgs s'.pc = none
  tvm : s'.timeValid = true → s.timeValid = true
  tv : needsTV s'.pc = true → s'.timeValid = true

theorem Same.calm {s s' : St} (h : Same s s') (hw : waitArgs s.pc = none) (htv : needsTV s.pc = false) :
    Calm s s' :=
  ⟨⟨h.heap, h.time, h.ktimer, h.timerfd, h.lastAbs, h.lastAbsCount, h.method, rfl, SRel.refl _, rfl⟩,
    h.stack.timerBatch, by rw [h.pc]; exact hw, fun e => h.timeValid ▸ e,
    fun e => by rw [h.pc, htv] at e; cases e⟩

theorem Calm.of {s s' : St} (hs : Same s { s' with pc := s.pc, stack := s.stack })
    (hstk : timerBatch s' = timerBatch s)
    (hw : waitArgs s'.pc = none) (htv : needsTV s'.pc = false ∨ s.timeValid = true) : Calm s s' :=
  ⟨⟨hs.heap, hs.time, hs.ktimer, hs.timerfd, hs.lastAbs, hs.lastAbsCount, hs.method, rfl, SRel.refl _, rfl⟩,
    hstk, hw, fun e => hs.timeValid ▸ e,
    fun e => htv.elim (fun h => absurd (h ▸ e) Bool.false_ne_true) (hs.timeValid.symm ▸ ·)⟩

inductive Plain (s : St) : St × List Out → Prop
  | fatal (msg : String) : Plain s ({ s with pc := .dead }, [.fatal msg])
  | fault (msg : String) : Plain s ({ s with pc := .dead }, [.fault msg])
  | silent (s' : St) : Calm s s' → Plain s (s', [])
  | ret (s' : St) (v : Int) : Calm s s' → Plain s (s', [.ret v])
  | cb (s' : St) (c : Cb) : (∀ t, c ≠ .timer t) → s'.pc = .user → Calm s s' → Plain s (s', [.cb c])
  | mainRet (s' : St) : s'.pc = .user → Calm s s' → Plain s (s', [.mainRet])

theorem Plain.time {s : St} {r : St × List Out} (h : Plain s r) : r.1.time = s.time := by
  cases h with
  | fatal | fault => rfl
  | silent _ h | ret _ _ h | cb _ _ _ _ h | mainRet _ _ h => exact h.same.time

theorem Plain.quiet {s s' : St} (hpc : s.pc = .user) (h : Same s s') : Plain s (s', []) :=
  .silent _ (h.calm (by rw [hpc]; rfl) (by rw [hpc]; rfl))

/-- the edits of the calls that are not about timers leave a `timers` frame as it is and make no other frame one -/
theorem nice_of_edits {k : ApiKind} (hk : k ≠ .timer) {φ : Frame → Frame} (h : k.Edits φ) : Nice φ := by
  cases h with
  | timer => exact absurd rfl hk
  | _ => intro fr; cases fr <;> first | exact .inl rfl | exact .inr ⟨rfl, rfl⟩

theorem same_of_kind {k : ApiKind} (hk : k ≠ .timer) {s x : St} (e : x = k.writes s x) :
    Same s { x with pc := s.pc, stack := s.stack, timeValid := s.timeValid } := by
  rw [e]
  cases k with
  | timer => exact absurd rfl hk
  | _ => same_rfl

theorem api_plain (s : St) (a : Api) (hpc : s.pc = .user) (h1 : ∀ t e, a ≠ .timerRegister t e)
    (h2 : ∀ t, a ≠ .timerUnregister t) : Plain s (api s a) := by
  have hk : a.kind ≠ .timer := by
    cases a with
    | timerRegister t e => exact absurd rfl (h1 t e)
    | timerUnregister t => exact absurd rfl (h2 t)
    | _ => intro h; cases h
  obtain ⟨hf, hst, hc⟩ := api_effect s a
  obtain ⟨φ, hφ, hst⟩ := hst
  have hs := same_of_kind hk hf
  have htv : (api s a).1.timeValid = true → s.timeValid = true := by
    rw [congrArg St.timeValid hf]
    cases a.kind <;> first | exact id | (intro h; cases h)
  generalize api s a = x at hs hst htv hc
  have calm : x.1.pc = s.pc → Calm s x.1 := fun e =>
    ⟨hs, (show SRel s.stack x.1.stack from hst ▸ SRel.map (nice_of_edits hk hφ) _).timerBatch,
      by rw [e, hpc]; rfl, htv, fun h => by rw [e, hpc] at h; cases h⟩
  cases hc with
  | dead o ho => cases o <;> first | exact .fatal _ | exact .fault _ | cases ho
  | ret s' v e => exact .ret _ _ (calm e)
  | nil s' e => exact .silent _ (calm e)
  | validate => exact .silent _ (.of (by same_rfl) rfl rfl (.inl rfl))
  | main => exact .silent _ (.of (by same_rfl) rfl rfl (.inl rfl))

theorem find_noT {p : Frame → Bool} (hp : ∀ fr, p fr = true → isT fr = true) {st : List Frame}
    (h : noT st) : st.find? p = none := by
  rw [List.find?_eq_none]
  intro fr hfr hpf
  have := h fr hfr
  rw [hp fr hpf] at this; cases this

theorem timerBatch_of_stk {s : St} {b : List Nat} (h : Stk s b) : timerBatch s = b := by
  unfold timerBatch
  rcases h with ⟨h1, h2⟩ | ⟨rest, h1, _, _⟩
  · rw [find_noT (by intro fr; cases fr <;> simp [isT]) h1, h2]
  · rw [h1]; simp

theorem stk_map_set {s : St} {b : List Nat} (h : Stk s b) : s.stack.map (setTimerBatch · b) = s.stack := by
  rcases h with ⟨h1, _⟩ | ⟨rest, h1, h2, _⟩
  · exact map_setTimerBatch_noT b h1
  · rw [h1, List.map_cons, map_setTimerBatch_noT b h2]; rfl

/-- the enabled inputs as the timers see them (`input_inv` with the cases sorted): an API call, a clock value and a
wait result in closed form; a post from another thread, which keeps what `Same` names and the task list; every other
input a `Plain` step -/
theorem input_cases {s : St} {i : Input} {r : St × List Out} (hin : input s i = some r) :
    (∃ a, i = .api a ∧ s.pc = .user ∧ r = api s a) ∨
    (∃ k t, i = .time t ∧ s.pc = .needTime k ∧ r = afterTime s t k) ∨
    (∃ abs km w, i = .wret w ∧ s.pc = .waiting abs km ∧ r = afterWait s abs km w) ∨
    (∃ abs km e, i = .xpost e ∧ s.pc = .waiting abs km ∧ Same s r.1 ∧ r.1.tasks = s.tasks ∧ r.2 = []) ∨
    ((s.pc = .user ∨ ∃ q, s.pc = .needRawRead q) ∧ (∀ a, i ≠ .api a) ∧ (∀ t, i ≠ .time t) ∧ (∀ w, i ≠ .wret w) ∧
      Plain s r) := by
  -- control moves on without a record: a handler returns, or the raw read of an internal descriptor is done
  have go : ∀ p, waitArgs p = none → needsTV p = false → Calm s { s with pc := p } := fun p hw htv =>
    .of (by same_rfl) rfl hw (.inl htv)
  cases input_inv hin with
  | api a hpc => exact .inl ⟨a, rfl, hpc, rfl⟩
  | time t k hpc => exact .inr (.inl ⟨k, t, rfl, hpc, rfl⟩)
  | wret abs km w hpc => exact .inr (.inr (.inl ⟨abs, km, w, rfl, hpc, rfl⟩))
  | xpostNop abs km e hpc => exact .inr (.inr (.inr (.inl ⟨abs, km, e, rfl, hpc, .refl _, rfl, rfl⟩)))
  | xpost abs km e ka hpc => exact .inr (.inr (.inr (.inl ⟨abs, km, e, rfl, hpc, by same_rfl, rfl, rfl⟩)))
  | handlerEnd b hpc hb =>
    refine .inr (.inr (.inr (.inr ⟨.inl hpc, fun _ => Input.noConfusion, fun _ => Input.noConfusion,
      fun _ => Input.noConfusion, .silent _ ?_⟩)))
    rcases hb with rfl | rfl | rfl | rfl <;> exact go _ rfl rfl
  | free k id hpc =>
    exact .inr (.inr (.inr (.inr ⟨.inl hpc, fun _ => Input.noConfusion, fun _ => Input.noConfusion,
      fun _ => Input.noConfusion, .quiet hpc (by rw [freeObj_frame]; same_rfl)⟩)))
  | init k id hpc =>
    exact .inr (.inr (.inr (.inr ⟨.inl hpc, fun _ => Input.noConfusion, fun _ => Input.noConfusion,
      fun _ => Input.noConfusion, .quiet hpc (by rw [initObj_frame]; same_rfl)⟩)))
  | rawGoto q okk b hpc hb =>
    refine .inr (.inr (.inr (.inr ⟨.inr ⟨q, hpc⟩, fun _ => Input.noConfusion, fun _ => Input.noConfusion,
      fun _ => Input.noConfusion, .silent _ ?_⟩)))
    rcases hb with rfl | rfl <;> exact go _ rfl rfl
  | rawFault q okk msg hpc =>
    exact .inr (.inr (.inr (.inr ⟨.inr ⟨q, hpc⟩, fun _ => Input.noConfusion, fun _ => Input.noConfusion,
      fun _ => Input.noConfusion, .fault _⟩)))
  | rawCb q okk hpc =>
    exact .inr (.inr (.inr (.inr ⟨.inr ⟨q, hpc⟩, fun _ => Input.noConfusion, fun _ => Input.noConfusion,
      fun _ => Input.noConfusion, .cb _ _ (fun _ => Cb.noConfusion) rfl (go _ rfl rfl)⟩)))

end Ivy.L1.ProofsC04

namespace Ivy.L1
open Ivy.Heap ProofsC04
open Ivy.Mon.C04 (ns)

/-- the deadline `iv_main` computes before a wait: now while a task is pending, else the soonest timer -/
def deadline (s : St) : Option TS := if !s.tasks.isEmpty then some ⟨0, 0⟩ else soonest s.heap

/-- what the arguments of a wait are: the deadline itself, or, in kernel-timer mode, no timeout while the deadline
is not before the one the timerfd is armed with -/
def WaitEx (s : St) (abs : Option TS) (km : Bool) : Prop :=
  (km = false → abs = deadline s ∧ (s.method = .epollTimerfd → s.lastAbsCount ≠ 5)) ∧
  (km = true → abs = none ∧ s.method = .epollTimerfd ∧ s.lastAbsCount = 5 ∧ tsCmp (deadline s) s.lastAbs ≥ 0)

structure TimeInv (s : St) : Prop where
  timeNN : NN s.time
  bnodup : (timerBatch s).Nodup
  bidx : ∀ t, s.heap.idx[t]? = some 0 ↔ t ∈ timerBatch s
  ble : ∀ t ∈ timerBatch s, (expOf s.heap t).le s.time
  expNN : ∀ t, live s.heap t → NN (expOf s.heap t)
  lastNN : NN s.lastAbs
  kt : KT s
  wait : ∀ abs km, waitArgs s.pc = some (abs, km) → WaitEx s abs km
  tv : needsTV s.pc = true → s.timeValid = true

theorem WaitEx.congr {s s' : St} {abs : Option TS} {km : Bool} (h : WaitEx s abs km) (htasks : s'.tasks = s.tasks)
    (hheap : s'.heap = s.heap) (hla : s'.lastAbs = s.lastAbs) (hlc : s'.lastAbsCount = s.lastAbsCount)
    (hm : s'.method = s.method) : WaitEx s' abs km := by
  unfold WaitEx deadline
  rw [htasks, hheap, hla, hlc, hm]
  exact h

theorem timerBatch_congr {s s' : St} (h : s'.stack = s.stack) : timerBatch s' = timerBatch s := by
  unfold timerBatch; rw [h]

/-- heap, clock and batch stay; the state of the timeout check may change -/
theorem TimeInv.transfer {s s' : St} (h : TimeInv s) (hheap : s'.heap = s.heap) (htime : s'.time = s.time)
    (hb : timerBatch s' = timerBatch s) (hla : NN s'.lastAbs) (hkt : KT s')
    (hw : ∀ abs km, waitArgs s'.pc = some (abs, km) → WaitEx s' abs km)
    (htv : needsTV s'.pc = true → s'.timeValid = true) : TimeInv s' := by
  refine ⟨htime ▸ h.timeNN, hb ▸ h.bnodup, ?_, ?_, hheap ▸ h.expNN, hla, hkt, hw, htv⟩
  · rw [hheap, hb]; exact h.bidx
  · rw [hheap, hb, htime]; exact h.ble

/-- the fields the invariant reads -/
theorem TimeInv.congr {s s' : St} (h : TimeInv s) (hheap : s'.heap = s.heap) (htime : s'.time = s.time)
    (hkt : s'.ktimer = s.ktimer) (htfd : s'.timerfd = s.timerfd) (hla : s'.lastAbs = s.lastAbs)
    (hlc : s'.lastAbsCount = s.lastAbsCount) (hm : s'.method = s.method) (hb : timerBatch s' = timerBatch s)
    (hw : waitArgs s'.pc = none ∨ (waitArgs s'.pc = waitArgs s.pc ∧ s'.tasks = s.tasks))
    (htv : needsTV s'.pc = true → s'.timeValid = true) : TimeInv s' := by
  refine h.transfer hheap htime hb (hla ▸ h.lastNN) ?_ (fun abs km hs => ?_) htv
  · unfold KT; rw [hm, hlc, htfd, hkt, hla]; exact h.kt
  · rcases hw with hw | ⟨hw, ht⟩
    · rw [hw] at hs; cases hs
    · exact (h.wait abs km (hw ▸ hs)).congr ht hheap hla hlc hm

theorem TimeInv.dead {s : St} (h : TimeInv s) : TimeInv { s with pc := .dead } :=
  h.congr rfl rfl rfl rfl rfl rfl rfl rfl (Or.inl rfl) nofun

theorem TimeInv.calm {s s' : St} (h : TimeInv s) (c : Calm s s') : TimeInv s' :=
  h.congr c.same.heap c.same.time c.same.ktimer c.same.timerfd c.same.lastAbs c.same.lastAbsCount c.same.method
    c.batch (Or.inl c.wait) c.tv

theorem TimeInv.plain {s : St} {r : St × List Out} (h : TimeInv s) (p : Plain s r) : TimeInv r.1 := by
  cases p with
  | fatal | fault => exact h.dead
  | silent _ c | ret _ _ c | cb _ _ _ _ c | mainRet _ _ c => exact h.calm c

theorem TimeInv.deadlineNN {s : St} (h : TimeInv s) (hh : HeapInv s.heap) {a : TS} (ha : deadline s = some a) :
    NN a := by
  unfold deadline at ha
  split at ha
  · cases ha; simp [NN]
  · obtain ⟨t, ht, rfl⟩ := Proofs.soonest_some hh ha
    exact h.expNN t (Or.inl ht)

theorem TimeInv.waitOk {s : St} {abs : Option TS} {km : Bool} (h : TimeInv s) (hh : HeapInv s.heap)
    (hw : waitArgs s.pc = some (abs, km)) : WaitOk s abs km := by
  have habs : AbsOk s.heap (deadline s) := absOk_prep hh fun t ht => h.expNN t (Or.inl ht)
  obtain ⟨w0, w1⟩ := h.wait abs km hw
  unfold WaitOk
  split
  · next hk =>
    obtain ⟨ha, hm, h5, hc⟩ := w1 hk
    obtain ⟨h1, h2⟩ := h.kt hm h5
    refine ⟨ha, kok_of_arm h1 h2 fun t ht => ?_⟩
    -- the armed value is not after the deadline, which is not after any expiry on the heap
    cases hd : deadline s with
    | none => rw [hd] at habs; exact absurd ht (habs t)
    | some a =>
      rw [hd] at habs hc
      exact Int.le_trans ((le_iff_ns h.lastNN.nm habs.1).1 (tsCmp_nonneg.1 hc)) (habs.2 t ht)
  · next hk =>
    obtain ⟨ha, hc⟩ := w0 (Bool.eq_false_iff.2 hk)
    exact ⟨hc, ha ▸ habs⟩

theorem toRelative_zero (now : TS) (h1 : 0 ≤ now.sec) (h2 : 0 ≤ now.nsec) : toRelative now ⟨0, 0⟩ = ⟨0, 0⟩ := by
  unfold toRelative Ivy.Heap.TS.gt
  have : (decide ((0 : Int) > now.sec) || decide ((0 : Int) = now.sec) && decide ((0 : Int) > now.nsec)) = false := by
    simp; omega
  simp only [this]; rfl

theorem tsCmp_zero_nn {b : TS} (h1 : 0 ≤ b.sec) (h2 : 0 ≤ b.nsec) (h : tsCmp (some ⟨0, 0⟩) b ≥ 0) : b = ⟨0, 0⟩ := by
  have := tsCmp_nonneg.1 h
  obtain ⟨bs, bn⟩ := b
  simp only [Ivy.Heap.TS.le, Ivy.Heap.TS.gt, Bool.or_eq_false_iff, Bool.and_eq_false_iff, decide_eq_false_iff_not]
    at this h1 h2
  simp only [Ivy.Heap.TS.mk.injEq]
  omega

theorem WaitEx.tasks {s : St} {abs : Option TS} {km : Bool} (w : WaitEx s abs km) (hla : NN s.lastAbs) (hkt : KT s) :
    (km = false → s.method = .epollTimerfd → s.lastAbsCount ≠ 5) ∧
    (s.tasks ≠ [] → (abs = some ⟨0, 0⟩ ∧ km = false) ∨ (abs = none ∧ s.timerfd = true ∧ s.ktimer = some ⟨0, 1⟩)) := by
  refine ⟨fun hk => (w.1 hk).2, fun ht => ?_⟩
  have hd : deadline s = some ⟨0, 0⟩ := by simp [deadline, ht]
  cases km with
  | false => exact Or.inl ⟨hd ▸ (w.1 rfl).1, rfl⟩
  | true =>
    obtain ⟨ha, hm, h5, hc⟩ := w.2 rfl
    rw [hd] at hc
    have e := tsCmp_zero_nn hla.1 hla.2.1 hc
    obtain ⟨h1, h2⟩ := hkt hm h5
    exact Or.inr ⟨ha, h1, by rw [h2, e]; rfl⟩

/-- a zero deadline gives a zero timeout, in nanoseconds or in milliseconds by the system call in use -/
theorem timeoutOf_zero (s : St) (h1 : 0 ≤ s.time.sec) (h2 : 0 ≤ s.time.nsec) :
    timeoutOf s (some ⟨0, 0⟩) = .ns 0 ∨ timeoutOf s (some ⟨0, 0⟩) = .ms 0 := by
  rcases timeoutOf_some s ⟨0, 0⟩ with e | e <;> rw [e]
  · left; rw [toRelative_zero _ h1 h2]; rfl
  · right; unfold toMsec; rw [toRelative_zero _ h1 h2]; rfl

/-- with a task pending the wait does not block: its timeout is zero, or there is none and the timerfd is armed at
1 ns -/
theorem TimeInv.wait_tasks {s : St} {abs : Option TS} {km : Bool} (h : TimeInv s)
    (hw : waitArgs s.pc = some (abs, km)) (ht : s.tasks ≠ []) :
    timeoutOf s abs = .ns 0 ∨ timeoutOf s abs = .ms 0 ∨
    (timeoutOf s abs = .inf ∧ (if s.timerfd then some s.ktimer else none) = some (some ⟨0, 1⟩)) := by
  rcases ((h.wait abs km hw).tasks h.lastNN h.kt).2 ht with ⟨rfl, -⟩ | ⟨rfl, h1, h2⟩
  · exact (timeoutOf_zero s h.timeNN.1 h.timeNN.2.1).imp_right .inl
  · exact .inr (.inr ⟨rfl, by rw [h1, h2]; rfl⟩)

theorem TimeInv.init (m : Method) (ntimers : Nat) (timerfdAvail pwait2 : Bool) :
    TimeInv (St.init m ntimers timerfdAvail pwait2) := by
  have hb : timerBatch (St.init m ntimers timerfdAvail pwait2) = [] := rfl
  refine ⟨by simp [NN, St.init], hb ▸ List.nodup_nil, fun t => ?_, fun t h => ?_,
    fun t h => absurd h (not_live_init _ t), by simp [NN, St.init],
    fun _ (h : 0 = 5) => (nomatch h), fun abs km (h : none = _) => (nomatch h), fun (h : false = true) => nomatch h⟩
  · rw [hb]
    exact ⟨fun h => absurd (Or.inr h) (not_live_init _ t), fun h => nomatch h⟩
  · rw [hb] at h; cases h

/-- a timer of the expired batch leaves it (its handler is entered, or it is unregistered) -/
theorem TimeInv.remove {s : St} {t : Nat} (h : TimeInv s) (hh : HeapInv s.heap) (ht : t ∈ timerBatch s) {n : Int}
    {st : List Frame} {p : Pc} {b' : List Nat} (hst : timerBatch { s with stack := st } = b') (hnd : b'.Nodup)
    (hb' : ∀ u, u ∈ b' ↔ (u ∈ timerBatch s ∧ u ≠ t)) (hw : waitArgs p = none) (htv : needsTV p = false) :
    TimeInv { s with heap := { s.heap with idx := s.heap.idx.setIfInBounds t (-1) }, numobjs := n, stack := st,
                     pc := p } := by
  have h0 : s.heap.idx[t]? = some 0 := (h.bidx t).2 ht
  subst hst
  refine ⟨h.timeNN, hnd, fun u => ?_, fun u hu => h.ble u ((hb' u).1 hu).1,
    fun u hu => h.expNN u ((live_setIdx u).1 hu).1, h.lastNN, h.kt, fun abs km hs => ?_, fun e => ?_⟩
  · exact ((setIdx_facts hh h0).2.2.1 u).trans ((and_congr_left' (h.bidx u)).trans (hb' u).symm)
  · rw [show waitArgs p = none from hw] at hs; cases hs
  · rw [show needsTV p = false from htv] at e; cases e

/-- `iv_fd_timeout_check` in kernel-timer mode: it answers that no timeout is needed only with the timerfd armed for
a deadline that is not after the present one -/
theorem timeoutCheck_wait {s s1 : St} {abs : Option TS} {k : Bool} (e : timeoutCheck s abs = (s1, k)) (hkt : KT s)
    (hla : NN s.lastAbs) (hd : abs = deadline s) (hn : ∀ a, abs = some a → NN a) (hm : s.method = .epollTimerfd) :
    NN s1.lastAbs ∧ KT s1 ∧ WaitEx s1 (if k then none else abs) k := by
  rcases timeoutCheck_cases e with ⟨h5, hc, e⟩ | ⟨-, -, -, -, e⟩ | ⟨ha, -, e⟩ | ⟨-, h4, h5, e⟩ | ⟨-, -, e⟩
  all_goals cases e
  · exact ⟨hla, hkt, nofun, fun _ => ⟨rfl, hm, h5, hd ▸ hc⟩⟩
  · exact ⟨hla, nofun, fun _ => ⟨hd, nofun⟩, nofun⟩
  · refine ⟨hla, fun _ _ => ⟨rfl, rfl⟩, nofun, fun _ => ⟨rfl, hm, rfl, ?_⟩⟩
    show tsCmp (deadline s) s.lastAbs ≥ 0
    rw [← hd, ha, tsCmp_eq_zero.2 rfl]
    exact Int.le_refl 0
  · have : (if s.lastAbsCount < 5 then s.lastAbsCount + 1 else s.lastAbsCount) ≠ 5 := by split <;> omega
    exact ⟨hla, fun _ h => absurd h this, fun _ => ⟨hd, fun _ => this⟩, nofun⟩
  · have : (if abs.isSome = true then 1 else 0) ≠ 5 := by split <;> omega
    refine ⟨?_, fun _ h => absurd h this, fun _ => ⟨hd, fun _ => this⟩, nofun⟩
    cases abs with
    | none => exact hla
    | some a => exact hn a rfl

theorem TimeInv.prepWait {s : St} (h : TimeInv s) (hh : HeapInv s.heap) : TimeInv (internal s .prepWait).1 := by
  have fin : ∀ (s1 : St) (a : Option TS) (k : Bool), s1.heap = s.heap → s1.time = s.time → s1.stack = s.stack →
      NN s1.lastAbs → KT s1 → WaitEx s1 a k → TimeInv { s1 with pc := .run (.flush a k) } :=
    fun s1 a k h1 h2 h3 hla hkt hw => h.transfer h1 h2 (timerBatch_congr h3) hla hkt
      (fun _ _ e => by cases e; exact hw) nofun
  rw [internal, show (if !s.tasks.isEmpty then some (⟨0, 0⟩ : TS) else soonest s.heap) = deadline s from rfl]
  split
  · next hm =>
    have hf := timeoutCheck_frame s (deadline s)
    generalize hr : timeoutCheck s (deadline s) = r at hf
    obtain ⟨s1, k⟩ := r
    obtain ⟨h5, h6, h7⟩ := timeoutCheck_wait hr h.kt h.lastNN rfl (fun a => h.deadlineNN hh) (beq_iff_eq.1 hm)
    have hf : s1 = _ := hf
    have h1 : s1.heap = s.heap := by rw [hf]
    have h2 : s1.time = s.time := by rw [hf]
    have h3 : s1.stack = s.stack := by rw [hf]
    cases k
    · exact fin s1 (deadline s) false h1 h2 h3 h5 h6 h7
    · exact fin s1 none true h1 h2 h3 h5 h6 h7
  · next hm =>
    exact fin s (deadline s) false rfl rfl rfl h.lastNN h.kt
      ⟨fun _ => ⟨rfl, fun e => absurd (beq_iff_eq.2 e) hm⟩, nofun⟩

theorem TimeInv.flush {s : St} {abs : Option TS} {km : Bool} {p : Pc} (h : TimeInv s)
    (hw : waitArgs s.pc = some (abs, km)) (hp : waitArgs p = some (abs, km))
    (htv : needsTV p = true → s.timeValid = true) : TimeInv { flushed s with pc := p } := by
  have e := flushed_frame s
  generalize flushed s = s1 at e ⊢
  rw [e]
  exact h.congr rfl rfl rfl rfl rfl rfl rfl rfl (.inr ⟨hp.trans hw.symm, rfl⟩) htv

/-- the blocks, branch by branch: `collect` moves the timers that have expired from the heap to a new batch, `popTimer`
takes the first of the batch, `prepWait` sets the arguments of the wait, `flush` and `wait` pass them on; every other
branch leaves heap, clock, batch and the state of the timeout check alone and does not lead into the wait -/
theorem TimeInv.internal {s : St} {b : Block} {x : St × List Out} (h : TimeInv s) (hs : Step s b x)
    (hx : internal s b = x) (hpc : s.pc = .run b) (hh : HeapInv s.heap) : TimeInv x.1 := by
  cases hs with
  | collect h' batch hst e =>
    have hnz : ∀ t : Nat, s.heap.idx[t]? ≠ some 0 := fun t h0 => by
      have := (h.bidx t).1 h0
      rw [timerBatch_eq, hst] at this; cases this
    obtain ⟨h2, b2, heq, -, hnd, hb, hle, hlive, hexp⟩ := collect_live s.time hh hnz
    cases e.symm.trans heq
    exact ⟨h.timeNN, hnd, hb, fun t ht => (hexp t).symm ▸ hle t ht,
      fun t ht => (hexp t).symm ▸ h.expNN t ((hlive t).1 ht), h.lastNN, h.kt, nofun, fun _ => h.tv (by rw [hpc]; rfl)⟩
  | popTimer_cb t r hst =>
    have hb : timerBatch s = t :: r := by rw [timerBatch_eq, hst]; rfl
    have hnd := h.bnodup
    rw [hb, List.nodup_cons] at hnd
    refine h.remove hh (hb ▸ List.mem_cons_self) rfl hnd.2 (fun u => ?_) rfl rfl
    rw [hb, List.mem_cons]
    exact ⟨fun hu => ⟨Or.inr hu, fun e => hnd.1 (e ▸ hu)⟩, fun hu => hu.1.resolve_left hu.2⟩
  | prepWait => exact hx ▸ h.prepWait hh
  | flush_clock abs km => exact h.flush (by rw [hpc]; rfl) rfl nofun
  | flush_go abs km _ htv => exact h.flush (by rw [hpc]; rfl) rfl htv
  | wait abs km =>
    exact h.congr rfl rfl rfl rfl rfl rfl rfl rfl (.inr ⟨by rw [hpc]; rfl, rfl⟩) fun e => h.tv (by rw [hpc]; exact e)
  | mainTop_collect _ _ htv => exact h.congr rfl rfl rfl rfl rfl rfl rfl rfl (.inl rfl) fun _ => htv
  | _ =>
    exact h.congr rfl rfl rfl rfl rfl rfl rfl (by first | (rw [timerBatch_eq s, ‹s.stack = _›]; rfl) | rfl) (.inl rfl)
      fun e => Bool.noConfusion e

theorem TimeInv.setTimer {s : St} {t : Nat} (h : TimeInv s) (hpc : s.pc = .user) (h' : Store) (n : Int)
    (htb : t ∉ timerBatch s)
    (hoth : Proofs.Others s.heap h' t)
    (ht0 : h'.idx[t]? ≠ some 0) (hnn : onHeap h' t → NN (expOf h' t)) :
    TimeInv { s with heap := h', numobjs := n } := by
  refine ⟨h.timeNN, h.bnodup, fun u => ?_, fun u hu => ?_, fun u hu => ?_, h.lastNN, h.kt, fun abs km hs => ?_,
    fun e => ?_⟩
  · show h'.idx[u]? = some 0 ↔ u ∈ timerBatch s
    by_cases hu : u = t
    · subst hu
      exact ⟨fun e => absurd e ht0, fun e => absurd e htb⟩
    · rw [(hoth u hu).2.1]; exact h.bidx u
  · show (expOf h' u).le s.time
    rw [(hoth u fun e => htb (e ▸ hu)).2.2.2]; exact h.ble u hu
  · show NN (expOf h' u)
    by_cases hut : u = t
    · subst hut; exact hnn (hu.resolve_right ht0)
    · obtain ⟨-, h0, ho, he⟩ := hoth u hut
      rw [he]
      exact h.expNN u (hu.imp ho.1 h0.1)
  · rw [show waitArgs s.pc = none by rw [hpc]; rfl] at hs; cases hs
  · rw [show needsTV s.pc = false by rw [hpc]; rfl] at e; cases e

theorem TimeInv.timerRegister {s : St} {t : Nat} {e : TS} (h : TimeInv s) (hpc : s.pc = .user)
    (henv : apiOk s (.timerRegister t e) = true) (hh : HeapInv s.heap) : TimeInv (api s (.timerRegister t e)).1 := by
  simp only [apiOk, Bool.and_eq_true, decide_eq_true_eq] at henv
  obtain ⟨⟨⟨ht, he1⟩, he2⟩, he3⟩ := henv
  rw [api]
  rcases Proofs.register_cases e hh ht with ⟨hidx, h', heq, -, hon, hexp, -, -, hoth⟩ | hreg
  · rw [heq]
    have htb : t ∉ timerBatch s := fun hb => by
      have := (h.bidx t).2 hb
      rw [hidx] at this; cases this
    exact h.setTimer hpc h' _ htb hoth (Proofs.onHeap_not_zero hon) fun _ => hexp ▸ ⟨he1, he2, he3⟩
  · rw [hreg]
    exact h.dead

theorem TimeInv.timerUnregister {s : St} {t : Nat} (h : TimeInv s) (hpc : s.pc = .user)
    (henv : apiOk s (.timerUnregister t) = true) (hh : HeapInv s.heap) (hstk : Stk s (timerBatch s)) :
    TimeInv (api s (.timerUnregister t)).1 := by
  simp only [apiOk, decide_eq_true_eq] at henv
  rw [api]
  rcases Proofs.unregister_cases (timerBatch s) hh henv with
    hun | ⟨hidx, hun⟩ | ⟨hon, h', hun, -, hidx', -, -, hoth⟩ <;> rw [hun]
  · exact h.dead
  · have htb : t ∈ timerBatch s := (h.bidx t).1 hidx
    obtain ⟨rest, hst, hnr, -⟩ : ∃ rest, s.stack = .timers (timerBatch s) :: rest ∧ noT rest ∧ pcT s.pc := by
      rcases hstk with ⟨-, h2⟩ | h'
      · rw [h2] at htb; cases htb
      · exact h'
    refine h.remove hh htb ?_ (h.bnodup.erase t) (fun u => ?_) (by rw [hpc]; rfl) (by rw [hpc]; rfl)
    · show timerBatch { s with stack := s.stack.map (setTimerBatch · ((timerBatch s).erase t)) } = _
      rw [hst, List.map_cons, map_setTimerBatch_noT _ hnr]; rfl
    · rw [h.bnodup.mem_erase_iff]; exact And.comm
  · show TimeInv { s with heap := h', numobjs := _, stack := s.stack.map (setTimerBatch · (timerBatch s)) }
    rw [stk_map_set hstk]
    exact h.setTimer hpc h' _ (fun hb => Proofs.onHeap_not_zero hon ((h.bidx t).2 hb)) hoth
      (fun h0 => not_live_of_neg hidx' (.inr h0)) fun ho => absurd (.inl ho) (not_live_of_neg hidx')

theorem TimeInv.api {s : St} {a : Api} (h : TimeInv s) (hpc : s.pc = .user) (henv : apiOk s a = true)
    (hh : HeapInv s.heap) (hstk : Stk s (timerBatch s)) : TimeInv (api s a).1 := by
  by_cases h1 : ∃ t e, a = .timerRegister t e
  · obtain ⟨t, e, rfl⟩ := h1; exact h.timerRegister hpc henv hh
  by_cases h2 : ∃ t, a = .timerUnregister t
  · obtain ⟨t, rfl⟩ := h2; exact h.timerUnregister hpc henv hh hstk
  exact h.plain (api_plain s a hpc (fun t e e' => h1 ⟨t, e, e'⟩) fun t e' => h2 ⟨t, e'⟩)

/-- the clock was read: it does not go back, so the expired batch stays expired -/
theorem TimeInv.afterTime {s : St} {t : TS} {k : TimeK} (h : TimeInv s) (hpc : s.pc = .needTime k)
    (henv : envOk s (.time t) = true) : TimeInv (afterTime s t k).1 := by
  simp only [envOk, Bool.and_eq_true, decide_eq_true_eq, Bool.not_eq_true'] at henv
  obtain ⟨⟨⟨t1, t2⟩, t3⟩, t4⟩ := henv
  have hw : ∀ abs km, waitArgs k.resume = some (abs, km) → waitArgs s.pc = some (abs, km) := by
    rw [hpc]; cases k <;> exact fun _ _ e => e
  rw [afterTime_eq]
  exact ⟨⟨t1, t2, t3⟩, h.bnodup, h.bidx, fun u hu => Proofs.le_trans (h.ble u hu) t4, h.expNN, h.lastNN, h.kt,
    fun abs km e => (h.wait abs km (hw abs km e)).congr rfl rfl rfl rfl rfl, fun _ => rfl⟩

theorem TimeInv.afterWait {s : St} {abs : Option TS} {km : Bool} (h : TimeInv s) (hpc : s.pc = .waiting abs km)
    (r : WRes) : TimeInv (afterWait s abs km r).1 := by
  have hw : waitArgs s.pc = some (abs, km) := by rw [hpc]; rfl
  have htv : needsTV (.run (.wait abs km)) = true → s.timeValid = true := fun e => h.tv (by rw [hpc]; exact e)
  -- `EINTR` or events: a kernel-timer item disarms the timerfd, and then the count of waits for the same deadline
  -- starts again
  have wake : ∀ {r : WRes}, r ≠ .enosys → TimeInv (Ivy.L1.afterWait s abs km r).1 := by
    intro r hr
    obtain ⟨fds, ka, kt, active, rt, runEv, b, w⟩ := afterWait_wake s abs km hr
    rw [w.eq]
    have hb' : waitArgs (.run b) = none ∧ needsTV (.run b) = false := by
      rcases w.next with ⟨-, rfl⟩ | ⟨-, rfl⟩ <;> exact ⟨rfl, rfl⟩
    refine h.transfer rfl rfl rfl h.lastNN ?_ (fun _ _ (hw : waitArgs (.run b) = _) => by rw [hb'.1] at hw; cases hw)
      fun (e : needsTV (.run b) = true) => by rw [hb'.2] at e; cases e
    intro (hm : s.method = _) (h5 : (if (km && rt) = true then 0 else s.lastAbsCount) = 5)
    split at h5
    · cases h5
    · next hc =>
      obtain ⟨w0, w1⟩ := h.wait abs km (by rw [hpc]; rfl)
      cases km with
      | false => exact absurd h5 ((w0 rfl).2 hm)
      | true =>
        obtain ⟨k1, k2⟩ := h.kt hm h5
        exact ⟨k1, (w.ktimer (by simpa using hc)).trans k2⟩
  cases r with
  | eintr | events l => exact wake WRes.noConfusion
  | enosys =>
    have he := afterWait_enosys_cases s abs km
    generalize Ivy.L1.afterWait s abs km .enosys = x at he ⊢
    -- `ppoll` is unavailable: the method becomes `poll`, neither is the kernel-timer mode
    have poll : s.method = .ppoll → ∀ p : Pc, waitArgs p = some (abs, km) → needsTV p = false →
        TimeInv { s with timeValid := false, method := .poll, pc := p } := fun hm p hp hn => by
      obtain ⟨w0, w1⟩ := h.wait abs km hw
      exact h.transfer rfl rfl rfl h.lastNN nofun
        (fun _ _ (e : waitArgs p = _) => by
          rw [hp] at e; cases e
          exact ⟨fun hk => ⟨(w0 hk).1, nofun⟩, fun hk => absurd ((w1 hk).2.1.symm.trans hm) nofun⟩)
        fun (e : needsTV p = true) => by rw [hn] at e; cases e
    cases he with
    | retry => exact h.congr rfl rfl rfl rfl rfl rfl rfl rfl (Or.inr ⟨hw.symm, rfl⟩) htv
    | fatal => exact h.dead
    | pollTime hm => exact poll hm _ rfl rfl
    | pollWait hm ha => exact poll hm _ rfl (by rw [ha]; rfl)

theorem TimeInv.input {s : St} {i : Input} {r : St × List Out} (h : TimeInv s) (henv : envOk s i = true)
    (hi : input s i = some r) (hh : HeapInv s.heap) (hstk : Stk s (timerBatch s)) : TimeInv r.1 := by
  rcases input_cases hi with ⟨a, rfl, hpc, rfl⟩ | ⟨k, t, rfl, hpc, rfl⟩ | ⟨abs, km, w, rfl, hpc, rfl⟩ |
    ⟨abs, km, e, rfl, hpc, hs, ht, -⟩ | ⟨-, -, -, -, hp⟩
  · simp only [envOk, Bool.and_eq_true] at henv
    exact h.api hpc henv.1 hh hstk
  · exact h.afterTime hpc henv
  · exact h.afterWait hpc w
  · exact h.congr hs.heap hs.time hs.ktimer hs.timerfd hs.lastAbs hs.lastAbsCount hs.method
      hs.stack.timerBatch (Or.inr ⟨by rw [hs.pc], ht⟩) fun e => hs.timeValid ▸ h.tv (hs.pc ▸ e)
  · exact h.plain hp

end Ivy.L1
