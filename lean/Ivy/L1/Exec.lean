import Ivy.L1.Machine
/-! Observable traces of the L1 machine. -/
namespace Ivy.L1

/-- one observable record: an environment/user record (input to the library), a library record
(output), or the harness's ground truth about descriptor readiness at a wait (monitor-only) -/
inductive Ev
  | inp (i : Input)
  | out (o : Out)
  | gt (l : List (FdId × KEv))
deriving Repr

/-- user-chosen identifiers stay out of the ranges the library uses internally (task 0 is
`events_local`, raw event 0 is `events_kick`, descriptors ≥ 1000 are the ones embedded in raw events; user
descriptor ids are < 64 and raw event ids < 16, the ranges `universeOf` enumerates);
events and raw events are registered at most once and only unregistered when registered;
timer structs exist and carry a normalised, non-negative expiry -/
def apiOk (s : St) : Api → Bool
  | .fdRegister f .. | .fdRegisterTry f .. | .fdUnregister f | .fdSetIn f _ | .fdSetOut f _ | .fdSetErr f _ => decide (f < 64)
  | .timerRegister t e => decide (t < s.heap.idx.size) && decide (0 ≤ e.sec) && decide (0 ≤ e.nsec) && decide (e.nsec < 1000000000)
  | .timerUnregister t => decide (t < s.heap.idx.size)
  | .taskRegister k | .taskUnregister k | .taskInit k => decide (1 ≤ k)
  | .rawRegister r _ => decide (1 ≤ r) && decide (r < 16) && !(s.raws r).registered
  | .rawUnregister r => decide (1 ≤ r) && decide (r < 16) && (s.raws r).registered
  | .evRegister e _ => !(s.evs e).registered
  | .evUnregister e => (s.evs e).registered  -- unregistering an unregistered event is invalid use
  | .evPost e => (s.evs e).registered        -- posting to an unregistered event is invalid use
  | _ => true

/-- the user only passes objects whose memory it has not freed -/
def apiLive (s : St) : Api → Bool
  | .fdRegister f .. | .fdRegisterTry f .. | .fdUnregister f | .fdSetIn f _ | .fdSetOut f _ | .fdSetErr f _ => (s.fds f).live
  | .timerRegister t _ | .timerUnregister t => s.tlive t
  | .taskRegister k | .taskUnregister k | .taskInit k => (s.tobjs k).live
  | .evRegister e _ | .evUnregister e | .evPost e => (s.evs e).live
  | .rawRegister r _ | .rawUnregister r => (s.raws r).live
  | _ => true

def wretFds (l : List WItem) : List FdId :=
  l.filterMap fun it => match it with | .fd f _ => some f | _ => none

/-- kernel contract K1 on a wait result: only entries of the current interest set are reported
(descriptors the library asked for, the kick entry if registered, the kernel timer if created),
each descriptor at most once -/
def wretOk (s : St) : WRes → Bool
  | .events l =>
    (l.all fun it =>
      match it with
      | .fd f _ => if s.method.isEpoll then (s.kint f).isSome else s.pfds.any (·.1 == f)
      | .kick => s.kickReg
      | .ktimer => s.timerfd) &&
    decide (wretFds l).Nodup          -- each descriptor is reported at most once per wait
  | _ => true

/-- the object is not registered with the library (so the user owns its memory) -/
def unregisteredObj (s : St) (kind id : Nat) : Bool :=
  match kind with
  | 0 => decide (id < 1000) && !(s.fds id).registered
  | 1 => s.heap.idx.getD id (-1) == -1
  | 2 => decide (1 ≤ id) && !taskOnList s id
  | 3 => !(s.evs id).registered
  | _ => decide (1 ≤ id) && !(s.raws id).registered

/-- what the environment (user program, kernel, clock) may do in state `s`: valid API use, the kernel
contract on wait results, a normalised monotone clock, posts only to registered events, and freeing /
re-initialising only objects that are not registered -/
def envOk (s : St) : Input → Bool
  | .api a => apiOk s a && apiLive s a
  | .wret r => wretOk s r
  | .time t => decide (0 ≤ t.sec) && decide (0 ≤ t.nsec) && decide (t.nsec < 1000000000) && !(s.time.gt t)
  | .xpost e => (s.evs e).registered && (s.evs e).live
  | .free kind id => unregisteredObj s kind id
  | .init kind id => unregisteredObj s kind id
  | _ => true

/-- `Exec s evs s'`: starting in `s` the machine can produce exactly the records `evs` (inputs
interleaved with the outputs they cause) and end in `s'`. Quantifying over `evs` quantifies over
every user program, every kernel answer, every clock value and every injected failure. -/
inductive Exec : St → List Ev → St → Prop
  | nil (s : St) : Exec s [] s
  | internal {s s' s'' : St} {b : Block} {outs : List Out} {evs : List Ev} :
      s.pc = .run b → internal s b = (s', outs) → Exec s' evs s'' →
      Exec s (outs.map Ev.out ++ evs) s''
  | input {s s' s'' : St} {i : Input} {outs : List Out} {evs : List Ev} :
      envOk s i = true → input s i = some (s', outs) → Exec s' evs s'' →
      Exec s (Ev.inp i :: (outs.map Ev.out ++ evs)) s''

/-- monitors are folds with an error state -/
def runMon {σ : Type} (step : σ → Ev → Except String σ) (init : σ) (evs : List Ev) : Except String σ :=
  evs.foldlM step init

def monOk {σ : Type} (step : σ → Ev → Except String σ) (init : σ) (evs : List Ev) : Bool :=
  match runMon step init evs with
  | .ok _ => true
  | .error _ => false

end Ivy.L1

namespace Ivy.L1

/-- executable trace generator: run the machine on a list of inputs (used for non-vacuity examples);
stops at the first input that is not enabled -/
def runTrace : Nat → St → List Input → List Ev × St
  | 0, s, _ => ([], s)
  | fuel + 1, s, inputs =>
    match s.pc with
    | .run b =>
      let r := internal s b
      let t := runTrace fuel r.1 inputs
      (r.2.map Ev.out ++ t.1, t.2)
    | _ =>
      match inputs with
      | [] => ([], s)
      | i :: is =>
        if envOk s i then
          match input s i with
          | some r =>
            let t := runTrace fuel r.1 is
            (Ev.inp i :: (r.2.map Ev.out ++ t.1), t.2)
          | none => ([], s)
        else ([], s)

theorem runTrace_exec (fuel : Nat) (s : St) (inputs : List Input) :
    Exec s (runTrace fuel s inputs).1 (runTrace fuel s inputs).2 := by
  induction fuel generalizing s inputs with
  | zero => exact Exec.nil s
  | succ fuel ih =>
    unfold runTrace
    split
    · next b hb =>
      exact Exec.internal hb rfl (ih _ _)
    · cases inputs with
      | nil => exact Exec.nil s
      | cons i is =>
        simp only
        split
        · next henv =>
          split
          · next r hr => exact Exec.input henv (by rw [hr]) (ih _ _)
          · exact Exec.nil s
        · exact Exec.nil s

end Ivy.L1
