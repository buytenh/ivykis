import Ivy.Mon.C03
import Ivy.L1.FdBook
import Ivy.L1.MInv
/-!
# Proof of C03 over the L1 loop machine

The relation `Corr`, given to `exec_simulation_dead`, holds the monitor's lists against the dispatch state of the machine;
a step re-establishes `R`: the monitor is dead (the machine died on `iv_fatal` or a fault), or `Corr`.  `Disp`: every user
descriptor on the active list of the `poll` frame, and the one under dispatch as long as `handled` names it, has an entry
in `reported` which holds every ready band of the descriptor (`Held`); no band of an active descriptor is in `called`,
and the bands of the current descriptor that are in `called` lie below the stage of its `fd` frame.  `BookOk`: the
monitor has a view of every registered descriptor, with the handlers that are set.

What the proof needs to know of the machine alone it takes from `MInv` of the state before the step: the frame stack at a
wait return, at `dispatchNext` and at `fdStage`; the descriptor of the `fd` frame is not on the active list, `handled`
names it at stage 0 and never names another; a descriptor that is active or handled is registered.  So the callback
finds a view in the book, and a registration, which filters the descriptor out of `reported`, finds it neither active
nor under dispatch (`undispatched`).  `Keeps` is what a step leaves alone of what the relation reads; the steps that
make no descriptor callback and touch no user descriptor (`Outcome`) keep the relation by it.
The monitor ignores descriptors ≥ 1000 (those embedded in raw events); `Disp` and `BookOk` speak of descriptors < 1000
only.
-/

namespace Ivy.L1.ProofsC03
open Ivy.L1 Ivy.Mon Ivy.Mon.C03

/-! ## what the relation reads of the machine: descriptor objects up to `coreEq`, `activeOf` and `curOf` of the stack -/

theorem find?_filter_ne {α : Type} (l : List (Nat × α)) (f g : Nat) (h : g ≠ f) :
    (l.filter (fun p => p.1 != f)).find? (fun p => p.1 == g) = l.find? (fun p => p.1 == g) :=
  (find?_filter_key (·.1) l f g).trans (if_neg (fun e => h e.symm))

def Bands.le (a b : Bands) : Prop :=
  (a.i = true → b.i = true) ∧ (a.o = true → b.o = true) ∧ (a.e = true → b.e = true)

/-- `o'` agrees with `o` in what the monitor can see of a descriptor: registered, the ready bands, the handlers
(`ProofsC02.SameView`; not `ProofsC02.coreEq`, which is the complement: everything but `ready` and `live`) -/
def coreEq (o o' : FdObj) : Prop :=
  o'.registered = o.registered ∧ o'.ready = o.ready ∧ o'.hin = o.hin ∧ o'.hout = o.hout ∧ o'.herr = o.herr

theorem coreEq.rfl' (o : FdObj) : coreEq o o := ⟨rfl, rfl, rfl, rfl, rfl⟩

theorem coreEq.trans {a b c : FdObj} (h1 : coreEq a b) (h2 : coreEq b c) : coreEq a c := by
  simp only [coreEq] at *
  grind

theorem coreEq.upd {fds : FdId → FdObj} {f : FdId} {o : FdObj} (h : coreEq (fds f) o) (g : FdId) :
    coreEq (fds g) (upd fds f o g) := by
  rw [upd_apply]
  split
  · next he => rw [he]; exact h
  · exact coreEq.rfl' _

theorem coreEq_upd_other (fds : FdId → FdObj) (f g : FdId) (o : FdObj) (h : g ≠ f) :
    coreEq (fds g) (upd fds f o g) := by
  rw [upd_ne _ _ h]; exact coreEq.rfl' _

structure CFrame (s s' : St) : Prop where
  stack : s'.stack = s.stack
  handled : s'.handled = s.handled
  core : ∀ g, coreEq (s.fds g) (s'.fds g)

theorem notifyFd_core (s : St) (f g : FdId) : coreEq (s.fds g) ((notifyFd s f).fds g) := by
  rw [notifyFd_obj]
  exact ⟨rfl, rfl, rfl, rfl, rfl⟩

theorem notifyFd_cframe (s : St) (f : FdId) : CFrame s (notifyFd s f) := by
  rw [notifyFd_frame]
  exact ⟨rfl, rfl, notifyFd_core s f⟩

def kind : Frame → Nat
  | .timers _ => 0
  | .tasks _ => 1
  | .poll _ _ => 2
  | .fd _ _ => 3
  | .events _ => 4

def activeOf : List Frame → List FdId
  | [] => []
  | .poll a _ :: _ => a
  | _ :: rest => activeOf rest

def curOf : List Frame → Option (FdId × Nat)
  | [] => none
  | .fd c st :: _ => some (c, st)
  | _ :: rest => curOf rest

/-- `φ` keeps the `fd` frames and the kind of every frame, and can only take descriptors off a `poll` frame -/
def FramePres (φ : Frame → Frame) : Prop :=
  ∀ fr : Frame, match fr with
    | .poll a rt => ∃ a', φ fr = .poll a' rt ∧ a' ⊆ a
    | .fd _ _ => φ fr = fr
    | _ => kind (φ fr) = kind fr

theorem activeOf_cons {fr : Frame} (t : List Frame) (h : kind fr ≠ 2) : activeOf (fr :: t) = activeOf t := by
  cases fr <;> first | rfl | exact absurd rfl h

theorem curOf_cons {fr : Frame} (t : List Frame) (h : kind fr ≠ 3) : curOf (fr :: t) = curOf t := by
  cases fr <;> first | rfl | exact absurd rfl h

theorem map_pres (φ : Frame → Frame) (hφ : FramePres φ) (l : List Frame) :
    (∀ g ∈ activeOf (l.map φ), g ∈ activeOf l) ∧ curOf (l.map φ) = curOf l := by
  induction l with
  | nil => exact ⟨fun _ h => h, rfl⟩
  | cons x t ih =>
    rw [List.map_cons]
    have hx := hφ x
    cases x with
    | poll a rt =>
      obtain ⟨a', e, hsub⟩ := hx
      rw [e]
      exact ⟨fun g hg => hsub hg, ih.2⟩
    | fd c st =>
      rw [show φ (.fd c st) = .fd c st from hx]
      exact ⟨ih.1, rfl⟩
    | _ =>
      rw [activeOf_cons _ (by rw [hx]; simp [kind]), curOf_cons _ (by rw [hx]; simp [kind])]
      exact ih

theorem pres_eraseTask (k : TaskId) : FramePres (eraseTask · k) := by
  intro fr
  cases fr <;> first | exact rfl | exact ⟨_, rfl, List.Subset.refl _⟩
theorem pres_appendTaskBatch (k : TaskId) : FramePres (appendTaskBatch · k) := by
  intro fr
  cases fr <;> first | exact rfl | exact ⟨_, rfl, List.Subset.refl _⟩
theorem pres_eraseEvent (e : EvId) : FramePres (eraseEvent · e) := by
  intro fr
  cases fr <;> first | exact rfl | exact ⟨_, rfl, List.Subset.refl _⟩
theorem pres_setTimerBatch (b : List Nat) : FramePres (setTimerBatch · b) := by
  intro fr
  cases fr <;> first | exact rfl | exact ⟨_, rfl, List.Subset.refl _⟩

theorem pres_eraseActive (f : FdId) : FramePres (eraseActive · f) := by
  intro fr
  cases fr <;> first | exact rfl | exact ⟨_, rfl, List.erase_subset⟩

theorem edits_pres {k : ApiKind} {φ : Frame → Frame} (h : k.Edits φ) : FramePres φ := by
  cases h with
  | none => exact fun fr => by cases fr <;> first | exact rfl | exact ⟨_, rfl, List.Subset.refl _⟩
  | lastEvent => exact fun fr => by cases fr <;> first | exact rfl | exact ⟨_, rfl, List.erase_subset⟩
  | fd f => exact pres_eraseActive f
  | raw r => exact pres_eraseActive _
  | timer b => exact pres_setTimerBatch b
  | register k => exact pres_appendTaskBatch k
  | unregister k => exact pres_eraseTask k
  | event e => exact pres_eraseEvent e
  | post => exact pres_appendTaskBatch 0

/-! ## what `MInv` says in terms of `activeOf` -/

theorem activeOf_subset : ∀ {l : List Frame} {g : FdId}, g ∈ activeOf l → g ∈ ProofsC01.allActive l
  | [], _, h => nomatch h
  | fr :: t, g, h => by
    rw [ProofsC01.allActive_cons]
    cases fr with
    | poll a rt => exact List.mem_append_left _ h
    | _ => exact List.mem_append_right _ (activeOf_subset h)

theorem undispatched {s : St} {f : FdId} (h : Core s) (hu : (s.fds f).registered = false) :
    ¬ (f ∈ activeOf s.stack ∨ s.handled = some f) := by
  rintro (hm | hh)
  · rw [h.act.2 f (activeOf_subset hm)] at hu
    cases hu
  · rw [h.hd.2 f hh] at hu
    cases hu

/-! ## the relation, and the frame `Keeps` of the steps that leave it alone -/

def Held (rep : List (FdId × KEv)) (s : St) (f : FdId) : Prop :=
  ∃ p, rep.find? (fun q => q.1 == f) = some p ∧ Bands.le (s.fds f).ready (bandsOfKEv p.2)

structure Disp (rep : List (FdId × KEv)) (called : List (FdId × Nat)) (s : St) : Prop where
  act : ∀ f ∈ activeOf s.stack, f < 1000 → Held rep s f ∧ ∀ b, (f, b) ∉ called
  cur : ∀ c st, curOf s.stack = some (c, st) → c < 1000 → s.handled = some c →
          Held rep s c ∧ ∀ b, (c, b) ∈ called → b < st

def BookOk (b : FdBook) (s : St) : Prop :=
  ∀ f, f < 1000 → (s.fds f).registered = true →
    ∃ v, b.find f = some v ∧ v.hin = (s.fds f).hin ∧ v.hout = (s.fds f).hout ∧ v.herr = (s.fds f).herr

structure Corr (μ : M) (s : St) : Prop where
  alive : μ.dead = false
  pend : μ.book.pending = none
  disp : Disp μ.reported μ.called s
  book : BookOk μ.book s

def R (μ : M) (s : St) : Prop := μ.dead = true ∨ Corr μ s

theorem Held_ready {rep : List (FdId × KEv)} {s s' : St} {g : FdId} (hr : (s'.fds g).ready = (s.fds g).ready)
    (h : Held rep s g) : Held rep s' g := by
  obtain ⟨p, h1, h2⟩ := h
  exact ⟨p, h1, hr ▸ h2⟩

/-- what a step that works on descriptor `x` (or on none) leaves alone of what the relation reads -/
structure Keeps (x : FdId) (s s' : St) : Prop where
  act : ∀ g ∈ activeOf s'.stack, g ∈ activeOf s.stack
  cur : curOf s'.stack = curOf s.stack
  handled : s'.handled = s.handled ∨ s'.handled = none
  core : ∀ g, g ≠ x → coreEq (s.fds g) (s'.fds g)

theorem Keeps.handled_some {x g : FdId} {s s' : St} (h : Keeps x s s') (hh : s'.handled = some g) :
    s.handled = some g := by
  rcases h.handled with e | e
  · rw [← e]; exact hh
  · rw [e] at hh; cases hh

theorem Keeps.trans {x : FdId} {a b c : St} (h1 : Keeps x a b) (h2 : Keeps x b c) : Keeps x a c :=
  ⟨fun g hg => h1.act g (h2.act g hg), h2.cur.trans h1.cur,
    h2.handled.elim (fun e2 => h1.handled.imp (e2.trans ·) (e2.trans ·)) Or.inr,
    fun g hg => (h1.core g hg).trans (h2.core g hg)⟩

theorem Keeps.of_stack (x : FdId) {s s' : St} {l l' : List Frame} (hs : s.stack = l) (hs' : s'.stack = l')
    (ha : activeOf l' = activeOf l) (hc : curOf l' = curOf l) (hh : s'.handled = s.handled) (hf : s'.fds = s.fds) :
    Keeps x s s' := by
  subst hs hs'
  exact ⟨fun g hg => ha ▸ hg, hc, Or.inl hh, fun g _ => by rw [hf]; exact coreEq.rfl' _⟩

theorem Keeps.of_core (x : FdId) {s s' : St} (hs : s'.stack = s.stack) (hh : s'.handled = s.handled)
    (hf : ∀ g, g ≠ x → coreEq (s.fds g) (s'.fds g)) : Keeps x s s' :=
  ⟨fun g hg => hs ▸ hg, by rw [hs], Or.inl hh, hf⟩

theorem Keeps.of_same (x : FdId) {s s' : St} (hs : s'.stack = s.stack) (hh : s'.handled = s.handled)
    (hf : s'.fds = s.fds) : Keeps x s s' :=
  .of_core x hs hh (fun g _ => by rw [hf]; exact coreEq.rfl' _)

theorem Disp_sub {rep rep' : List (FdId × KEv)} {called : List (FdId × Nat)} {x : FdId} {s s' : St}
    (h : Disp rep called s) (hk : Keeps x s s')
    (hG : ∀ g, g < 1000 → (g ∈ activeOf s.stack ∨ s.handled = some g) → Held rep s g → Held rep' s' g) :
    Disp rep' called s' := by
  refine ⟨fun f hf hlt => ?_, fun c st hc hlt hh => ?_⟩
  · have := h.act f (hk.act f hf) hlt
    exact ⟨hG f hlt (Or.inl (hk.act f hf)) this.1, this.2⟩
  · have := h.cur c st (hk.cur ▸ hc) hlt (hk.handled_some hh)
    exact ⟨hG c hlt (Or.inr (hk.handled_some hh)) this.1, this.2⟩

/-- what the relation says about descriptors other than `f` carries over; `hheld`, `hbook` are about `f` -/
theorem Corr.step {μ μ' : M} {s s' : St} {f : FdId} (h : Corr μ s) (hk : Keeps f s s')
    (hd : μ'.dead = false) (hp : μ'.book.pending = none) (hcalled : μ'.called = μ.called)
    (hrep : ∀ g, g ≠ f → μ'.reported.find? (fun q => q.1 == g) = μ.reported.find? (fun q => q.1 == g))
    (hregd : ∀ g, g ≠ f → μ'.book.find g = μ.book.find g)
    (hheld : f < 1000 → (f ∈ activeOf s.stack ∨ s.handled = some f) → Held μ.reported s f → Held μ'.reported s' f)
    (hbook : f < 1000 → (s'.fds f).registered = true → ∃ v, μ'.book.find f = some v ∧
      v.hin = (s'.fds f).hin ∧ v.hout = (s'.fds f).hout ∧ v.herr = (s'.fds f).herr) : Corr μ' s' := by
  refine ⟨hd, hp, ?_, fun g hg hreg => ?_⟩
  · rw [hcalled]
    refine Disp_sub h.disp hk (fun g hlt hor hg => ?_)
    by_cases hgf : g = f
    · subst hgf; exact hheld hlt hor hg
    · obtain ⟨p, h1, h2⟩ := Held_ready (hk.core g hgf).2.1 hg
      exact ⟨p, (hrep g hgf).trans h1, h2⟩
  · by_cases hgf : g = f
    · subst hgf; exact hbook hg hreg
    · have hc := hk.core g hgf
      obtain ⟨w, h1, h2, h3, h4⟩ := h.book g hg (hc.1 ▸ hreg)
      exact ⟨w, (hregd g hgf).trans h1, by rw [hc.2.2.1]; exact h2, by rw [hc.2.2.2.1]; exact h3,
        by rw [hc.2.2.2.2]; exact h4⟩

/-- a step on a descriptor the monitor ignores, or on none -/
theorem Corr.keeps {μ : M} {x : FdId} {s s' : St} (h : Corr μ s) (hx : 1000 ≤ x) (hk : Keeps x s s') : Corr μ s' :=
  h.step hk h.alive h.pend rfl (fun _ _ => rfl) (fun _ _ => rfl) (fun hlt => absurd hlt (Nat.not_lt.mpr hx))
    (fun hlt => absurd hlt (Nat.not_lt.mpr hx))

structure MSame (μ μ' : M) : Prop where
  dead : μ'.dead = false
  pend : μ'.book.pending = none
  regd : μ'.book.regd = μ.book.regd
  rep : μ'.reported = μ.reported
  called : μ'.called = μ.called

theorem Corr.msame {μ μ' : M} {s : St} (h : Corr μ s) (hm : MSame μ μ') : Corr μ' s :=
  ⟨hm.dead, hm.pend, by rw [hm.rep, hm.called]; exact h.disp,
    fun f hf hr => by rw [FdBook.find_congr hm.regd]; exact h.book f hf hr⟩

theorem Disp_nil (rep : List (FdId × KEv)) (called : List (FdId × Nat)) (s' : St) (hst : s'.stack = []) :
    Disp rep called s' :=
  ⟨by simp [hst, activeOf], by simp [hst, curOf]⟩

theorem Disp_fresh (rep : List (FdId × KEv)) (s' : St) (a : List FdId) (rt : Bool)
    (hst : s'.stack = [.poll a rt]) (hg : ∀ f ∈ a, f < 1000 → Held rep s' f) : Disp rep [] s' := by
  refine ⟨fun f hf hlt => ?_, by simp [hst, curOf]⟩
  exact ⟨hg f (by simpa [hst, activeOf] using hf) hlt, by simp⟩

/-! ## the monitor's steps -/

/-- the outputs on which the monitor does not move (a return value completes no registration here) -/
def quietOut : Out → Bool
  | .cb (.fd _ _) | .fatal _ | .fault _ => false
  | _ => true

def plainInput : Input → Bool
  | .api _ | .wret _ => false
  | _ => true

def repOf (l : List WItem) : List (FdId × KEv) :=
  l.filterMap fun it => match it with | .fd f ev => some (f, ev) | _ => none

theorem step_dead (μ : M) (hd : μ.dead = true) (e : Ev) : C03.step μ e = .ok μ := by simp [C03.step, hd]

theorem fold_cons_ok {μ μ1 : M} {e : Ev} {evs : List Ev} (h1 : C03.step μ e = .ok μ1) :
    List.foldlM C03.step μ (e :: evs) = List.foldlM C03.step μ1 evs := by
  rw [List.foldlM_cons, h1]; rfl

theorem mon_inp_api (μ : M) (hd : μ.dead = false) (a : Api) :
    C03.step μ (.inp (.api a)) = .ok { μ with book := μ.book.step (.inp (.api a)) } := by
  simp [C03.step, hd]

theorem mon_ret_nopend (μ : M) (hd : μ.dead = false) (hp : μ.book.pending = none) (v : Int) :
    C03.step μ (.out (.ret v)) = .ok { μ with book := { μ.book with pending := none } } := by
  simp [C03.step, hd, hp, FdBook.step]

theorem mon_quiet (μ : M) (hd : μ.dead = false) (hp : μ.book.pending = none) (o : Out) (ho : quietOut o = true) :
    ∃ μ', C03.step μ (.out o) = .ok μ' ∧ MSame μ μ' := by
  cases o with
  | ret v => exact ⟨_, mon_ret_nopend μ hd hp v, hd, rfl, rfl, rfl, rfl⟩
  | fatal m => simp [quietOut] at ho
  | fault m => simp [quietOut] at ho
  | cb c =>
    refine ⟨μ, ?_, hd, hp, rfl, rfl, rfl⟩
    cases c <;> simp [quietOut] at ho <;> (cases μ; simp_all [C03.step, FdBook.step])
  | wait =>
    refine ⟨μ, ?_, hd, hp, rfl, rfl, rfl⟩
    cases μ; simp_all [C03.step, FdBook.step]
  | mainRet =>
    refine ⟨μ, ?_, hd, hp, rfl, rfl, rfl⟩
    cases μ; simp_all [C03.step, FdBook.step]

theorem mon_cb_ok (μ : M) (hd : μ.dead = false) (f : FdId) (band : Nat) (v : FdView) (p : FdId × KEv)
    (hlt : f < 1000) (hfind : μ.book.find f = some v) (hh : μ.book.handler f band = true)
    (hrep : μ.reported.find? (fun q => q.1 == f) = some p) (hheld : bandHeld p.2 band = true)
    (hnc : (f, band) ∉ μ.called) :
    C03.step μ (.out (.cb (.fd f band))) = .ok { μ with called := μ.called ++ [(f, band)] } := by
  have h1 : ¬ f ≥ 1000 := Nat.not_le.mpr hlt
  have h4 : μ.called.contains (f, band) = false := by simpa using hnc
  obtain ⟨p1, p2⟩ := p
  simp only [C03.step, hd, h1, hfind, hh, hrep, hheld, h4, FdBook.step]
  simp

theorem mon_cb_internal (μ : M) (hd : μ.dead = false) (f : FdId) (band : Nat) (hge : f ≥ 1000) :
    C03.step μ (.out (.cb (.fd f band))) = .ok μ := by
  unfold C03.step
  rw [if_neg (by simp [hd])]
  simp only [FdBook.step]
  rw [if_pos hge]

theorem mon_wret (μ : M) (hd : μ.dead = false) (r : WRes) :
    C03.step μ (.inp (.wret r)) = .ok { μ with reported := (match r with | .events l => repOf l | _ => []), called := [] } := by
  unfold C03.step
  rw [if_neg (by simp [hd])]
  simp only [FdBook.step]
  cases r <;> rfl

theorem mon_inp_plain (μ : M) (hd : μ.dead = false) (i : Input) (hi : plainInput i = true) :
    C03.step μ (.inp i) = .ok μ := by
  unfold C03.step
  rw [if_neg (by simp [hd])]
  cases i <;> simp [plainInput] at hi <;> rfl

theorem no_out (μ : M) (s' : St) (h : Corr μ s') :
    ∃ μ', List.foldlM C03.step μ (([] : List Out).map Ev.out) = .ok μ' ∧ R μ' s' :=
  ⟨μ, rfl, Or.inr h⟩

theorem dead_out (μ : M) (hd : μ.dead = false) (s' : St) (o : Out) (ho : (∃ m, o = .fatal m) ∨ (∃ m, o = .fault m)) :
    ∃ μ', List.foldlM C03.step μ ([o].map Ev.out) = .ok μ' ∧ R μ' s' := by
  rcases ho with ⟨m, rfl⟩ | ⟨m, rfl⟩
  · exact ⟨{ μ with dead := true }, fold_cons_ok (by simp [C03.step, hd]), Or.inl rfl⟩
  · exact ⟨{ μ with dead := true }, fold_cons_ok (by simp [C03.step, hd]), Or.inl rfl⟩

theorem api_dead (μ : M) (hd : μ.dead = false) (a : Api) (s' : St) (o : Out)
    (ho : (∃ m, o = .fatal m) ∨ (∃ m, o = .fault m)) :
    ∃ μ', List.foldlM C03.step μ (Ev.inp (.api a) :: [o].map Ev.out) = .ok μ' ∧ R μ' s' := by
  rw [fold_cons_ok (mon_inp_api μ hd a)]
  exact dead_out { μ with book := μ.book.step (.inp (.api a)) } hd s' o ho

/-- the library gave up, or made at most one output the monitor ignores and touched at most descriptor `x` -/
inductive Outcome (s : St) : St × List Out → Prop
  | dead (s' : St) (o : Out) : (∃ m, o = .fatal m) ∨ (∃ m, o = .fault m) → Outcome s (s', [o])
  | nil (s' : St) (x : FdId) : 1000 ≤ x → Keeps x s s' → Outcome s (s', [])
  | one (s' : St) (o : Out) (x : FdId) : quietOut o = true → 1000 ≤ x → Keeps x s s' → Outcome s (s', [o])

theorem Outcome.nil_same {s s' : St} (hs : s'.stack = s.stack) (hh : s'.handled = s.handled) (hf : s'.fds = s.fds) :
    Outcome s (s', []) :=
  .nil _ 1000 (Nat.le_refl _) (.of_same _ hs hh hf)

theorem Outcome.one_same {s s' : St} {o : Out} (ho : quietOut o = true) (hs : s'.stack = s.stack)
    (hh : s'.handled = s.handled) (hf : s'.fds = s.fds) : Outcome s (s', [o]) :=
  .one _ _ 1000 ho (Nat.le_refl _) (.of_same _ hs hh hf)

theorem outcome_step (μ : M) (s : St) (r : St × List Out) (hinv : Corr μ s) (h : Outcome s r) :
    ∃ μ', List.foldlM C03.step μ (r.2.map Ev.out) = .ok μ' ∧ R μ' r.1 := by
  cases h with
  | dead s' o ho => exact dead_out μ hinv.alive s' o ho
  | nil s' x hx hk => exact ⟨μ, rfl, Or.inr (hinv.keeps hx hk)⟩
  | one s' o x ho hx hk =>
    obtain ⟨μ', h1, hm⟩ := mon_quiet μ hinv.alive hinv.pend o ho
    exact ⟨μ', fold_cons_ok h1, Or.inr ((hinv.keeps hx hk).msame hm)⟩

/-! ## the blocks of the loop -/

/-- `fdStage` moved on to the next band; `called` grew at most by the callback just made -/
theorem bump_inv {μ μ' : M} {s : St} {cur : FdId} {stage : Nat} {a : List FdId} {rt : Bool} (pc : Pc) (hI : MInv s)
    (hinv : Corr μ s) (hst : s.stack = [.fd cur stage, .poll a rt]) (hd : μ'.dead = false) (hb : μ'.book = μ.book)
    (hrep : μ'.reported = μ.reported)
    (hcalled : μ'.called = μ.called ∨ μ'.called = μ.called ++ [(cur, stage)]) :
    Corr μ' { s with stack := [.fd cur (stage + 1), .poll a rt], pc := pc } := by
  have hna : cur ∉ a := by simpa [hst] using hI.core.cur (cur, stage) (by simp [hst])
  have hmem : ∀ g b, (g, b) ∈ μ'.called → (g, b) ∈ μ.called ∨ (g, b) = (cur, stage) := by
    intro g b hb
    rcases hcalled with e | e
    · exact Or.inl (e ▸ hb)
    · rwa [e, List.mem_append, List.mem_singleton] at hb
  have hheld : ∀ g, Held μ.reported s g → Held μ'.reported _ g := fun g h => hrep ▸ Held_ready rfl h
  refine ⟨hd, hb ▸ hinv.pend, ⟨fun g hg hlt => ?_, fun c st hc hlt hh' => ?_⟩, hb ▸ hinv.book⟩
  · have := hinv.disp.act g (by rw [hst]; exact hg) hlt
    refine ⟨hheld g this.1, fun b hb => ?_⟩
    rcases hmem g b hb with h | e
    · exact this.2 b h
    · cases e
      exact hna hg
  · cases hc
    have := hinv.disp.cur cur stage (by rw [hst]; rfl) hlt hh'
    refine ⟨hheld cur this.1, fun b hb => ?_⟩
    rcases hmem cur b hb with h | e
    · exact Nat.lt_succ_of_lt (this.2 b h)
    · cases e
      exact Nat.lt_succ_self _

theorem bandHeld_of_le (ev : KEv) (r : Bands) (h : Bands.le r (bandsOfKEv ev)) (stage : Nat)
    (hr : r.get stage = true) : bandHeld ev stage = true := by
  obtain ⟨h1, h2, h3⟩ := h
  match stage with
  | 0 => exact h3 hr
  | 1 => exact h1 hr
  | (n + 2) => exact h2 hr

/-- `dispatchNext` takes `f` off the active list: none of its bands is in `called` -/
theorem open_inv {μ : M} {s s' : St} {f : FdId} {r : List FdId} {rt : Bool} (hinv : Corr μ s)
    (hst : s.stack = [.poll (f :: r) rt]) (hst' : s'.stack = [.fd f 0, .poll r rt]) (hf : s'.fds = s.fds) :
    Corr μ s' := by
  have hact : ∀ g ∈ f :: r, g < 1000 → Held μ.reported s' g ∧ ∀ b, (g, b) ∉ μ.called := fun g hg hlt => by
    have := hinv.disp.act g (by rw [hst]; exact hg) hlt
    exact ⟨Held_ready (by rw [hf]) this.1, this.2⟩
  refine ⟨hinv.alive, hinv.pend, ⟨fun g hg hlt => ?_, fun c st hc hlt _ => ?_⟩, fun g hg hr => ?_⟩
  · rw [hst'] at hg
    exact hact g (List.mem_cons_of_mem _ hg) hlt
  · rw [hst'] at hc
    cases hc
    have := hact f List.mem_cons_self hlt
    exact ⟨this.1, fun b hb => absurd hb (this.2 b)⟩
  · rw [hf] at hr ⊢
    exact hinv.book g hg hr

theorem close_inv {μ : M} {s s' : St} {cur : FdId} {stage : Nat} {a : List FdId} {rt : Bool} (hinv : Corr μ s)
    (hst : s.stack = [.fd cur stage, .poll a rt]) (hst' : s'.stack = [.poll a rt]) (hf : s'.fds = s.fds) :
    Corr μ s' := by
  refine ⟨hinv.alive, hinv.pend, ⟨fun g hg hlt => ?_, fun c st hc => ?_⟩, fun g hg hr => ?_⟩
  · rw [hst'] at hg
    have := hinv.disp.act g (by rw [hst]; exact hg) hlt
    exact ⟨Held_ready (by rw [hf]) this.1, this.2⟩
  · rw [hst'] at hc
    cases hc
  · rw [hf] at hr ⊢
    exact hinv.book g hg hr

/-- Every block by its branches (`MInv.step`: the stack before and after is exact, no branch faults, `handled` names the
descriptor whose handler is called).  Outside the dispatch a branch leaves alone what the relation reads (`Keeps`) and
emits nothing the monitor moves on (`Outcome`); `dispatchNext` opens a descriptor, `fdStage` passes a band, calls its
handler or closes the descriptor. -/
theorem internal_step {μ : M} {s : St} {b : Block} (hI : MInv s) (hinv : Corr μ s) (hpc : s.pc = .run b) :
    ∃ μ', List.foldlM C03.step μ ((internal s b).2.map Ev.out) = .ok μ' ∧ R μ' (internal s b).1 := by
  have hd := hinv.alive
  have le := Nat.le_refl 1000
  have hs := hI.step hpc
  generalize internal s b = x at hs ⊢
  have quiet : ∀ {x}, Outcome s x → ∃ μ', List.foldlM C03.step μ (x.2.map Ev.out) = .ok μ' ∧ R μ' x.1 :=
    fun h => outcome_step μ s _ hinv h
  cases hs with
  | dispatch_done rt hst =>
    exact quiet (.nil _ 1000 le (.of_stack _ hst rfl rfl rfl rfl rfl))
  | dispatch_next f r rt hst => exact no_out μ _ (open_inv hinv hst rfl rfl)
  | fd_done c n a rt hst => exact no_out μ _ (close_inv hinv hst rfl rfl)
  | fd_pass c n a rt hst => exact no_out μ _ (bump_inv _ hI hinv hst hd rfl rfl (.inl rfl))
  | fd_raw r a rt hst => exact no_out μ _ (bump_inv _ hI hinv hst hd rfl rfl (.inl rfl))
  | fd_cb c n a rt hst _ hh hw =>
    obtain ⟨hready, hhandler⟩ := Bool.and_eq_true _ _ ▸ hw
    by_cases hlt : c < 1000
    · obtain ⟨⟨p, hrep, hle⟩, hcalled⟩ := hinv.disp.cur c n (by rw [hst]; rfl) hlt hh
      obtain ⟨v, hfind, hvi, hvo, hve⟩ := hinv.book c hlt (hI.core.hd.2 c hh)
      have hstep := mon_cb_ok μ hd c n v p hlt hfind ((FdBook.handler_of_view hfind hvi hvo hve n).trans hhandler) hrep
        (bandHeld_of_le p.2 _ hle n hready) (fun hm => Nat.lt_irrefl _ (hcalled n hm))
      exact ⟨_, fold_cons_ok hstep, .inr (bump_inv _ hI hinv hst hd rfl rfl (.inr rfl))⟩
    · exact ⟨μ, fold_cons_ok (mon_cb_internal μ hd c n (Nat.le_of_not_lt hlt)),
        .inr (bump_inv _ hI hinv hst hd rfl rfl (.inl rfl))⟩
  | mainTop_skip | mainTop_collect | mainTop_clock | runEvents_none | resume_tasks | resume_poll | resume_fd | stay =>
    exact quiet (.nil_same rfl rfl rfl)
  | exit | wait => exact quiet (.one_same rfl rfl rfl rfl)
  | collect _ _ hst | popTimer_done hst | startTasks hst | popTask_done hst | popTask_events _ hst
  | popEvent_done _ hst => exact quiet (.nil _ 1000 le (.of_stack _ hst rfl rfl rfl rfl rfl))
  | popTimer_cb _ _ hst | popTask_cb _ _ _ hst | popEvent_cb _ _ _ hst =>
    exact quiet (.one _ _ 1000 rfl le (.of_stack _ hst rfl rfl rfl rfl rfl))
  | runEvents_some => exact quiet (.nil _ 1000 le (.of_stack _ rfl rfl rfl rfl rfl rfl))
  | prepWait s1 abs km _ e => exact quiet (.nil_same (by rw [e]) (by rw [e]) (by rw [e]))
  | flush_clock | flush_go =>
    refine quiet (.nil _ 1000 le (.of_core _ (by rw [flushed_frame]) (by rw [flushed_frame]) fun g _ => ?_))
    show coreEq (s.fds g) ((flushed s).fds g)
    rw [flushed_obj]
    exact ⟨rfl, rfl, rfl, rfl, rfl⟩

/-! ## the wait returns -/

theorem repOf_map_fst (l : List WItem) : (repOf l).map (·.1) = wretFds l := by
  rw [repOf, wretFds, List.map_filterMap]
  congr 1
  funext it
  cases it <;> rfl

theorem repOf_find (L : List WItem) (f : FdId) (ev : KEv) (hm : WItem.fd f ev ∈ L) (hn : (wretFds L).Nodup) :
    (repOf L).find? (fun q => q.1 == f) = some (f, ev) := by
  have h1 : (f, ev) ∈ repOf L := by
    simp only [repOf, List.mem_filterMap]
    exact ⟨_, hm, rfl⟩
  have hn' : ((repOf L).map (·.1)).Nodup := by rw [repOf_map_fst]; exact hn
  refine find?_of_mem_unique h1 fun ev' h' => ?_
  generalize repOf L = l at h1 h' hn'
  induction l with
  | nil => cases h1
  | cons a t ih =>
    simp only [List.map_cons, List.nodup_cons, List.mem_map, List.mem_cons] at *
    grind

theorem afterWait_quiet (s : St) (abs : Option Ivy.Heap.TS) (km : Bool) (r : WRes) (hst : s.stack = [])
    (hr : ∀ l, r ≠ .events l) : Outcome s (afterWait s abs km r) := by
  cases r with
  | events l => exact absurd rfl (hr l)
  | eintr =>
    rw [afterWait_eintr_eq]
    exact .nil _ 1000 (Nat.le_refl _) (.of_stack _ hst (congrArg (Frame.poll [] _ :: ·) hst) rfl rfl rfl rfl)
  | enosys =>
    have h := afterWait_enosys_cases s abs km
    generalize afterWait s abs km .enosys = x at h ⊢
    cases h with
    | fatal m hm hp => exact .dead _ _ (.inl ⟨_, rfl⟩)
    | retry hm hp | pollTime hm ha | pollWait hm ha => exact .nil_same rfl rfl rfl

theorem wret_step (μ : M) (s : St) (abs : Option Ivy.Heap.TS) (km : Bool) (r : WRes) (hI : MInv s) (hinv : Corr μ s)
    (hpc : s.pc = .waiting abs km) (henv : wretOk s r = true) :
    ∃ μ', List.foldlM C03.step μ (Ev.inp (.wret r) :: (afterWait s abs km r).2.map Ev.out) = .ok μ' ∧
      R μ' (afterWait s abs km r).1 := by
  have hst : s.stack = [] := hI.shapeAt hpc
  rw [fold_cons_ok (mon_wret μ hinv.alive r)]
  by_cases hev : ∃ l, r = .events l
  · obtain ⟨l, rfl⟩ := hev
    simp only [wretOk, Bool.and_eq_true, decide_eq_true_eq] at henv
    obtain ⟨s1, a1, rt, re, b, hW, -, heq⟩ := afterWait_events_state s abs km l
    obtain ⟨fds, ka, kt, rfl⟩ :
        ∃ fds ka kt, s1 = { s with timeValid := false, fds := fds, kickArmed := ka, ktimer := kt } :=
      ⟨_, _, _, hW.frame⟩
    rw [heq]
    refine no_out _ _ ⟨hinv.alive, hinv.pend,
      Disp_fresh _ _ a1 rt (congrArg (Frame.poll a1 rt :: ·) hst) (fun f hf hlt => ?_), fun f hf hr => ?_⟩
    · -- the one item of `l` for `f` bounds every band that was set
      obtain ⟨-, ev, hit, -⟩ := (hW.coll.mem f).1 hf
      have huniq : ∀ ev', WItem.fd f ev' ∈ l → ev' = ev := fun ev' hm' => by
        cases (repOf_find l f ev hit henv.2).symm.trans (repOf_find l f ev' hm' henv.2)
        rfl
      unfold Held
      refine ⟨(f, ev), repOf_find l f ev hit henv.2, fun h => ?_, fun h => ?_, fun h => ?_⟩
      · obtain ⟨ev', hm', hb⟩ := (hW.coll.ready f hf 1).1 h; rw [huniq ev' hm'] at hb; exact hb
      · obtain ⟨ev', hm', hb⟩ := (hW.coll.ready f hf 2).1 h; rw [huniq ev' hm'] at hb; exact hb
      · obtain ⟨ev', hm', hb⟩ := (hW.coll.ready f hf 0).1 h; rw [huniq ev' hm'] at hb; exact hb
    · change (fds f).registered = true at hr
      show ∃ v : FdView, _ ∧ v.hin = (fds f).hin ∧ v.hout = (fds f).hout ∧ v.herr = (fds f).herr
      rw [show fds f = { s.fds f with ready := (fds f).ready } from hW.obj f] at hr ⊢
      exact hinv.book f hf hr
  · exact outcome_step _ s _ ⟨hinv.alive, hinv.pend, Disp_nil _ _ _ hst, hinv.book⟩
      (afterWait_quiet s abs km r hst (fun l h => hev ⟨l, h⟩))

/-! ## user code: the API calls -/

theorem fdRegisterCore_effect (s : St) (f : FdId) (hin hout herr : Bool) :
    Keeps f s (fdRegisterCore s f hin hout herr) ∧ ((fdRegisterCore s f hin hout herr).fds f).hin = hin ∧
    ((fdRegisterCore s f hin hout herr).fds f).hout = hout ∧ ((fdRegisterCore s f hin hout herr).fds f).herr = herr := by
  let o1 : FdObj := { (s.fds f) with hin, hout, herr, registered := true, ready := {}, regBands := {}, index := none }
  let s1 : St := { s with fds := upd s.fds f o1, notify := s.notify.erase f }
  have hn := notifyFd_cframe s1 f
  have hc := hn.core f
  rw [show s1.fds f = o1 from upd_same _ _ _] at hc
  exact ⟨.of_core f hn.stack hn.handled (fun g hg => (coreEq_upd_other s.fds f g o1 hg).trans (hn.core g)),
    hc.2.2.1, hc.2.2.2.1, hc.2.2.2.2⟩

theorem trySucc_effect (s : St) (f : FdId) (hin hout herr : Bool) :
    Keeps f s (ProofsC02.trySucc s f hin hout herr) ∧ ((ProofsC02.trySucc s f hin hout herr).fds f).hin = hin ∧
    ((ProofsC02.trySucc s f hin hout herr).fds f).hout = hout ∧
    ((ProofsC02.trySucc s f hin hout herr).fds f).herr = herr := by
  refine ⟨.of_core f (by rw [ProofsC02.trySucc_frame]) (by rw [ProofsC02.trySucc_frame]) (fun g hg => ?_), ?_⟩
  · rw [ProofsC02.trySucc_obj, upd_ne _ _ hg]
    exact ⟨rfl, rfl, rfl, rfl, rfl⟩
  · rw [ProofsC02.trySucc_obj, upd_same]
    exact ⟨rfl, rfl, rfl⟩

/-- unregistering takes the descriptor off the active list and clears `handled`; its ready bands stay -/
theorem fdUnregisterCore_effect (s : St) (f : FdId) :
    Keeps f s (fdUnregisterCore s f) ∧ ((fdUnregisterCore s f).fds f).registered = false ∧
    ((fdUnregisterCore s f).fds f).ready = (s.fds f).ready := by
  have hstack : (fdUnregisterCore s f).stack = s.stack.map (eraseActive · f) := by rw [fdUnregisterCore_frame]
  have hmap := map_pres _ (pres_eraseActive f) s.stack
  have hhand : (fdUnregisterCore s f).handled = (if s.handled == some f then none else s.handled) := by
    rw [fdUnregisterCore_frame]
  have e : (upd s.fds f { (s.fds f) with registered := false } f).registered = false ∧
      (upd s.fds f { (s.fds f) with registered := false } f).ready = (s.fds f).ready := by
    rw [upd_same]
    exact ⟨rfl, rfl⟩
  refine ⟨⟨fun g hg => ?_, ?_, ?_, fun g hg => ?_⟩, ?_⟩
  · rw [hstack] at hg
    exact hmap.1 g hg
  · rw [hstack]
    exact hmap.2
  · rw [hhand]
    split
    · exact Or.inr rfl
    · exact Or.inl rfl
  · rw [fdUnregisterCore_obj_ne s f hg]
    exact ⟨rfl, rfl, rfl, rfl, rfl⟩
  · unfold fdUnregisterCore
    dsimp only
    split
    · rw [epollFlushOne_obj, notifyFd_obj]
      exact e
    · rw [notifyFd_obj]
      exact e

/-- a call that is not on a user descriptor works on the descriptor of a raw event at most, and the monitor ignores
those -/
theorem api_nonfd (s : St) (a : Api) (hnf : isFdApi a = false) : Outcome s (api s a) := by
  obtain ⟨x, hx, hax⟩ := a.rawFd?_raw
  obtain ⟨-, ⟨φ, hφ, hst⟩, hc⟩ := api_effect s a
  have ho := api_objEffect s a (kind_of_isFdApi hnf)
  have hm := map_pres φ (edits_pres hφ) s.stack
  have hkeep : Keeps x s (api s a).1 :=
    ⟨fun g hg => hm.1 g (hst ▸ hg), by rw [hst]; exact hm.2, ho.2.imp_right (·.2),
      fun g hg => by rw [ho.1 g (hax g hg)]; exact ⟨rfl, rfl, rfl, rfl, rfl⟩⟩
  generalize api s a = r at hkeep hc
  cases hc with
  | dead o hb =>
    cases o with
    | fatal m => exact .dead _ _ (.inl ⟨m, rfl⟩)
    | fault m => exact .dead _ _ (.inr ⟨m, rfl⟩)
    | _ => cases hb
  | ret s' v => exact .one _ _ x rfl hx hkeep
  | nil s' | validate | main => exact .nil _ x hx hkeep

theorem api_step_nonfd (μ : M) (s : St) (a : Api) (hinv : Corr μ s) (hnf : isFdApi a = false) :
    ∃ μ', List.foldlM C03.step μ (Ev.inp (.api a) :: (api s a).2.map Ev.out) = .ok μ' ∧ R μ' (api s a).1 := by
  rw [fold_cons_ok (mon_inp_api μ hinv.alive a), FdBook.step_api_other _ hnf]
  exact outcome_step { μ with book := { μ.book with pending := none } } s _
    (hinv.msame ⟨hinv.alive, rfl, rfl, rfl, rfl⟩) (api_nonfd s a hnf)

theorem reg_step (μ : M) (s s' : St) (a : Api) (f : FdId) (i o e : Bool) (hI : MInv s) (hinv : Corr μ s)
    (hun : (s.fds f).registered = false)
    (ha : a = .fdRegister f i o e ∨ ∃ k, a = .fdRegisterTry f i o e k)
    (hk : Keeps f s s') (hc : (s'.fds f).hin = i ∧ (s'.fds f).hout = o ∧ (s'.fds f).herr = e) :
    ∃ μ', List.foldlM C03.step μ (Ev.inp (.api a) :: [Out.ret 0].map Ev.out) = .ok μ' ∧ R μ' s' := by
  refine ⟨{ μ with book := { (μ.book.put ⟨f, i, o, e⟩) with pending := none },
                   reported := μ.reported.filter (fun p => p.1 != f) }, ?_, Or.inr ?_⟩
  · rw [fold_cons_ok (mon_inp_api μ hinv.alive _)]
    rcases ha with rfl | ⟨k, rfl⟩ <;>
      simp [List.foldlM_cons, C03.step, hinv.alive, FdBook.step, FdBook.regd_put]
  · refine hinv.step hk hinv.alive rfl rfl (fun g hg => find?_filter_ne _ _ _ hg) (fun g hg => ?_)
      (fun _ hor => absurd hor (undispatched hI.core hun))
      (fun _ _ => ⟨⟨f, i, o, e⟩, ?_, hc.1.symm, hc.2.1.symm, hc.2.2.symm⟩)
    · show (μ.book.put ⟨f, i, o, e⟩).find g = _
      rw [FdBook.find_put, if_neg (fun h : f = g => hg h.symm)]
    · show (μ.book.put ⟨f, i, o, e⟩).find f = _
      rw [FdBook.find_put, if_pos rfl]

theorem api_step_fdRegister (μ : M) (s : St) (f : FdId) (i o e : Bool) (hI : MInv s) (hinv : Corr μ s) :
    ∃ μ', List.foldlM C03.step μ (Ev.inp (.api (.fdRegister f i o e)) :: (api s (.fdRegister f i o e)).2.map Ev.out) = .ok μ' ∧
      R μ' (api s (.fdRegister f i o e)).1 := by
  rw [api]
  split
  · exact api_dead μ hinv.alive _ _ _ (Or.inl ⟨_, rfl⟩)
  · next hreg =>
    have hsum := fdRegisterCore_effect s f i o e
    exact reg_step μ s _ _ f i o e hI hinv ((Bool.not_eq_true _).mp hreg) (Or.inl rfl) hsum.1 hsum.2

theorem api_step_fdRegisterTry (μ : M) (s : St) (f : FdId) (i o e k : Bool) (hI : MInv s) (hinv : Corr μ s) :
    ∃ μ', List.foldlM C03.step μ (Ev.inp (.api (.fdRegisterTry f i o e k)) :: (api s (.fdRegisterTry f i o e k)).2.map Ev.out) = .ok μ' ∧
      R μ' (api s (.fdRegisterTry f i o e k)).1 := by
  cases hun : (s.fds f).registered with
  | true =>
    rw [api, if_pos hun]
    exact api_dead μ hinv.alive _ _ _ (Or.inl ⟨_, rfl⟩)
  | false =>
    cases k with
    | false =>
      -- the kernel refused: nothing is registered, but the descriptor counts as not reported from now on
      rw [ProofsC02.api_tryFail s f i o e hun]
      refine ⟨{ μ with book := { μ.book with pending := none },
                       reported := μ.reported.filter (fun p => p.1 != f) }, ?_, Or.inr ?_⟩
      · rw [fold_cons_ok (mon_inp_api μ hinv.alive _)]
        simp [List.foldlM_cons, C03.step, hinv.alive, FdBook.step]
      · refine hinv.step (f := f) (.of_core f rfl rfl (fun g hg => coreEq_upd_other s.fds f g _ hg)) hinv.alive rfl rfl
          (fun g hg => find?_filter_ne _ _ _ hg) (fun _ _ => rfl) (fun _ hor => absurd hor (undispatched hI.core hun))
          (fun _ hr => ?_)
        cases hr.symm.trans
          (congrArg FdObj.registered (upd_same _ _ _) : ((ProofsC02.tryFail s f i o e).fds f).registered = false)
    | true =>
      rw [ProofsC02.api_trySucc s f i o e hun]
      have hsum := trySucc_effect s f i o e
      exact reg_step μ s _ _ f i o e hI hinv hun (Or.inr ⟨true, rfl⟩) hsum.1 hsum.2

theorem api_step_fdUnregister (μ : M) (s : St) (f : FdId) (hinv : Corr μ s) :
    ∃ μ', List.foldlM C03.step μ (Ev.inp (.api (.fdUnregister f)) :: (api s (.fdUnregister f)).2.map Ev.out) = .ok μ' ∧
      R μ' (api s (.fdUnregister f)).1 := by
  rw [api]
  split
  · exact api_dead μ hinv.alive _ _ _ (Or.inl ⟨_, rfl⟩)
  · have hsum := fdUnregisterCore_effect s f
    refine ⟨{ μ with book := { (μ.book.drop f) with pending := none } }, ?_, Or.inr ?_⟩
    · rw [fold_cons_ok (mon_inp_api μ hinv.alive _)]
      simp [ok, List.foldlM_cons, C03.step, hinv.alive, FdBook.step]
    · refine hinv.step hsum.1 hinv.alive rfl rfl (fun _ _ => rfl) (fun g hg => ?_) (fun _ _ hg => Held_ready hsum.2.2 hg)
        (fun _ hr => ?_)
      · show (μ.book.drop f).find g = _
        rw [FdBook.find_drop, if_neg (fun h : f = g => hg h.symm)]
      · cases hsum.2.1.symm.trans hr

/-- `obj` is the change to the descriptor object, `view` the same change as the monitor records it -/
theorem fdSet_step (μ : M) (s : St) (a : Api) (f : FdId) (msg : String) (obj : FdObj → FdObj) (view : FdView → FdView)
    (hinv : Corr μ s) (hlt : f < 1000)
    (hapi : api s a = if !(s.fds f).registered then fatal s msg
      else ok (notifyFd { s with fds := upd s.fds f (obj (s.fds f)) } f))
    (hobj : ∀ o, (obj o).registered = o.registered ∧ (obj o).ready = o.ready)
    (hview : ∀ w o, w.hin = o.hin → w.hout = o.hout → w.herr = o.herr →
      (view w).f = w.f ∧ (view w).hin = (obj o).hin ∧ (view w).hout = (obj o).hout ∧ (view w).herr = (obj o).herr)
    (hbook : ∀ (b : FdBook) w, b.find f = some w →
      b.step (.inp (.api a)) = { (b.put (view w)) with pending := none }) :
    ∃ μ', List.foldlM C03.step μ (Ev.inp (.api a) :: (api s a).2.map Ev.out) = .ok μ' ∧ R μ' (api s a).1 := by
  have hd := hinv.alive
  rw [hapi]
  split
  · exact api_dead μ hd _ _ _ (Or.inl ⟨_, rfl⟩)
  · next hreg =>
    have hreg : (s.fds f).registered = true := by simpa using hreg
    obtain ⟨w, hw, hwi, hwo, hwe⟩ := hinv.book f hlt hreg
    obtain ⟨hvf, hvi, hvo, hve⟩ := hview w (s.fds f) hwi hwo hwe
    have hn := notifyFd_cframe { s with fds := upd s.fds f (obj (s.fds f)) } f
    have hc := hn.core f
    rw [show ({ s with fds := upd s.fds f (obj (s.fds f)) } : St).fds f = obj (s.fds f) from upd_same _ _ _] at hc
    refine ⟨{ μ with book := { (μ.book.put (view w)) with pending := none } }, ?_, Or.inr ?_⟩
    · rw [fold_cons_ok (mon_inp_api μ hd _), hbook _ w hw]
      exact fold_cons_ok (mon_ret_nopend { μ with book := { (μ.book.put (view w)) with pending := none } } hd rfl 0)
    · refine hinv.step
        (.of_core f hn.stack hn.handled (fun g hg => (coreEq_upd_other s.fds f g _ hg).trans (hn.core g)))
        hd rfl rfl (fun _ _ => rfl) (fun g hg => ?_) (fun _ _ hg => Held_ready (hc.2.1.trans (hobj _).2) hg)
        (fun _ _ => ⟨view w, ?_, hvi.trans hc.2.2.1.symm, hvo.trans hc.2.2.2.1.symm, hve.trans hc.2.2.2.2.symm⟩)
      · show (μ.book.put (view w)).find g = _
        rw [FdBook.find_put, if_neg (fun h => hg (h.symm.trans (hvf.trans (FdBook.find_some hw).2)))]
      · show (μ.book.put (view w)).find f = _
        rw [FdBook.find_put, if_pos (hvf.trans (FdBook.find_some hw).2)]

theorem api_step (μ : M) (s : St) (a : Api) (hI : MInv s) (hinv : Corr μ s) (hok : apiOk s a = true) :
    ∃ μ', List.foldlM C03.step μ (Ev.inp (.api a) :: (api s a).2.map Ev.out) = .ok μ' ∧ R μ' (api s a).1 := by
  have hlt : ∀ f : FdId, decide (f < 64) = true → f < 1000 := fun f h => Nat.lt_trans (of_decide_eq_true h) (by decide)
  cases a with
  | fdRegister f i o e => exact api_step_fdRegister μ s f i o e hI hinv
  | fdRegisterTry f i o e k => exact api_step_fdRegisterTry μ s f i o e k hI hinv
  | fdUnregister f => exact api_step_fdUnregister μ s f hinv
  | fdSetIn f v =>
    exact fdSet_step μ s _ f _ (fun o => { o with hin := v }) (fun w => { w with hin := v }) hinv (hlt f hok) rfl
      (fun _ => ⟨rfl, rfl⟩) (fun _ _ _ ho he => ⟨rfl, rfl, ho, he⟩) (fun b w h => by simp [FdBook.step, h])
  | fdSetOut f v =>
    exact fdSet_step μ s _ f _ (fun o => { o with hout := v }) (fun w => { w with hout := v }) hinv (hlt f hok) rfl
      (fun _ => ⟨rfl, rfl⟩) (fun _ _ hi _ he => ⟨rfl, hi, rfl, he⟩) (fun b w h => by simp [FdBook.step, h])
  | fdSetErr f v =>
    exact fdSet_step μ s _ f _ (fun o => { o with herr := v }) (fun w => { w with herr := v }) hinv (hlt f hok) rfl
      (fun _ => ⟨rfl, rfl⟩) (fun _ _ hi ho _ => ⟨rfl, hi, ho, rfl⟩) (fun b w h => by simp [FdBook.step, h])
  | _ => exact api_step_nonfd μ s _ hinv rfl

/-! ## the other inputs -/

/-- re-initialising descriptor memory is the one plain input that is not quiet: it resets the object -/
theorem input_plain (s : St) (i : Input) (r : St × List Out) (hp : plainInput i = true)
    (hni : ∀ id, i ≠ .init 0 id) (h : InStep s i r) : Outcome s r := by
  cases h with
  | api | wret => cases hp
  | handlerEnd b hpc hb => rcases hb with rfl | rfl | rfl | rfl <;> exact .nil_same rfl rfl rfl
  | free k id hpc =>
    rw [freeObj_frame]
    exact .nil _ 1000 (Nat.le_refl _) (.of_core _ rfl rfl fun g _ => by
      show coreEq _ ((freeObj s k id).fds g)
      rw [freeObj_fds]
      exact ⟨rfl, rfl, rfl, rfl, rfl⟩)
  | init k id hpc =>
    unfold initObj
    split
    · exact absurd rfl (hni id)
    all_goals exact .nil_same rfl rfl rfl
  | time t k hpc =>
    rw [afterTime_eq]
    exact .nil_same rfl rfl rfl
  | xpostNop abs km e hpc => exact .nil_same rfl rfl rfl
  | xpost abs km e ka hpc => exact .nil_same rfl rfl rfl
  | rawGoto r okk b hpc hb => rcases hb with rfl | rfl <;> exact .nil_same rfl rfl rfl
  | rawFault => exact .dead _ _ (.inr ⟨_, rfl⟩)
  | rawCb => exact .one_same rfl rfl rfl rfl

/-- the memory of an unregistered descriptor is initialised: it is neither active nor under dispatch -/
theorem init_inv (μ : M) (s : St) (f : FdId) (hI : MInv s) (hinv : Corr μ s) (hun : (s.fds f).registered = false) :
    Corr μ { s with fds := upd s.fds f { live := true } } :=
  hinv.step (f := f) (.of_core f rfl rfl (fun g hg => coreEq_upd_other s.fds f g _ hg)) hinv.alive hinv.pend rfl
    (fun _ _ => rfl)
    (fun _ _ => rfl) (fun _ hor => absurd hor (undispatched hI.core hun))
    (fun _ hr => by
      have hr : (upd s.fds f { live := true } f).registered = true := hr
      rw [upd_same] at hr
      cases hr)

theorem input_step (μ : M) (s : St) (i : Input) (s' : St) (outs : List Out) (hI : MInv s) (hinv : Corr μ s)
    (henv : envOk s i = true) (hi : input s i = some (s', outs)) :
    ∃ μ', List.foldlM C03.step μ (Ev.inp i :: outs.map Ev.out) = .ok μ' ∧ R μ' s' := by
  have h := input_inv hi
  show ∃ μ', List.foldlM C03.step μ (Ev.inp i :: (s', outs).2.map Ev.out) = .ok μ' ∧ R μ' (s', outs).1
  generalize (s', outs) = r at h ⊢
  cases hp : plainInput i
  · cases h with
    | api a hpc => exact api_step μ s a hI hinv (by simp [envOk] at henv; exact henv.1)
    | wret abs km w hpc => exact wret_step μ s abs km w hI hinv hpc (by simpa [envOk] using henv)
    | _ => cases hp
  · rw [fold_cons_ok (mon_inp_plain μ hinv.alive i hp)]
    by_cases h0 : ∃ id, i = .init 0 id
    · obtain ⟨id, rfl⟩ := h0
      cases h with
      | init k id hpc =>
        simp [envOk, unregisteredObj] at henv
        exact ⟨μ, rfl, Or.inr (init_inv μ s id hI hinv henv.2)⟩
    · exact outcome_step μ s r hinv (input_plain s i r hp (fun id e => h0 ⟨id, e⟩) h)

/-! ## the whole, and two runs it applies to -/

theorem Corr_init (m : Method) (ntimers : Nat) (timerfdAvail pwait2 : Bool) :
    Corr {} (St.init m ntimers timerfdAvail pwait2) :=
  ⟨rfl, rfl, Disp_nil _ _ _ rfl, fun f _ hr => by simp [St.init] at hr⟩

theorem monitor_accepts (m : Method) (ntimers : Nat) (timerfdAvail pwait2 : Bool)
    (evs : List Ev) (s' : St) (h : Exec (St.init m ntimers timerfdAvail pwait2) evs s') :
    Ivy.Mon.C03.verdict evs = none := by
  obtain ⟨μ', h1⟩ := exec_simulation_dead (dead := fun μ : M => μ.dead = true) (C := Corr) step_dead
    (fun hI _ hC hpc => internal_step hI hC hpc) (fun hI _ hC henv hi => input_step _ _ _ _ _ hI hC henv hi) h
    (MInv.init m ntimers timerfdAvail pwait2) (Corr_init m ntimers timerfdAvail pwait2)
  simp only [verdict, runMon, h1]

/-- register fd 1 with in and out handlers, run the loop, the kernel reports IN|OUT, both handlers
run, the out handler unregisters, the loop ends -/
def exInputs : List Input :=
  [ .api (.fdRegister 1 true true false), .api .main,
    .wret (.events [.fd 1 { kin := true, kout := true }]),
    .handlerEnd, .api (.fdUnregister 1), .handlerEnd ]

/-- same, but the in handler unregisters and re-registers fd 1: the out handler must not run -/
def exInputs2 : List Input :=
  [ .api (.fdRegister 1 true true false), .api .main,
    .wret (.events [.fd 1 { kin := true, kout := true }]),
    .api (.fdUnregister 1), .api (.fdRegister 1 true true false), .handlerEnd,
    .wret .eintr ]

def isWait : Ev → Bool | .out (.wait ..) => true | _ => false
def isFdCb (f : FdId) (b : Nat) : Ev → Bool | .out (.cb (.fd g c)) => g == f && c == b | _ => false
def isMainRet : Ev → Bool | .out .mainRet => true | _ => false

example :
    let tr := (runTrace 100 (St.init .epoll 0 true true) exInputs).1
    Exec (St.init .epoll 0 true true) tr (runTrace 100 (St.init .epoll 0 true true) exInputs).2 ∧
    tr.any isWait = true ∧ tr.any (isFdCb 1 1) = true ∧ tr.any (isFdCb 1 2) = true ∧ tr.any isMainRet = true ∧
    tr.length = 12 ∧ verdict tr = none :=
  ⟨runTrace_exec _ _ _, by decide, by decide, by decide, by decide, by decide,
    monitor_accepts .epoll 0 true true _ _ (runTrace_exec _ _ _)⟩

example :
    let tr := (runTrace 100 (St.init .poll 0 true true) exInputs2).1
    Exec (St.init .poll 0 true true) tr (runTrace 100 (St.init .poll 0 true true) exInputs2).2 ∧
    (tr.filter isWait).length = 3 ∧ tr.any (isFdCb 1 1) = true ∧ tr.any (isFdCb 1 2) = false ∧
    tr.length = 14 ∧ verdict tr = none :=
  ⟨runTrace_exec _ _ _, by decide, by decide, by decide, by decide,
    monitor_accepts .poll 0 true true _ _ (runTrace_exec _ _ _)⟩

/-! ## lemmas and definitions no proof above goes through

`Shape` and `UFrame` speak of the frame stack through `shapeOk`; the proof of `monitor_accepts` takes the stack from
`MInv.step` and the frame of a step from `Keeps`. -/

theorem Bands.le_refl (a : Bands) : Bands.le a a := ⟨id, id, id⟩

theorem Bands.zero_le (b : Bands) : Bands.le {} b := by simp [Bands.le]

theorem eraseActive_poll (a : List FdId) (rt : Bool) (f : FdId) : eraseActive (.poll a rt) f = .poll (a.erase f) rt := rfl
theorem eraseActive_fd (c : FdId) (st : Nat) (f : FdId) : eraseActive (.fd c st) f = .fd c st := rfl
theorem eraseActive_timers (b : List Nat) (f : FdId) : eraseActive (.timers b) f = .timers b := rfl
theorem eraseActive_tasks (b : List TaskId) (f : FdId) : eraseActive (.tasks b) f = .tasks b := rfl
theorem eraseActive_events (b : List EvId) (f : FdId) : eraseActive (.events b) f = .events b := rfl

theorem fold_nil (μ : M) : List.foldlM C03.step μ [] = .ok μ := rfl

def shapeK : List Nat → Bool
  | 4 :: r => shapeK r
  | [] => true
  | [0] => true
  | [1] => true
  | [2] => true
  | [3, 2] => true
  | _ => false

/-- `events* ++ ([] | [timers] | [tasks] | [poll] | [fd, poll])` -/
def shapeOk (l : List Frame) : Bool := shapeK (l.map kind)

theorem shape_events (b : List EvId) (rest : List Frame) : shapeOk (.events b :: rest) = shapeOk rest := by
  simp [shapeOk, kind, shapeK]

theorem shape_bottom {fr : Frame} {rest : List Frame} (hk : kind fr < 3) (h : shapeOk (fr :: rest) = true) :
    rest = [] := by
  cases rest with
  | nil => rfl
  | cons x t => cases fr <;> simp [shapeOk, kind, shapeK] at h hk

theorem shape_fd {c : FdId} {st : Nat} {rest : List Frame} (h : shapeOk (.fd c st :: rest) = true) :
    ∃ a rt, rest = [.poll a rt] := by
  cases rest with
  | nil => simp [shapeOk, kind, shapeK] at h
  | cons x t =>
    cases t with
    | nil => cases x <;> simp [shapeOk, kind, shapeK] at h; exact ⟨_, _, rfl⟩
    | cons y u => cases x <;> simp [shapeOk, kind, shapeK] at h

def loopPc : Pc → Bool
  | .run (.mainTop _) | .run .collect | .run .startTasks | .run .exitCheck | .run .prepWait
  | .run (.flush _ _) | .run (.wait _ _) | .waiting _ _ | .needTime .forTimers | .needTime (.forWait _ _) => true
  | _ => false

structure Shape (s : St) : Prop where
  ok : shapeOk s.stack = true
  loop : loopPc s.pc = true → s.stack = []
  st0 : ∀ c, curOf s.stack = some (c, 0) → s.pc = .run .fdStage ∧ s.handled = some c

structure UFrame (x : FdId) (s s' : St) : Prop where
  shape : shapeOk s'.stack = shapeOk s.stack
  cur : curOf s'.stack = curOf s.stack
  actNodup : (activeOf s.stack).Nodup → (activeOf s'.stack).Nodup
  actSub : ∀ g ∈ activeOf s'.stack, g ∈ activeOf s.stack
  handled : s'.handled = s.handled ∨ (s'.handled = none ∧ s.handled = some x)
  core : ∀ g, g ≠ x → coreEq (s.fds g) (s'.fds g)

theorem Shape_keep {s s' : St} (h : Shape s) (hpc : s.pc ≠ .run .fdStage)
    (hs : shapeOk s'.stack = shapeOk s.stack) (hc : curOf s'.stack = curOf s.stack)
    (hl : loopPc s'.pc = false) : Shape s' := by
  refine ⟨hs ▸ h.ok, fun hl' => (by rw [hl] at hl'; cases hl'), ?_⟩
  intro c hc'
  rw [hc] at hc'
  exact absurd (h.st0 c hc').1 hpc

theorem notifyFd_uframe (x : FdId) (s : St) (f : FdId) : UFrame x s (notifyFd s f) := by
  have h := notifyFd_cframe s f
  exact ⟨by rw [h.stack], by rw [h.stack], fun hn => h.stack ▸ hn, fun g hg => h.stack ▸ hg, Or.inl h.handled,
    fun g _ => h.core g⟩

end Ivy.L1.ProofsC03
