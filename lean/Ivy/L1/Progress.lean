import Ivy.L1.MInv
import Ivy.L1.ProgressSpec
/-!
# C07 (progress clause) — every wake-up of the loop makes progress

The statement side (the full kernel contract `envStrong` / `ExecS`, the oracles `idleVerdict`, `srcVerdict`, and why
they are stated as they are) is in `ProgressSpec.lean`; this file proves it.

## The proof

`Owes s` says that the machine is inside the dispatch of a wake-up and bound to enter a callback or a raw read: the
head of the active list, resp. the descriptor being dispatched, has a ready band whose handler is set.  It holds after
a non-empty wait result without kick and kernel timer (`owes_after_wret`; this is where `MInv` enters: the bands the
kernel was asked for are those with a handler, `mask_E` / `mask_P` on the descriptor clauses of `MInv`, so a reported
bit finds its handler), every internal step keeps it until the callback record (`owes_internal`, over the branches
`MInv.step` leaves of the block `fdStage`, none of which faults), and no input but
the raw read is enabled meanwhile (`owes_input`); `owes_exec` and `idle_run` are the two inductions over a trace.
-/
namespace Ivy.L1.Progress
open Ivy.L1 Ivy.L1.ProofsC02
open Ivy.Heap (TS)

theorem envStrong_ok {s : St} {i : Input} (h : envStrong s i = true) : envOk s i = true := by
  unfold envStrong at h
  simp only [Bool.and_eq_true] at h
  exact h.1

theorem ExecS.toExec {s s' : St} {evs : List Ev} (h : ExecS s evs s') : Exec s evs s' := by
  induction h with
  | nil s => exact Exec.nil s
  | internal hpc hi _ ih => exact Exec.internal hpc hi ih
  | input henv hi _ ih => exact Exec.input (envStrong_ok henv) hi ih

theorem runTraceS_exec (fuel : Nat) (s : St) (inputs : List Input) :
    ExecS s (runTraceS fuel s inputs).1 (runTraceS fuel s inputs).2 := by
  induction fuel generalizing s inputs with
  | zero => exact ExecS.nil s
  | succ fuel ih =>
    unfold runTraceS
    split
    · next b hb =>
      exact ExecS.internal hb rfl (ih _ _)
    · cases inputs with
      | nil => exact ExecS.nil s
      | cons i is =>
        simp only
        split
        · next henv =>
          split
          · next r hr => exact ExecS.input henv (by rw [hr]) (ih _ _)
          · exact ExecS.nil s
        · exact ExecS.nil s

/-! ## the dispatch owes a callback -/

/-- `want` of block `fdStage` -/
def wantAt (o : FdObj) (stage : Nat) : Bool := o.ready.get stage && o.handler stage

def wantsFrom (o : FdObj) (stage : Nat) : Bool :=
  match stage with
  | 0 => wantAt o 0 || wantAt o 1 || wantAt o 2
  | 1 => wantAt o 1 || wantAt o 2
  | 2 => wantAt o 2
  | _ => false

/-- the machine is inside the dispatch of a wake-up, no user code has run yet, and the dispatch is
bound to enter a callback (or a raw read): the head of `active`, resp. the descriptor being
dispatched, has a ready band whose handler is set -/
inductive Owes (s : St) : Prop
  | disp (f : FdId) (r : List FdId) (rt : Bool) (rest : List Frame) :
      s.pc = .run .dispatchNext → s.stack = .poll (f :: r) rt :: rest → wantsFrom (s.fds f) 0 = true → Owes s
  | stage (f : FdId) (stage : Nat) (rest : List Frame) :
      s.pc = .run .fdStage → s.stack = .fd f stage :: rest → s.handled = some f →
      wantsFrom (s.fds f) stage = true → Owes s
  | raw (r : RawId) : s.pc = .needRawRead r → Owes s

theorem wantsFrom_lt {o : FdObj} {stage : Nat} (h : wantsFrom o stage = true) : stage < 3 := by
  match stage, h with
  | 0, _ => omega
  | 1, _ => omega
  | 2, _ => omega
  | n + 3, h => simp [wantsFrom] at h

theorem wantsFrom_succ {o : FdObj} {stage : Nat} (h : wantsFrom o stage = true) (hw : wantAt o stage = false) :
    wantsFrom o (stage + 1) = true := by
  match stage, h, hw with
  | 0, h, hw => simpa [wantsFrom, hw] using h
  | 1, h, hw => simpa [wantsFrom, hw] using h
  | 2, h, hw => simp [wantsFrom, hw] at h
  | n + 3, h, _ => simp [wantsFrom] at h

theorem owes_internal {s : St} (hM : MInv s) (h : Owes s) {b : Block} (hpc : s.pc = .run b) :
    ((internal s b).2 = [] ∧ Owes (internal s b).1) ∨ ∃ c, (internal s b).2 = [Out.cb c] := by
  cases h with
  | disp f r rt rest h1 hst hw =>
    obtain rfl : b = .dispatchNext := by rw [hpc] at h1; cases h1; rfl
    left
    simp only [internal, hst, goto]
    exact ⟨trivial, Owes.stage f 0 (.poll r rt :: rest) rfl rfl rfl hw⟩
  | stage f stage rest h1 hst hh hw =>
    obtain rfl : b = .fdStage := by rw [hpc] at h1; cases h1; rfl
    -- the branches of the block under the invariant: none faults
    have hs := hM.step hpc
    generalize internal s .fdStage = x at hs ⊢
    cases hs with
    | fd_done c n a rt hst' hn => rw [hst] at hst'; cases hst'; exact absurd (wantsFrom_lt hw) (by omega)
    | fd_pass c n a rt hst' hn hc =>
      rw [hst] at hst'
      cases hst'
      rcases hc with ⟨-, hnone⟩ | ⟨-, hwa⟩
      · rw [hh] at hnone; cases hnone
      · exact .inl ⟨rfl, .stage f (stage + 1) _ rfl rfl hh (wantsFrom_succ hw hwa)⟩
    | fd_raw r a rt hst' => exact .inl ⟨rfl, .raw r rfl⟩
    | fd_cb c n a rt hst' => exact .inr ⟨_, rfl⟩
  | raw r h1 => rw [hpc] at h1; cases h1

theorem owes_input {s s' : St} (h : Owes s) {i : Input} {outs : List Out} (hi : input s i = some (s', outs)) :
    ∃ okk, i = .rawRead okk := by
  cases h with
  | disp f r rt rest h1 hst hw => simp [input, h1] at hi
  | stage f stage rest h1 hst hh hw => simp [input, h1] at hi
  | raw r h1 =>
    cases i <;> simp [input, h1] at hi
    exact ⟨_, rfl⟩

theorem owes_exec {s s' : St} {evs : List Ev} (h : Exec s evs s') : MInv s → Owes s → idleSeg evs = false := by
  induction h with
  | nil s => intro _ _; rfl
  | @internal s s1 s2 b outs evs hpc hi hrest ih =>
    intro hM ho
    have hM1 : MInv s1 := by have := hM.internal hpc; rwa [hi] at this
    have := owes_internal hM ho hpc
    rw [hi] at this
    rcases this with ⟨h1, h2⟩ | ⟨c, h1⟩
    · simp only at h1 h2
      subst h1
      simpa using ih hM1 h2
    · simp only at h1
      subst h1
      simp [idleSeg, isProgress]
  | @input s s1 s2 i outs evs henv hi hrest ih =>
    intro _ ho
    obtain ⟨okk, rfl⟩ := owes_input ho hi
    cases okk <;> simp [idleSeg, isProgress, isRawFail]

theorem wants_of_bits (o : FdObj) (ev : KEv) (mask : Bands)
    (hany : kevAny ev = true) (hwithin : kevWithin ev mask = true)
    (hmi : mask.i = o.hin) (hmo : mask.o = o.hout) (hsome : (o.hin || o.hout || o.herr) = true)
    (hr : ∀ b, (bandsOfKEv ev).get b = true → o.ready.get b = true) : wantsFrom o 0 = true := by
  have h0 := hr 0
  have h1 := hr 1
  have h2 := hr 2
  simp only [Bands.get, bandsOfKEv] at h0 h1 h2
  simp only [kevAny, kevWithin] at hany hwithin
  simp only [wantsFrom, wantAt, Bands.get, FdObj.handler]
  rw [hmi, hmo] at hwithin
  grind

/-- a descriptor reported under the full contract has a handler for one of the reported bands: the kernel was asked
for exactly the bands with a handler (`mask_E`, `mask_P`), and `ERR`/`HUP` make every band ready -/
theorem wants_of_strong {s : St} (hM : MInv s) {abs : Option TS} {km : Bool}
    (hpc : s.pc = .waiting abs km) (g : FdId) (ev : KEv) (hs : itemStrong s (.fd g ev) = true)
    (o : FdObj) (hc : o = { s.fds g with ready := o.ready })
    (hr : ∀ b, (bandsOfKEv ev).get b = true → o.ready.get b = true) : wantsFrom o 0 = true := by
  have c1 : o.hin = (s.fds g).hin := by rw [hc]
  have c2 : o.hout = (s.fds g).hout := by rw [hc]
  have c3 : o.herr = (s.fds g).herr := by rw [hc]
  simp only [itemStrong, Bool.and_eq_true] at hs
  obtain ⟨hany, hs⟩ := hs
  cases hE : s.method.isEpoll with
  | true =>
    have hI := hM.fd.finE hE
    have hn := hM.fd.flushed hE (by rw [hpc]; rfl)
    rw [hn] at hI
    simp only [hE, if_true] at hs
    cases hk : s.kint g with
    | none => rw [hk] at hs; simp at hs
    | some mask =>
      rw [hk] at hs
      obtain ⟨-, m1, m2, m3⟩ := mask_E hI g mask hk
      exact wants_of_bits o ev mask hany hs (by rw [m1, c1]) (by rw [m2, c2]) (by rw [c1, c2, c3]; exact m3) hr
  | false =>
    have hI := hM.fd.finP hE
    simp only [hE, Bool.false_eq_true, if_false, List.any_eq_true, Bool.and_eq_true, beq_iff_eq] at hs
    obtain ⟨p, hp, hpg, hwi⟩ := hs
    obtain ⟨-, m1, m2, m3⟩ := mask_P hI p hp
    rw [hpg] at m1 m2 m3
    exact wants_of_bits o ev p.2 hany hwi (by rw [m1, c1]) (by rw [m2, c2]) (by rw [c1, c2, c3]; exact m3) hr

theorem hasKick_iff (l : List WItem) : hasKick l = true ↔ WItem.kick ∈ l := by
  unfold hasKick
  rw [List.any_eq_true]
  exact ⟨fun ⟨it, hit, h⟩ => (by cases it <;> first | exact hit | cases h),
    fun h => ⟨_, h, rfl⟩⟩

theorem hasKtimer_iff (l : List WItem) : hasKtimer l = true ↔ WItem.ktimer ∈ l := by
  unfold hasKtimer
  rw [List.any_eq_true]
  exact ⟨fun ⟨it, hit, h⟩ => (by cases it <;> first | exact hit | cases h),
    fun h => ⟨_, h, rfl⟩⟩

theorem kevAny_bit {ev : KEv} (h : kevAny ev = true) : ∃ b, (bandsOfKEv ev).get b = true := by
  simp only [kevAny, Bool.or_eq_true] at h
  rcases h with ((h | h) | h) | h
  · exact ⟨1, by simp [Bands.get, bandsOfKEv, h]⟩
  · exact ⟨2, by simp [Bands.get, bandsOfKEv, h]⟩
  · exact ⟨0, by simp [Bands.get, bandsOfKEv, h]⟩
  · exact ⟨0, by simp [Bands.get, bandsOfKEv, h]⟩

theorem owes_after_wret {s : St} (hM : MInv s) {abs : Option TS} {km : Bool}
    (hpc : s.pc = .waiting abs km) (l : List WItem) (hl : l ≠ [])
    (hs : wretStrong s (.events l) = true) (hk : hasKick l = false) (ht : hasKtimer l = false) :
    Owes (afterWait s abs km (.events l)).1 := by
  simp only [wretStrong, Bool.and_eq_true, List.all_eq_true] at hs
  obtain ⟨_, hs⟩ := hs
  obtain ⟨s1, ar, rt, re, b, hw, hb, he⟩ := afterWait_events_state s abs km l
  rw [he]
  -- no kick was reported: the dispatch comes next
  have hre : re = false := (hw.nokick (fun h => by rw [(hasKick_iff l).2 h] at hk; cases hk)).2
  obtain rfl : b = .dispatchNext := by
    rcases hb with ⟨h, -⟩ | ⟨-, h⟩
    · rw [hre] at h; cases h
    · exact h
  -- the first item is a descriptor with a bit set, so the active list is not empty
  obtain ⟨g, rest, rfl⟩ : ∃ g rest, ar = g :: rest := by
    cases l with
    | nil => exact absurd rfl hl
    | cons it l' =>
      cases it with
      | kick => simp [hasKick] at hk
      | ktimer => simp [hasKtimer] at ht
      | fd f ev =>
        have hi := hs (.fd f ev) List.mem_cons_self
        simp only [itemStrong, Bool.and_eq_true] at hi
        obtain ⟨b, hb⟩ := kevAny_bit hi.1
        have hf : f ∈ ar := (hw.coll.mem f).2 ⟨b, ev, List.mem_cons_self, hb⟩
        cases ar with
        | nil => cases hf
        | cons g rest => exact ⟨g, rest, rfl⟩
  obtain ⟨-, ev, hev, -⟩ := (hw.coll.mem g).1 List.mem_cons_self
  exact Owes.disp g rest rt _ rfl rfl
    (wants_of_strong hM hpc g ev (hs _ hev) (s1.fds g) (hw.obj g)
      (fun b hb => (hw.coll.ready g List.mem_cons_self b).2 ⟨ev, hev, hb⟩))

/-! ## `wake_progress` -/

theorem kick_consumed {s : St} {abs : Option TS} {km : Bool} {l : List WItem}
    (hs : wretStrong s (.events l) = true) (hk : hasKick l = true) :
    s.kickArmed = true ∧ (afterWait s abs km (.events l)).1.kickArmed = false := by
  simp only [wretStrong, Bool.and_eq_true, List.all_eq_true] at hs
  have hm := (hasKick_iff l).1 hk
  obtain ⟨s1, ar, rt, re, b, hw, -, he⟩ := afterWait_events_state s abs km l
  rw [he]
  exact ⟨hs.2 _ hm, (hw.kick hm).1⟩

theorem ktimer_consumed {s : St} {abs : Option TS} {km : Bool} {l : List WItem}
    (hs : wretStrong s (.events l) = true) (hk : hasKtimer l = true) :
    s.ktimer.isSome = true ∧ (afterWait s abs km (.events l)).1.ktimer = none := by
  simp only [wretStrong, Bool.and_eq_true, List.all_eq_true] at hs
  have hm := (hasKtimer_iff l).1 hk
  obtain ⟨s1, ar, rt, re, b, hw, -, he⟩ := afterWait_events_state s abs km l
  rw [he]
  exact ⟨hs.2 _ hm, (hw.ktimer hm).1⟩

theorem wret_events {s s1 : St} {abs : Option TS} {km : Bool} {l : List WItem} {outs : List Out}
    (hpc : s.pc = .waiting abs km) (hi : input s (.wret (.events l)) = some (s1, outs)) :
    s1 = (afterWait s abs km (.events l)).1 ∧ outs = [] := by
  simp only [input, hpc, Option.some.injEq] at hi
  exact ⟨(congrArg Prod.fst hi).symm,
    (congrArg Prod.snd hi).symm.trans (afterWait_wake_outs _ _ _ WRes.noConfusion)⟩

/-- **Every wake-up makes progress.**  `s` is any reachable state blocked in the kernel wait, `l` any
non-empty wait result allowed by the full kernel contract, `evs` any continuation (any user program, any
later kernel answers).  Then the result itself consumed a one-shot wake source (the armed kick is disarmed /
the armed kernel timer is disarmed), or the continuation does not reach the next `Out.wait` /
`Out.mainRet` before a callback is entered or a raw read succeeds — unless a raw read of a reported
descriptor fails first, which the full kernel contract excludes (`idleSeg`). -/
theorem wake_progress (m : Method) (ntimers : Nat) (timerfdAvail pwait2 : Bool) (evs0 : List Ev) (s : St)
    (hreach : Exec (St.init m ntimers timerfdAvail pwait2) evs0 s)
    (abs : Option TS) (km : Bool) (hpc : s.pc = .waiting abs km)
    (l : List WItem) (hl : l ≠ []) (hs : wretStrong s (.events l) = true)
    (evs : List Ev) (s' : St) (hex : Exec s (Ev.inp (.wret (.events l)) :: evs) s') :
    (hasKick l = true ∧ s.kickArmed = true ∧ (afterWait s abs km (.events l)).1.kickArmed = false) ∨
    (hasKtimer l = true ∧ s.ktimer.isSome = true ∧ (afterWait s abs km (.events l)).1.ktimer = none) ∨
    idleSeg evs = false := by
  cases hk : hasKick l with
  | true => exact Or.inl ⟨rfl, kick_consumed hs hk⟩
  | false =>
    cases ht : hasKtimer l with
    | true => exact Or.inr (Or.inl ⟨rfl, ktimer_consumed hs ht⟩)
    | false =>
      right; right
      have hM := MInv.exec hreach (MInv.init m ntimers timerfdAvail pwait2)
      obtain ⟨s1, outs, evs', henv, hi, he, hrest⟩ := exec_inp_cons hex (by rw [hpc]; intro b h; cases h)
      have hM1 : MInv s1 := hM.input henv hi
      obtain ⟨rfl, rfl⟩ := wret_events hpc hi
      simp only [List.map_nil, List.nil_append] at he
      subst he
      exact owes_exec hrest hM1 (owes_after_wret hM hpc l hl hs hk ht)

theorem stop_not_progress {e : Ev} (h : isStop e = true) : isProgress e = false ∧ isRawFail e = false := by
  cases e with
  | inp i => simp [isStop] at h
  | gt g => simp [isStop] at h
  | out o => cases o <;> simp_all [isStop, isProgress, isRawFail]

theorem idleSeg_split : ∀ (pre : List Ev) {evs post : List Ev} {e : Ev}, idleSeg evs = false →
    evs = pre ++ e :: post → isStop e = true → (∀ x ∈ pre, isRawFail x = false) →
    ∃ x ∈ pre, isProgress x = true := by
  intro pre
  induction pre with
  | nil =>
    intro evs post e h hsplit hstop _
    obtain ⟨a, b⟩ := stop_not_progress hstop
    subst hsplit
    simp [idleSeg, a, b, hstop] at h
  | cons x pre ih =>
    intro evs post e h hsplit hstop hraw
    subst hsplit
    cases hp : isProgress x with
    | true => exact ⟨x, List.mem_cons_self, hp⟩
    | false =>
      have hr := hraw x List.mem_cons_self
      simp only [List.cons_append, idleSeg, hp, hr, Bool.not_false, Bool.true_and, Bool.or_eq_false_iff] at h
      obtain ⟨y, hy, hy2⟩ := ih h.2 rfl hstop (fun z hz => hraw z (List.mem_cons_of_mem _ hz))
      exact ⟨y, List.mem_cons_of_mem _ hy, hy2⟩

/-- `wake_progress` over explicit trace segments: there is no segment
`inp (wret (events l)) :: pre ++ [out (wait …) | out mainRet]` with `l ≠ []` allowed by the full kernel contract
in which `pre` contains no callback and no successful raw read — unless `l` reports the kick or the
kernel timer (which it thereby disarms), or a reported raw descriptor is not readable. -/
theorem wake_progress_split (m : Method) (ntimers : Nat) (timerfdAvail pwait2 : Bool) (evs0 : List Ev) (s : St)
    (hreach : Exec (St.init m ntimers timerfdAvail pwait2) evs0 s)
    (abs : Option TS) (km : Bool) (hpc : s.pc = .waiting abs km)
    (l : List WItem) (hl : l ≠ []) (hs : wretStrong s (.events l) = true)
    (pre post : List Ev) (o : Out) (s' : St)
    (hex : Exec s (Ev.inp (.wret (.events l)) :: (pre ++ Ev.out o :: post)) s')
    (hstop : isStop (.out o) = true) (hraw : ∀ x ∈ pre, isRawFail x = false) :
    hasKick l = true ∨ hasKtimer l = true ∨ ∃ x ∈ pre, isProgress x = true := by
  rcases wake_progress m ntimers timerfdAvail pwait2 evs0 s hreach abs km hpc l hl hs _ s' hex with h | h | h
  · exact Or.inl h.1
  · exact Or.inr (Or.inl h.1)
  · exact Or.inr (Or.inr (idleSeg_split pre h rfl hstop hraw))

/-! ## `idle_free`: the source-aware oracle accepts every trace under the strong contract -/

theorem fold_outs_false (outs : List Out) : (outs.map Ev.out).foldlM idleStep false = .ok false := by
  induction outs with
  | nil => rfl
  | cons o r ih =>
    rw [List.map_cons, List.foldlM_cons]
    have : idleStep false (.out o) = .ok false := by cases o <;> rfl
    rw [this]
    exact ih

theorem idleStep_inp_false (i : Input) :
    idleStep false (.inp i) =
      .ok (match i with
        | .wret (.events l) => !l.isEmpty && !hasKick l && !hasKtimer l
        | _ => false) := by
  cases i with
  | wret r => cases r <;> rfl
  | rawRead okk => cases okk <;> rfl
  | _ => rfl

theorem foldlM_inp {σ : Type} (f : σ → Ev → Except String σ) (a b : σ) (e : Ev) (outs evs : List Ev)
    (h : f a e = .ok b) :
    (e :: (outs ++ evs)).foldlM f a = (outs.foldlM f b >>= fun c => evs.foldlM f c) := by
  rw [List.foldlM_cons, h]
  show List.foldlM f b (outs ++ evs) = _
  rw [List.foldlM_append]

theorem idle_run {s s' : St} {evs : List Ev} (h : ExecS s evs s') :
    ∀ pend : Bool, MInv s → (pend = true → Owes s) →
    ∃ pend', evs.foldlM idleStep pend = .ok pend' := by
  induction h with
  | nil s => intro pend _ _; exact ⟨pend, rfl⟩
  | @internal s s1 s2 b outs evs hpc hi hrest ih =>
    intro pend hM hP
    have hM1 : MInv s1 := by have := hM.internal hpc; rwa [hi] at this
    rw [List.foldlM_append]
    cases pend with
    | false =>
      rw [fold_outs_false]
      exact ih false hM1 (fun h => by cases h)
    | true =>
      have := owes_internal hM (hP rfl) hpc
      rw [hi] at this
      rcases this with ⟨h1, h2⟩ | ⟨c, h1⟩
      · simp only at h1 h2
        subst h1
        exact ih true hM1 (fun _ => h2)
      · simp only at h1
        subst h1
        exact ih false hM1 (fun h => by cases h)
  | @input s s1 s2 i outs evs henv hi hrest ih =>
    intro pend hM hP
    have hM1 : MInv s1 := hM.input (envStrong_ok henv) hi
    cases pend with
    | true =>
      obtain ⟨okk, rfl⟩ := owes_input (hP rfl) hi
      have : okk = true := by
        simp only [envStrong, Bool.and_eq_true] at henv
        exact henv.2
      subst this
      have : idleStep true (.inp (.rawRead true)) = .ok false := rfl
      rw [foldlM_inp _ _ _ _ _ _ this, fold_outs_false]
      exact ih false hM1 (fun h => by cases h)
    | false =>
      rw [foldlM_inp _ _ _ _ _ _ (idleStep_inp_false i)]
      -- the only way to become pending: a non-empty result without kick and kernel timer
      generalize hp : (match i with
        | .wret (.events l) => !l.isEmpty && !hasKick l && !hasKtimer l
        | _ => false) = p
      cases p with
      | false =>
        rw [fold_outs_false]
        exact ih false hM1 (fun h => by cases h)
      | true =>
        obtain ⟨l, rfl⟩ : ∃ l, i = .wret (.events l) := by
          cases i with
          | wret r => cases r with
            | events l => exact ⟨l, rfl⟩
            | _ => simp at hp
          | _ => simp at hp
        simp only [Bool.and_eq_true, Bool.not_eq_true', List.isEmpty_eq_false_iff] at hp
        obtain ⟨⟨hl, hk⟩, ht⟩ := hp
        have hstrong : wretStrong s (.events l) = true := by
          simp only [envStrong, Bool.and_eq_true] at henv
          exact henv.2
        obtain ⟨abs, km, hpc⟩ : ∃ abs km, s.pc = .waiting abs km := pc_of_input hi
        obtain ⟨rfl, rfl⟩ := wret_events hpc hi
        exact ih true hM1 (fun _ => owes_after_wret hM hpc l hl hstrong hk ht)

/-- **No idle wake-up.**  Under the full kernel contract every trace of the machine is accepted by the
source-aware oracle `idleVerdict`: a non-empty wait result that reports neither the kick nor the kernel
timer is followed by a callback or a successful raw read before the loop waits again, before `iv_main`
returns, and before any further wait result. -/
theorem idle_free (m : Method) (ntimers : Nat) (timerfdAvail pwait2 : Bool) (evs : List Ev) (s' : St)
    (h : ExecS (St.init m ntimers timerfdAvail pwait2) evs s') : idleVerdict evs = none := by
  obtain ⟨p, hp⟩ := idle_run h false (MInv.init m ntimers timerfdAvail pwait2) (fun h => by cases h)
  simp [idleVerdict, runMon, hp]

/-! ## `no_spin`: the spin oracle `spinVerdict` -/

open Ivy.Mon.C07 (spinStep spinVerdict)

/-- one record: the spin counter never exceeds the number of source-consuming wake-ups (plus one while a
descriptor-only wake-up is still owed its callback) -/
theorem step_rel (e : Ev) (n k : Nat) (src pend p1 : Bool) (st1 : Nat × Bool)
    (h1 : n ≤ k + pend.toNat) (h2 : pend = true → src = false)
    (hi : idleStep pend e = .ok p1) (hs : srcStep (k, src) e = .ok st1) :
    ∃ n1, spinStep n e = .ok n1 ∧ n1 ≤ st1.1 + p1.toNat ∧ (p1 = true → st1.2 = false) := by
  -- records that neither oracle looks at leave all three counters alone
  have neutral : idleStep pend e = .ok pend → srcStep (k, src) e = .ok (k, src) → spinStep n e = .ok n →
      ∃ n1, spinStep n e = .ok n1 ∧ n1 ≤ st1.1 + p1.toNat ∧ (p1 = true → st1.2 = false) := by
    intro a b c
    rw [a] at hi; rw [b] at hs
    cases hi; cases hs
    exact ⟨n, c, h1, h2⟩
  cases e with
  | gt g => exact neutral rfl rfl rfl
  | out o =>
    cases o with
    | cb c =>
      simp only [idleStep, srcStep, Except.ok.injEq] at hi hs
      subst hi; subst hs
      exact ⟨0, rfl, by simp, by simp⟩
    | wait a b c d e =>
      cases pend with
      | true => simp [idleStep] at hi
      | false =>
        simp only [idleStep, srcStep, Except.ok.injEq, Bool.false_eq_true, if_false] at hi hs
        subst hi; subst hs
        exact ⟨n, rfl, h1, by simp⟩
    | mainRet =>
      cases pend with
      | true => simp [idleStep] at hi
      | false =>
        simp only [idleStep, srcStep, Except.ok.injEq, Bool.false_eq_true, if_false] at hi hs
        subst hi; subst hs
        exact ⟨n, rfl, h1, by simp⟩
    | _ => exact neutral rfl rfl rfl
  | inp i =>
    cases i with
    | wret r =>
      cases pend with
      | true => simp [idleStep] at hi
      | false =>
        simp only [Bool.toNat_false, Nat.add_zero] at h1
        cases r with
        | events l =>
          simp only [idleStep, Bool.false_eq_true, if_false, Except.ok.injEq] at hi
          simp only [srcStep] at hs
          cases hl : l.isEmpty with
          | true =>
            simp only [hl, if_true, Except.ok.injEq] at hs
            subst hs
            simp only [hl] at hi
            subst hi
            exact ⟨0, by simp [spinStep, hl], by simp, by simp⟩
          | false =>
            simp only [hl, Bool.false_eq_true, if_false] at hs
            by_cases hk2 : k ≥ 2
            · simp [hk2] at hs
            · simp only [hk2, if_false, Except.ok.injEq] at hs
              subst hs
              simp only [hl, Bool.not_false, Bool.true_and] at hi
              subst hi
              have hn : ¬ n ≥ 2 := by omega
              refine ⟨n + 1, by simp [spinStep, hl, hn], ?_, ?_⟩
              · cases hasKick l <;> cases hasKtimer l <;> simp <;> omega
              · cases hasKick l <;> cases hasKtimer l <;> simp
        | _ =>
          simp only [idleStep, srcStep, Except.ok.injEq, Bool.false_eq_true, if_false] at hi hs
          subst hi; subst hs
          exact ⟨n, rfl, by simpa using h1, by simp⟩
    | rawRead okk =>
      cases okk with
      | true =>
        simp only [idleStep, srcStep, Except.ok.injEq] at hi hs
        subst hi; subst hs
        refine ⟨n, rfl, ?_, by simp⟩
        cases pend with
        | true => simp [h2 rfl] at h1 ⊢; omega
        | false => cases src <;> simp at h1 ⊢ <;> omega
      | false => exact neutral rfl rfl rfl
    | _ => exact neutral rfl rfl rfl

theorem spin_of_idle_src (evs : List Ev) : ∀ (n k : Nat) (src pend p' : Bool) (st' : Nat × Bool),
    n ≤ k + pend.toNat → (pend = true → src = false) →
    evs.foldlM idleStep pend = .ok p' → evs.foldlM srcStep (k, src) = .ok st' →
    ∃ n', evs.foldlM spinStep n = .ok n' := by
  induction evs with
  | nil => intro n _ _ _ _ _ _ _ _ _; exact ⟨n, rfl⟩
  | cons e r ih =>
    intro n k src pend p' st' h1 h2 hi hs
    rw [List.foldlM_cons] at hi hs ⊢
    cases hie : idleStep pend e with
    | error x => rw [hie] at hi; cases hi
    | ok p1 =>
      cases hse : srcStep (k, src) e with
      | error x => rw [hse] at hs; cases hs
      | ok st1 =>
        rw [hie] at hi
        rw [hse] at hs
        obtain ⟨n1, a1, a2, a3⟩ := step_rel e n k src pend p1 st1 h1 h2 hie hse
        rw [a1]
        exact ih n1 st1.1 st1.2 p1 p' st' a2 a3 hi hs

/-- **`no_spin`.**  Under the full kernel contract the spin oracle `spinVerdict` (a third non-empty wake-up in a row
without a callback; the checks run the more tolerant `spin4Verdict`, and `idleVerdict`) accepts
every trace on which the environment does not deliver a third non-empty wake-up after two wake-ups that each
consumed a one-shot wake source with no callback in between (`srcVerdict`). -/
theorem no_spin (m : Method) (ntimers : Nat) (timerfdAvail pwait2 : Bool) (evs : List Ev) (s' : St)
    (h : ExecS (St.init m ntimers timerfdAvail pwait2) evs s') (hsrc : srcVerdict evs = none) :
    spinVerdict evs = none := by
  obtain ⟨p, hp⟩ := idle_run h false (MInv.init m ntimers timerfdAvail pwait2) (fun h => by cases h)
  have hs : ∃ st, evs.foldlM srcStep (0, false) = .ok st := by
    simp only [srcVerdict, runMon] at hsrc
    cases hh : evs.foldlM srcStep (0, false) with
    | ok st => exact ⟨st, rfl⟩
    | error x => rw [hh] at hsrc; cases hsrc
  obtain ⟨st, hs⟩ := hs
  obtain ⟨n', hn⟩ := spin_of_idle_src evs 0 0 false false p st (by simp) (by simp) hp hs
  simp [spinVerdict, runMon, hn]

end Ivy.L1.Progress
