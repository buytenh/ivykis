import Ivy.L1.Machine
/-!
# Poll method selection (`iv_fd_init_first_thread`, `method_is_excluded`, `consider_poll_method`)

Candidates are tried in the fixed order epoll-timerfd, epoll, ppoll, poll; a candidate is skipped when its
name is one of the whitespace-separated words of `IV_EXCLUDE_POLL_METHOD` (each word as `sscanf("%63s")`
reads it: at most 63 characters, a longer word continues as the next word) or when its `init` fails.
-/
namespace Ivy.L1.Select

def isSpace (c : Char) : Bool := c == ' ' || c == '\t' || c == '\n' || c == '\x0b' || c == '\x0c' || c == '\r'

/-- the words `sscanf(exclude, "%63s%n", …)` yields in a loop -/
def words (cs : List Char) (cur : List Char) (fuel : Nat) : List String :=
  match fuel with
  | 0 => []
  | fuel + 1 =>
    match cs with
    | [] => if cur.isEmpty then [] else [String.ofList cur.reverse]
    | c :: rest =>
      if isSpace c then
        if cur.isEmpty then words rest [] fuel else String.ofList cur.reverse :: words rest [] fuel
      else if cur.length == 63 then String.ofList cur.reverse :: words (c :: rest) [] fuel
      else words rest (c :: cur) fuel

def excludeWords (s : String) : List String := words s.toList [] (2 * s.length + 2)

def methodName : Method → String
  | .epollTimerfd => "epoll-timerfd" | .epoll => "epoll" | .ppoll => "ppoll" | .poll => "poll"

def candidates : List Method := [.epollTimerfd, .epoll, .ppoll, .poll]

/-- a candidate is eligible when it is not excluded and its `init` succeeds -/
def eligible (exclude : Option String) (avail : Method → Bool) (m : Method) : Bool :=
  let ex := match exclude with | some s => excludeWords s | none => []
  !ex.contains (methodName m) && avail m

/-- `exclude = none` ⇔ the variable is unset; `avail m` ⇔ `m->init(st) >= 0` -/
def select (exclude : Option String) (avail : Method → Bool) : Option Method :=
  candidates.find? (eligible exclude avail)

example : select (some "  epoll-timerfd\tppoll ") (fun _ => true) = some .epoll := by decide
example : select (some "epoll") (fun m => m != .epollTimerfd) = some .ppoll := by decide

end Ivy.L1.Select
