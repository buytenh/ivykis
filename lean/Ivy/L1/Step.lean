import Ivy.L1.StepLemmas
/-!
# The blocks of the loop, branch by branch

`Step s b x`: what block `b` of the loop does when nothing goes wrong — the frame stack is the one the program point
calls for and the object the block is about to touch is live: one constructor per branch, with the branch condition,
the stack before (exactly, or as a `Base` stack where the events may run on several) and after, the fields written and
the record emitted; `prepWait`, whose branches are those of `iv_fd_timeout_check` (`timeoutCheck_cases`), is one
constructor that names the fields written.  No constructor ends in `dead` (`Step.alive`).  In a state with the machine invariant every block takes one of these branches (`step_of_core` in
`Invariant.lean`, `MInv.step`), so an invariant or a simulation relation is kept by the blocks if it is kept by every
constructor.  `Base` (namespace `ProofsC01`, with `Shape`) names the frame stacks on which
`__iv_event_run_pending_events` can start.
-/
namespace Ivy.L1.ProofsC01
open Ivy.L1

def Base (st : List Frame) : Prop :=
  (∃ r, st = [.tasks r]) ∨ (∃ a rt, st = [.poll a rt]) ∨ (∃ c n a rt, st = [.fd c n, .poll a rt] ∧ 1 ≤ n)

end Ivy.L1.ProofsC01

namespace Ivy.L1
open Ivy.Heap (TS Store)
open ProofsC01

/-- block `flush` up to the choice of where control goes -/
def flushed (s : St) : St := if s.method.isEpoll then s.notify.foldl epollFlushOne s else s

theorem flushed_frame (s : St) :
    flushed s = { s with notify := (flushed s).notify, kint := (flushed s).kint, fds := (flushed s).fds } := by
  unfold flushed; split
  · exact flushAll_frame _ _
  · rfl

theorem flushed_obj (s : St) (g : FdId) : (flushed s).fds g = { s.fds g with regBands := ((flushed s).fds g).regBands } := by
  unfold flushed; split
  · exact flushAll_obj _ _ g
  · rfl

inductive Step (s : St) : Block → St × List Out → Prop
  | mainTop_skip (rt : Bool) : s.stack = [] → (rt = false ∨ s.heap.num = 0) →
      Step s (.mainTop rt) ({ s with pc := .run .startTasks }, [])
  | mainTop_collect : s.stack = [] → s.heap.num ≠ 0 → s.timeValid = true →
      Step s (.mainTop true) ({ s with pc := .run .collect }, [])
  | mainTop_clock : s.stack = [] → s.heap.num ≠ 0 → s.timeValid = false →
      Step s (.mainTop true) ({ s with pc := .needTime .forTimers }, [])
  | collect (h' : Store) (batch : List Nat) : s.stack = [] → Ivy.Heap.runCollect s.heap s.time = (.ok h', batch) →
      Step s .collect
        ({ s with heap := h', numobjs := s.numobjs - ((s.heap.num - h'.num : Nat) : Int), stack := [.timers batch],
                  pc := .run .popTimer }, [])
  | popTimer_done : s.stack = [.timers []] → Step s .popTimer ({ s with stack := [], pc := .run .startTasks }, [])
  | popTimer_cb (t : Nat) (r : List Nat) : s.stack = [.timers (t :: r)] →
      Step s .popTimer
        ({ s with heap := { s.heap with idx := s.heap.idx.setIfInBounds t (-1) }, stack := [.timers r], pc := .user },
         [.cb (.timer t)])
  | startTasks : s.stack = [] →
      Step s .startTasks
        ({ s with stack := [.tasks s.tasks], tasks := [], taskEpoch := (s.taskEpoch + 1) % 4294967296,
                  pc := .run .popTask }, [])
  | popTask_done : s.stack = [.tasks []] → Step s .popTask ({ s with stack := [], pc := .run .exitCheck }, [])
  | popTask_events (r : List TaskId) : s.stack = [.tasks (0 :: r)] →
      Step s .popTask
        ({ s with numobjs := s.numobjs - 1, tobjs := upd s.tobjs 0 { (s.tobjs 0) with epoch := s.taskEpoch },
                  stack := [.tasks r], pc := .run .runEvents }, [])
  | popTask_cb (k : TaskId) (r : List TaskId) : k ≠ 0 → s.stack = [.tasks (k :: r)] →
      Step s .popTask
        ({ s with numobjs := s.numobjs - 1, tobjs := upd s.tobjs k { (s.tobjs k) with epoch := s.taskEpoch },
                  stack := [.tasks r], pc := .user }, [.cb (.task k)])
  | runEvents_none : Base s.stack → s.pending = [] → Step s .runEvents ({ s with pc := .run .resume }, [])
  | runEvents_some : Base s.stack → s.pending ≠ [] →
      Step s .runEvents ({ s with stack := .events s.pending :: s.stack, pending := [], pc := .run .popEvent }, [])
  | popEvent_done (rest : List Frame) : s.stack = .events [] :: rest → Base rest →
      Step s .popEvent ({ s with stack := rest, pc := .run .resume }, [])
  | popEvent_cb (e : EvId) (r : List EvId) (rest : List Frame) : s.stack = .events (e :: r) :: rest → Base rest →
      Step s .popEvent ({ s with stack := .events r :: rest, pc := .user }, [.cb (.event e)])
  | resume_tasks (r : List TaskId) : s.stack = [.tasks r] → Step s .resume ({ s with pc := .run .popTask }, [])
  | resume_poll (a : List FdId) (rt : Bool) : s.stack = [.poll a rt] →
      Step s .resume ({ s with pc := .run .dispatchNext }, [])
  | resume_fd (c : FdId) (n : Nat) (a : List FdId) (rt : Bool) : s.stack = [.fd c n, .poll a rt] →
      Step s .resume ({ s with pc := .run .fdStage }, [])
  | exit : s.stack = [] → (s.quit = true ∨ s.numobjs = 0) → Step s .exitCheck ({ s with pc := .user }, [.mainRet])
  | stay : s.stack = [] → s.quit = false → s.numobjs ≠ 0 → Step s .exitCheck ({ s with pc := .run .prepWait }, [])
  | prepWait (s1 : St) (abs : Option TS) (km : Bool) : s.stack = [] →
      s1 = { s with method := s1.method, lastAbs := s1.lastAbs, lastAbsCount := s1.lastAbsCount, ktimer := s1.ktimer,
                    timerfd := s1.timerfd } → s1.method.isEpoll = s.method.isEpoll →
      Step s .prepWait ({ s1 with pc := .run (.flush abs km) }, [])
  | flush_clock (abs : Option TS) (km : Bool) : s.stack = [] → abs.isSome = true → s.timeValid = false →
      Step s (.flush abs km) ({ flushed s with pc := .needTime (.forWait abs km) }, [])
  | flush_go (abs : Option TS) (km : Bool) : s.stack = [] → (abs.isSome = true → s.timeValid = true) →
      Step s (.flush abs km) ({ flushed s with pc := .run (.wait abs km) }, [])
  | wait (abs : Option TS) (km : Bool) : s.stack = [] →
      Step s (.wait abs km)
        ({ s with pc := .waiting abs km },
         [.wait (primOf s) (timeoutOf s abs) (interestOf s (universeOf s)) (if s.timerfd then some s.ktimer else none)
            (if s.kickReg then some s.kickArmed else none)])
  | dispatch_done (rt : Bool) : s.stack = [.poll [] rt] →
      Step s .dispatchNext ({ s with stack := [], pc := .run (.mainTop rt) }, [])
  | dispatch_next (f : FdId) (r : List FdId) (rt : Bool) : s.stack = [.poll (f :: r) rt] →
      Step s .dispatchNext ({ s with stack := [.fd f 0, .poll r rt], handled := some f, pc := .run .fdStage }, [])
  | fd_done (c : FdId) (n : Nat) (a : List FdId) (rt : Bool) : s.stack = [.fd c n, .poll a rt] → 3 ≤ n →
      Step s .fdStage ({ s with stack := [.poll a rt], pc := .run .dispatchNext }, [])
  /-- the descriptor was unregistered by an earlier handler of this dispatch, or band `n` is not ready or has no handler -/
  | fd_pass (c : FdId) (n : Nat) (a : List FdId) (rt : Bool) : s.stack = [.fd c n, .poll a rt] → n < 3 →
      ((1 ≤ n ∧ s.handled = none) ∨
        (s.handled = some c ∧ ((s.fds c).ready.get n && (s.fds c).handler n) = false)) →
      Step s .fdStage ({ s with stack := [.fd c (n + 1), .poll a rt], pc := .run .fdStage }, [])
  | fd_raw (r : RawId) (a : List FdId) (rt : Bool) : s.stack = [.fd (rawFd r) 1, .poll a rt] →
      s.handled = some (rawFd r) → ((s.fds (rawFd r)).ready.get 1 && (s.fds (rawFd r)).handler 1) = true →
      Step s .fdStage ({ s with stack := [.fd (rawFd r) 2, .poll a rt], pc := .needRawRead r }, [])
  | fd_cb (c : FdId) (n : Nat) (a : List FdId) (rt : Bool) : s.stack = [.fd c n, .poll a rt] → n < 3 →
      s.handled = some c → ((s.fds c).ready.get n && (s.fds c).handler n) = true → (n = 1 → c < 1000) →
      Step s .fdStage ({ s with stack := [.fd c (n + 1), .poll a rt], pc := .user }, [.cb (.fd c n)])

theorem Step.alive {s : St} {b : Block} {x : St × List Out} (h : Step s b x) : x.1.pc ≠ .dead := by
  cases h <;> nofun

end Ivy.L1
