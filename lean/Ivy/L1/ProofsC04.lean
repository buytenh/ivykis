import Ivy.L1.MInv
/-!
# Proof of C04 over the L1 loop machine

`monitor_accepts`: every `Exec` trace from an initial state is accepted by the monitor `Ivy.Mon.C04`.

`Tracks μ s` is what the monitor knows of the machine: its clock is the loop's cached time, its registrations are the
live timers with their expiries, and its clock value is fresh while the loop's cached time is valid or a timer of an
expired batch has still to run; it is owed while the monitor is not in its absorbing `dead` state, which it enters
when the machine dies (`exec_simulation_dead`).  Everything else a step needs is a fact about the machine alone and
comes from `MInv s`: the expired batch against the clock when a timer handler is entered, what the arguments of the
wait promise (`TimeInv.waitOk`) when the wait is entered, the heap invariant for the heap operations.

Steps that do not concern timers are all of one kind (`Plain`); the others get an argument each.

`monitor_accepts` does not use `Fr`, `GoodB` or `Good` (stated after it): `GoodB μ s batch` is `Tracks μ s` bundled
with what `MInv` says about timers and the wait (`GoodB.of`, `GoodB.tracks`); `GoodB.transfer`, `Good.transfer` and
`GoodB.remove` say how that bundle moves along a step and stand on their own.
-/
namespace Ivy.L1.ProofsC04
open Ivy.L1 Ivy.Heap
open Ivy.Mon.C04 (M bounded ns)

/-- outside the run of an expired batch no timer has index 0 -/
theorem no_expired {s : St} (hI : MInv s) (hd : s.pc ≠ .dead) (hp : ¬ pcT s.pc) (t : Nat) :
    s.heap.idx[t]? ≠ some 0 := fun h0 => by
  have := (hI.time.bidx t).1 h0
  rw [((hI.stk hd).elim hp).2] at this
  cases this

abbrev mstep := Ivy.Mon.C04.step

theorem bounded_ns (now a exp : TS) (kt : Option (Option TS)) (h : ns a ≤ ns exp) :
    bounded now (.ns (TS.toNs (toRelative now a))) kt exp = true := by
  simp only [bounded, toRel_ns, Bool.or_eq_true, beq_iff_eq, decide_eq_true_eq]
  split <;> omega

theorem bounded_ms (now a exp : TS) (kt : Option (Option TS)) (hn : Nm now) (ha : Nm a)
    (h : ns a ≤ ns exp) :
    bounded now (.ms (toMsec now a)) kt exp = true := by
  have hr := toRel_ns now a
  have hb := toMsec_bounds hn ha
  simp only [bounded, Bool.or_eq_true, beq_iff_eq, decide_eq_true_eq]
  split at hr <;> omega

theorem bounded_timeoutOf (s : St) (a exp : TS) (kt : Option (Option TS)) (hn : Nm s.time) (ha : Nm a)
    (h : ns a ≤ ns exp) : bounded s.time (timeoutOf s (some a)) kt exp = true := by
  rcases timeoutOf_some s a with e | e <;> rw [e]
  · exact bounded_ns _ _ _ _ h
  · exact bounded_ms _ _ _ _ hn ha h

structure Tracks (μ : M) (s : St) : Prop where
  alive : μ.dead = false
  pend : μ.pending = none
  clock : μ.clock = s.time
  reg : ∀ t ex, (t, ex) ∈ μ.reg ↔ (live s.heap t ∧ expOf s.heap t = ex)
  fresh : s.timeValid = true → μ.fresh = true
  bfresh : ∀ t : Nat, s.heap.idx[t]? = some 0 → μ.fresh = true

/-- `Tracks` reads the heap, the cached time and its validity -/
theorem Tracks.frame {μ : M} {s s' : St} (c : Tracks μ s) (hheap : s'.heap = s.heap) (htime : s'.time = s.time)
    (htv : s'.timeValid = true → s.timeValid = true) : Tracks μ s' := by
  refine ⟨c.alive, c.pend, ?_, ?_, fun h => c.fresh (htv h), ?_⟩
  · rw [htime]; exact c.clock
  · rw [hheap]; exact c.reg
  · rw [hheap]; exact c.bfresh

def Acc (μ : M) (evs : List Ev) (s' : St) : Prop :=
  ∃ μ', evs.foldlM mstep μ = .ok μ' ∧ (μ'.dead = true ∨ Tracks μ' s')

theorem Acc.nil {μ : M} {s' : St} (h : Tracks μ s') : Acc μ [] s' := ⟨μ, rfl, Or.inr h⟩

theorem Acc.cons {μ μ1 : M} {e : Ev} {evs : List Ev} {s' : St} (h1 : mstep μ e = .ok μ1)
    (h2 : Acc μ1 evs s') : Acc μ (e :: evs) s' := by
  obtain ⟨μ', hf, hr⟩ := h2
  refine ⟨μ', ?_, hr⟩
  rw [List.foldlM_cons, h1]
  exact hf

theorem mstep_dead {μ : M} (h : μ.dead = true) (e : Ev) : mstep μ e = .ok μ := by
  simp [mstep, Ivy.Mon.C04.step, h]

theorem Acc.one {μ μ1 : M} {e : Ev} {s' : St} (h1 : mstep μ e = .ok μ1) (h2 : μ1.dead = true ∨ Tracks μ1 s') :
    Acc μ [e] s' := ⟨μ1, by rw [List.foldlM_cons, h1]; rfl, h2⟩

theorem M.eta_pend {μ : M} (h : μ.pending = none) : { μ with pending := none } = μ := by
  cases μ; simp_all

theorem ms_fatal {μ : M} (h : μ.dead = false) (msg : String) :
    mstep μ (.out (.fatal msg)) = .ok { μ with dead := true } := by
  simp [mstep, Ivy.Mon.C04.step, h]

theorem ms_fault {μ : M} (h : μ.dead = false) (msg : String) :
    mstep μ (.out (.fault msg)) = .ok { μ with dead := true } := by
  simp [mstep, Ivy.Mon.C04.step, h]

theorem Acc.fatal {μ : M} (h : μ.dead = false) (msg : String) (s' : St) : Acc μ [.out (.fatal msg)] s' :=
  Acc.one (ms_fatal h msg) (Or.inl rfl)

theorem Acc.fault {μ : M} (h : μ.dead = false) (msg : String) (s' : St) : Acc μ [.out (.fault msg)] s' :=
  Acc.one (ms_fault h msg) (Or.inl rfl)

theorem ms_ret {μ : M} (h : μ.dead = false) (hp : μ.pending = none) (v : Int) :
    mstep μ (.out (.ret v)) = .ok μ := by
  simp [mstep, Ivy.Mon.C04.step, h, hp]

theorem ms_mainRet {μ : M} (h : μ.dead = false) (hp : μ.pending = none) :
    mstep μ (.out .mainRet) = .ok μ := by
  unfold mstep Ivy.Mon.C04.step
  rw [if_neg (by simp [h])]
  exact congrArg _ (M.eta_pend hp)

theorem ms_cb {μ : M} (h : μ.dead = false) (hp : μ.pending = none) (c : Cb) (hc : ∀ t, c ≠ .timer t) :
    mstep μ (.out (.cb c)) = .ok μ := by
  unfold mstep Ivy.Mon.C04.step
  rw [if_neg (by simp [h])]
  cases c with
  | timer t => exact absurd rfl (hc t)
  | _ => exact congrArg _ (M.eta_pend hp)

theorem Tracks.quiet {μ : M} {s : St} {r : St × List Out} (c : Tracks μ s) (ho : r.2 = []) (hheap : r.1.heap = s.heap)
    (htime : r.1.time = s.time) (htv : r.1.timeValid = true → s.timeValid = true) : Acc μ (r.2.map Ev.out) r.1 := by
  rw [ho]; exact Acc.nil ((c.frame hheap htime htv))

theorem Plain.acc {μ : M} {s : St} {r : St × List Out} (c : Tracks μ s) (h : Plain s r) :
    Acc μ (r.2.map Ev.out) r.1 := by
  cases h with
  | fatal msg => exact Acc.fatal c.alive _ _
  | fault msg => exact Acc.fault c.alive _ _
  | silent s' h => exact c.quiet rfl h.same.heap h.same.time h.tvm
  | ret s' v h => exact Acc.one (ms_ret c.alive c.pend v) (Or.inr (c.frame h.same.heap h.same.time h.tvm))
  | cb s' k hk _ h => exact Acc.one (ms_cb c.alive c.pend k hk) (Or.inr (c.frame h.same.heap h.same.time h.tvm))
  | mainRet s' _ h => exact Acc.one (ms_mainRet c.alive c.pend) (Or.inr (c.frame h.same.heap h.same.time h.tvm))

/-- a timer of the expired batch leaves it (its handler is entered, or it is unregistered) -/
theorem Tracks.remove {μ : M} {s s' : St} {t : Nat} (c : Tracks μ s)
    (h0 : s.heap.idx[t]? = some 0)
    (hheap : s'.heap = { s.heap with idx := s.heap.idx.setIfInBounds t (-1) }) (htime : s'.time = s.time) :
    Tracks { μ with reg := μ.reg.filter (·.1 != t) } s' := by
  have hfresh : μ.fresh = true := c.bfresh t h0
  refine ⟨c.alive, c.pend, ?_, fun u ex => ?_, fun _ => hfresh, fun _ _ => hfresh⟩
  · rw [htime]; exact c.clock
  · show (u, ex) ∈ μ.reg.filter (·.1 != t) ↔ _
    rw [hheap, live_setIdx]
    simp only [List.mem_filter, c.reg u ex, bne_iff_ne, ne_eq]
    exact ⟨fun h => ⟨⟨h.1.1, h.2⟩, h.1.2⟩, fun h => ⟨⟨h.1.1, h.2⟩, h.1.2⟩⟩

theorem internal_wait {μ : M} {s : St} (hI : MInv s) (c : Tracks μ s) (abs : Option TS) (km : Bool)
    (hpc : s.pc = .run (.wait abs km)) :
    Acc μ ((internal s (.wait abs km)).2.map Ev.out) (internal s (.wait abs km)).1 := by
  rw [internal]
  have htv0 : abs.isSome = true → s.timeValid = true := fun e => hI.time.tv (by rw [hpc]; exact e)
  refine Acc.one (μ1 := μ) ?_ (Or.inr (c.frame rfl rfl id))
  have hw := hI.time.waitOk hI.heap (abs := abs) (km := km) (by rw [hpc]; rfl)
  have hall : ∀ p ∈ μ.reg, bounded μ.clock (timeoutOf s abs) (if s.timerfd then some s.ktimer else none) p.2 = true := by
    rintro ⟨t, ex⟩ hp
    obtain ⟨hl, hex⟩ := (c.reg t ex).1 hp
    have hon : onHeap s.heap t := hl.resolve_right (no_expired hI (by rw [hpc]; nofun) (by rw [hpc]; exact id) t)
    rw [c.clock]
    simp only []
    subst hex
    unfold WaitOk at hw
    cases km with
    | true =>
      simp only [if_true] at hw
      obtain ⟨ha, htfd, v, hv, hdis⟩ := hw
      subst ha
      simp only [timeoutOf, htfd, hv, if_true, bounded, Bool.or_eq_true, decide_eq_true_eq, Bool.and_eq_true,
        beq_iff_eq]
      rcases hdis with h | h
      · exact Or.inr h
      · exact Or.inl (h t hon)
    | false =>
      simp only [Bool.false_eq_true, if_false] at hw
      cases abs with
      | none => exact absurd hon (hw.2 t)
      | some a => exact bounded_timeoutOf s a _ _ hI.time.timeNN.nm hw.2.1 (hw.2.2 t hon)
  have hfind : μ.reg.find? (fun p => !bounded μ.clock (timeoutOf s abs) (if s.timerfd then some s.ktimer else none) p.2) = none := by
    rw [List.find?_eq_none]
    intro p hp
    simp [hall p hp]
  have hfr : (!μ.fresh && !μ.reg.isEmpty && Ivy.Mon.C04.finitePos (timeoutOf s abs)) = false := by
    cases abs with
    | none => simp [timeoutOf, Ivy.Mon.C04.finitePos]
    | some a => simp [c.fresh (htv0 rfl)]
  simp [mstep, Ivy.Mon.C04.step, c.alive, hfind, hfr]

/-- the blocks, branch by branch: the expired timers are collected against a valid clock, a timer handler is entered
for a timer of the batch, which has expired; every other branch but the wait keeps heap and clock -/
theorem internal_ok {μ : M} {s : St} (hI : MInv s) (c : Tracks μ s) (b : Block) (hpc : s.pc = .run b) :
    Acc μ ((internal s b).2.map Ev.out) (internal s b).1 := by
  by_cases hw : ∃ abs km, b = .wait abs km
  · obtain ⟨abs, km, rfl⟩ := hw; exact internal_wait hI c abs km hpc
  have hs := hI.step hpc
  generalize internal s b = x at hs
  have keep : ∀ {s' : St}, s'.heap = s.heap → s'.time = s.time → s'.timeValid = s.timeValid → Acc μ [] s' :=
    fun h1 h2 h3 => Acc.nil (c.frame h1 h2 h3.symm.trans)
  have cb : ∀ {s' : St} (k : Cb), (∀ t, k ≠ .timer t) → s'.heap = s.heap → s'.time = s.time →
      s'.timeValid = s.timeValid → Acc μ [Ev.out (.cb k)] s' :=
    fun k hk h1 h2 h3 => Acc.one (ms_cb c.alive c.pend k hk) (Or.inr (c.frame h1 h2 h3.symm.trans))
  cases hs with
  | collect h' batch _ e =>
    obtain ⟨h2, b2, heq, -, -, -, -, hlive, hexp⟩ :=
      collect_live s.time hI.heap (no_expired hI (by rw [hpc]; nofun) (by rw [hpc]; exact id))
    cases e.symm.trans heq
    have hf : μ.fresh = true := c.fresh (hI.time.tv (by rw [hpc]; rfl))
    refine Acc.nil ⟨c.alive, c.pend, c.clock, fun t ex => ?_, fun _ => hf, fun _ _ => hf⟩
    show _ ↔ (live h' t ∧ expOf h' t = ex)
    rw [hlive, hexp]; exact c.reg t ex
  | popTimer_cb t r hst =>
    have ht : t ∈ timerBatch s := by unfold timerBatch; rw [hst]; exact List.mem_cons_self
    have h0 : s.heap.idx[t]? = some 0 := (hI.time.bidx t).2 ht
    have hfind := find?_of_mem_unique ((c.reg _ _).2 ⟨Or.inr h0, rfl⟩) (fun ex' h => ((c.reg _ _).1 h).2.symm)
    have hle : (expOf s.heap t).gt μ.clock = false := by rw [c.clock]; exact hI.time.ble t ht
    refine Acc.one (μ1 := { μ with reg := μ.reg.filter (·.1 != t) }) ?_ (Or.inr (c.remove h0 rfl rfl))
    simp [mstep, Ivy.Mon.C04.step, c.alive, hfind, hle, c.bfresh t h0]
  | popTask_cb k | popEvent_cb e | fd_cb f n => exact cb _ (fun _ => Cb.noConfusion) rfl rfl rfl
  | exit => exact Acc.one (ms_mainRet c.alive c.pend) (Or.inr (c.frame rfl rfl id))
  | prepWait s1 abs km _ hf => exact keep (s' := { s1 with pc := _ }) (by rw [hf]) (by rw [hf]) (by rw [hf])
  | flush_clock | flush_go =>
    exact keep (s' := { flushed s with pc := _ }) (by rw [flushed_frame]) (by rw [flushed_frame]) (by rw [flushed_frame])
  | wait abs km => exact absurd ⟨abs, km, rfl⟩ hw
  | _ => exact keep rfl rfl rfl

theorem ms_api_other {μ : M} (h : μ.dead = false) (hp : μ.pending = none) (a : Api)
    (h1 : ∀ t e, a ≠ .timerRegister t e) (h2 : ∀ t, a ≠ .timerUnregister t) :
    mstep μ (.inp (.api a)) = .ok μ := by
  unfold mstep Ivy.Mon.C04.step
  rw [if_neg (by simp [h])]
  cases a with
  | timerRegister t e => exact absurd rfl (h1 t e)
  | timerUnregister t => exact absurd rfl (h2 t)
  | _ => exact congrArg _ (M.eta_pend hp)

theorem ms_inp_other {μ : M} (h : μ.dead = false) (hp : μ.pending = none) (i : Input)
    (h1 : ∀ a, i ≠ .api a) (h2 : ∀ t, i ≠ .time t) (h3 : ∀ r, i ≠ .wret r) :
    mstep μ (.inp i) = .ok μ := by
  unfold mstep Ivy.Mon.C04.step
  rw [if_neg (by simp [h])]
  cases i with
  | api a => exact absurd rfl (h1 a)
  | time t => exact absurd rfl (h2 t)
  | wret r => exact absurd rfl (h3 r)
  | _ => exact congrArg _ (M.eta_pend hp)

theorem ms_wret_enosys {μ : M} (h : μ.dead = false) (hp : μ.pending = none) :
    mstep μ (.inp (.wret .enosys)) = .ok μ := by
  unfold mstep Ivy.Mon.C04.step
  rw [if_neg (by simp [h])]
  exact congrArg _ (M.eta_pend hp)

theorem ms_wret {μ : M} (h : μ.dead = false) (hp : μ.pending = none) {r : WRes} (hr : r ≠ .enosys) :
    mstep μ (.inp (.wret r)) = .ok { μ with fresh := false } := by
  unfold mstep Ivy.Mon.C04.step
  rw [if_neg (by simp [h])]
  cases r with
  | enosys => exact absurd rfl hr
  | _ => exact congrArg (fun μ' : M => Except.ok { μ' with fresh := false }) (M.eta_pend hp)

/-- the heap changes at timer `t` only: `new = [(t, e)]` when it is registered, `[]` when it leaves the heap -/
theorem Tracks.setTimer {μ : M} {s : St} {t : Nat} (c : Tracks μ s) (h' : Store) (new : List (Nat × TS))
    (hoth : Proofs.Others s.heap h' t)
    (ht0 : h'.idx[t]? ≠ some 0) (hnew : ∀ u ex, (u, ex) ∈ new ↔ (u = t ∧ onHeap h' t ∧ expOf h' t = ex)) :
    Tracks { μ with reg := μ.reg.filter (·.1 != t) ++ new } { s with heap := h' } := by
  refine ⟨c.alive, c.pend, c.clock, fun u ex => ?_, c.fresh, fun u h0 => ?_⟩
  · show (u, ex) ∈ μ.reg.filter (·.1 != t) ++ new ↔ (live h' u ∧ expOf h' u = ex)
    simp only [List.mem_append, List.mem_filter, bne_iff_ne, ne_eq, hnew]
    by_cases hu : u = t
    · subst hu
      rw [show live h' u ↔ onHeap h' u from ⟨fun h => h.resolve_right ht0, Or.inl⟩]
      exact ⟨fun h => (h.resolve_left fun h => h.2 rfl).2, fun h => Or.inr ⟨rfl, h⟩⟩
    · obtain ⟨-, h0, ho, he⟩ := hoth u hu
      rw [show live h' u ↔ live s.heap u by unfold live; rw [h0, ho], he, c.reg u ex]
      exact ⟨fun h => (h.resolve_right fun h => hu h.1).1, fun h => Or.inl ⟨h, hu⟩⟩
  · by_cases hu : u = t
    · exact absurd (hu ▸ h0) ht0
    · exact c.bfresh u ((hoth u hu).2.1.1 h0)

theorem api_timerRegister {μ : M} {s : St} (hI : MInv s) (c : Tracks μ s) (t : Nat) (e : TS)
    (henv : apiOk s (.timerRegister t e) = true) :
    Acc μ (Ev.inp (.api (.timerRegister t e)) :: (api s (.timerRegister t e)).2.map Ev.out)
      (api s (.timerRegister t e)).1 := by
  simp only [apiOk, Bool.and_eq_true, decide_eq_true_eq] at henv
  have hm1 : mstep μ (.inp (.api (.timerRegister t e))) = .ok { μ with pending := some (t, e) } := by
    simp [mstep, Ivy.Mon.C04.step, c.alive]
  refine Acc.cons hm1 ?_
  rw [api]
  rcases Proofs.register_cases e hI.heap henv.1.1.1 with ⟨-, h', heq, -, hon, hexp, -, -, hoth⟩ | hreg
  · rw [heq]
    refine Acc.one (μ1 := { μ with reg := μ.reg.filter (·.1 != t) ++ [(t, e)] }) ?_
      (Or.inr ((c.setTimer h' [(t, e)] hoth (Proofs.onHeap_not_zero hon) fun u ex => ?_).frame rfl rfl id))
    · unfold mstep Ivy.Mon.C04.step
      rw [if_neg (by simp [c.alive])]
      exact congrArg (fun μ' : M => Except.ok { μ' with reg := μ'.reg.filter (fun p : Nat × TS => p.1 != t) ++ [(t, e)] })
        (M.eta_pend c.pend)
    · rw [List.mem_singleton, Prod.mk.injEq, hexp]
      exact ⟨fun h => ⟨h.1, hon, h.2.symm⟩, fun h => ⟨h.1, h.2.2.symm⟩⟩
  · rw [hreg]
    exact Acc.fatal (μ := { μ with pending := some (t, e) }) c.alive _ _

theorem api_timerUnregister {μ : M} {s : St} (hI : MInv s) (c : Tracks μ s) (t : Nat)
    (henv : apiOk s (.timerUnregister t) = true) :
    Acc μ (Ev.inp (.api (.timerUnregister t)) :: (api s (.timerUnregister t)).2.map Ev.out)
      (api s (.timerUnregister t)).1 := by
  simp only [apiOk, decide_eq_true_eq] at henv
  have hm1 : mstep μ (.inp (.api (.timerUnregister t))) = .ok { μ with reg := μ.reg.filter (·.1 != t) } := by
    unfold mstep Ivy.Mon.C04.step
    rw [if_neg (by simp [c.alive])]
    exact congrArg (fun μ' : M => Except.ok { μ' with reg := μ'.reg.filter (·.1 != t) }) (M.eta_pend c.pend)
  refine Acc.cons hm1 ?_
  have ret : ∀ {s' : St}, Tracks { μ with reg := μ.reg.filter (·.1 != t) } s' →
      Acc { μ with reg := μ.reg.filter (·.1 != t) } [Ev.out (.ret 0)] s' :=
    fun c' => Acc.one (ms_ret c'.alive c'.pend 0) (Or.inr c')
  rw [api]
  rcases Proofs.unregister_cases (timerBatch s) hI.heap henv with
    hun | ⟨hidx, hun⟩ | ⟨-, h', hun, -, hidx', -, -, hoth⟩ <;> rw [hun]
  · exact Acc.fatal (μ := { μ with reg := μ.reg.filter (·.1 != t) }) c.alive _ _
  · refine ret ?_
    exact c.remove hidx rfl rfl
  · have := c.setTimer h' [] hoth (fun h0 => not_live_of_neg hidx' (.inr h0))
      (fun u ex => ⟨fun h => absurd h List.not_mem_nil, fun h => absurd (.inl h.2.1) (not_live_of_neg hidx')⟩)
    rw [List.append_nil] at this
    refine ret ?_
    exact this.frame rfl rfl id

theorem api_ok {μ : M} {s : St} (hI : MInv s) (c : Tracks μ s) (hpc : s.pc = .user) (a : Api)
    (henv : apiOk s a = true) : Acc μ (Ev.inp (.api a) :: (api s a).2.map Ev.out) (api s a).1 := by
  by_cases h1 : ∃ t e, a = .timerRegister t e
  · obtain ⟨t, e, rfl⟩ := h1; exact api_timerRegister hI c t e henv
  by_cases h2 : ∃ t, a = .timerUnregister t
  · obtain ⟨t, rfl⟩ := h2; exact api_timerUnregister hI c t henv
  have h1' : ∀ t e, a ≠ .timerRegister t e := fun t e h => h1 ⟨t, e, h⟩
  have h2' : ∀ t, a ≠ .timerUnregister t := fun t h => h2 ⟨t, h⟩
  exact Acc.cons (ms_api_other c.alive c.pend a h1' h2') ((api_plain s a hpc h1' h2').acc c)

/-- a wait returned (not with `ENOSYS`): the cached clock value is invalid and the monitor's is stale -/
theorem afterWait_ok {μ : M} {s : St} (hI : MInv s) (c : Tracks μ s) (abs : Option TS) (km : Bool)
    (hpc : s.pc = .waiting abs km) (r : WRes) :
    Acc μ (Ev.inp (.wret r) :: (afterWait s abs km r).2.map Ev.out) (afterWait s abs km r).1 := by
  have fin : ∀ {r : WRes}, r ≠ .enosys →
      Acc μ (Ev.inp (.wret r) :: (afterWait s abs km r).2.map Ev.out) (afterWait s abs km r).1 := by
    intro r hr
    obtain ⟨fds, ka, kt, active, rt, runEv, b, w⟩ := afterWait_wake s abs km hr
    rw [w.eq]
    exact Acc.cons (ms_wret c.alive c.pend hr) (Acc.nil (⟨c.alive, c.pend, c.clock, c.reg, nofun,
      fun t h0 => absurd h0 (no_expired hI (by rw [hpc]; nofun) (by rw [hpc]; exact id) t)⟩))
  cases r with
  | enosys =>
    refine Acc.cons (ms_wret_enosys c.alive c.pend) ?_
    have he := afterWait_enosys_cases s abs km
    generalize afterWait s abs km .enosys = x at he ⊢
    cases he with
    | retry => exact c.quiet rfl rfl rfl id
    | fatal => exact Acc.fatal c.alive _ _
    | pollTime | pollWait => exact c.quiet rfl rfl rfl nofun
  | eintr | events l => exact fin WRes.noConfusion

theorem input_ok {μ : M} {s : St} {r : St × List Out} (hI : MInv s) (c : Tracks μ s) (i : Input)
    (henv : envOk s i = true) (hin : input s i = some r) : Acc μ (Ev.inp i :: r.2.map Ev.out) r.1 := by
  rcases input_cases hin with ⟨a, rfl, hpc, rfl⟩ | ⟨k, t, rfl, hpc, rfl⟩ | ⟨abs, km, w, rfl, hpc, rfl⟩ |
    ⟨abs, km, e, rfl, hpc, hs, _, ho⟩ | ⟨_, h1, h2, h3, hp⟩
  · simp only [envOk, Bool.and_eq_true] at henv
    exact api_ok hI c hpc a henv.1
  · have hm : mstep μ (.inp (.time t)) = .ok { μ with clock := t, fresh := true } := by
      unfold mstep Ivy.Mon.C04.step
      rw [if_neg (by simp [c.alive])]
      exact congrArg (fun μ' : M => Except.ok { μ' with clock := t, fresh := true }) (M.eta_pend c.pend)
    rw [afterTime_eq]
    exact Acc.one hm (Or.inr ⟨c.alive, c.pend, rfl, c.reg, fun _ => rfl, fun _ _ => rfl⟩)
  · exact afterWait_ok hI c abs km hpc w
  · exact Acc.cons (ms_inp_other c.alive c.pend (.xpost e) (fun _ => Input.noConfusion) (fun _ => Input.noConfusion)
      (fun _ => Input.noConfusion)) (c.quiet ho hs.heap hs.time fun h => hs.timeValid ▸ h)
  · exact Acc.cons (ms_inp_other c.alive c.pend i h1 h2 h3) (hp.acc c)

theorem tracks_init (m : Method) (ntimers : Nat) (timerfdAvail pwait2 : Bool) :
    Tracks {} (St.init m ntimers timerfdAvail pwait2) :=
  ⟨rfl, rfl, rfl, fun t _ => ⟨nofun, fun h => absurd h.1 (not_live_init _ t)⟩, nofun,
    fun t h => absurd (Or.inr h) (not_live_init _ t)⟩

theorem monitor_accepts (m : Method) (ntimers : Nat) (timerfdAvail pwait2 : Bool)
    (evs : List Ev) (s' : St) (h : Exec (St.init m ntimers timerfdAvail pwait2) evs s') :
    Ivy.Mon.C04.verdict evs = none := by
  obtain ⟨μ', hf⟩ := exec_simulation_dead (step := Ivy.Mon.C04.step) (dead := fun μ => μ.dead = true) (C := Tracks)
    (fun _ => mstep_dead) (fun hI _ c hpc => internal_ok hI c _ hpc)
    (fun {μ s i} _ _ hI _ c henv hin => input_ok hI c i henv hin) h
    (MInv.init ..) (tracks_init m ntimers timerfdAvail pwait2)
  unfold Ivy.Mon.C04.verdict runMon
  rw [hf]

/-- freshness of the clock: a valid cached time was read after the last wait returned; so was the
time an expired batch was collected against; and the clock is valid where it is used -/
def Fr (μ : M) (s : St) (batch : List Nat) : Prop :=
  (s.timeValid = true → μ.fresh = true) ∧ (batch ≠ [] → μ.fresh = true) ∧
  (needsTV s.pc = true → s.timeValid = true)

structure GoodB (μ : M) (s : St) (batch : List Nat) : Prop where
  alive : μ.dead = false
  pend : μ.pending = none
  clock : μ.clock = s.time
  timeNN : NN s.time
  hinv : HeapInv s.heap
  stk : Stk s batch
  bnodup : batch.Nodup
  bidx : ∀ t, s.heap.idx[t]? = some 0 ↔ t ∈ batch
  ble : ∀ t, t ∈ batch → (expOf s.heap t).le s.time
  reg : ∀ t ex, (t, ex) ∈ μ.reg ↔ (live s.heap t ∧ expOf s.heap t = ex)
  expNN : ∀ t, live s.heap t → NN (expOf s.heap t)
  lastNm : Nm s.lastAbs
  kt : KT s
  wait : ∀ abs km, waitArgs s.pc = some (abs, km) → WaitOk s abs km
  fr : Fr μ s batch

def Good (μ : M) (s : St) : Prop := ∃ b, GoodB μ s b

theorem GoodB.transfer {μ : M} {s s' : St} {b : List Nat} (g : GoodB μ s b)
    (hheap : s'.heap = s.heap) (htime : s'.time = s.time) (hla : Nm s'.lastAbs) (hkt : KT s')
    (hstk : Stk s' b) (hw : ∀ abs km, waitArgs s'.pc = some (abs, km) → WaitOk s' abs km)
    (htvm : s'.timeValid = true → s.timeValid = true) (htv : needsTV s'.pc = true → s'.timeValid = true) :
    GoodB μ s' b := by
  refine ⟨g.alive, g.pend, ?_, ?_, ?_, hstk, g.bnodup, ?_, ?_, ?_, ?_, hla, hkt, hw,
    ⟨fun h => g.fr.1 (htvm h), g.fr.2.1, htv⟩⟩
  · rw [htime]; exact g.clock
  · rw [htime]; exact g.timeNN
  · rw [hheap]; exact g.hinv
  · rw [hheap]; exact g.bidx
  · rw [hheap, htime]; exact g.ble
  · rw [hheap]; exact g.reg
  · rw [hheap]; exact g.expNN

theorem Good.transfer {μ : M} {s s' : St} (g : Good μ s)
    (hheap : s'.heap = s.heap) (htime : s'.time = s.time) (hkt : s'.ktimer = s.ktimer)
    (htfd : s'.timerfd = s.timerfd) (hla : s'.lastAbs = s.lastAbs) (hlc : s'.lastAbsCount = s.lastAbsCount)
    (hm : s'.method = s.method) (hstk : ∀ b, Stk s b → Stk s' b)
    (hw : waitArgs s'.pc = none ∨ waitArgs s'.pc = waitArgs s.pc)
    (htvm : s'.timeValid = true → s.timeValid = true) (htv : needsTV s'.pc = true → s'.timeValid = true) :
    Good μ s' := by
  obtain ⟨b, g⟩ := g
  refine ⟨b, g.transfer hheap htime (hla ▸ g.lastNm) ?_ (hstk b g.stk) ?_ htvm htv⟩
  · intro h1 h2
    rw [htfd, hkt, hla]
    exact g.kt (hm ▸ h1) (hlc ▸ h2)
  · intro abs km h
    rcases hw with hw | hw
    · rw [hw] at h; cases h
    · rw [hw] at h
      exact (g.wait abs km h).congr hheap htfd hkt (fun a c => ⟨hm ▸ a, hlc ▸ c⟩)

theorem GoodB.tracks {μ : M} {s : St} {b : List Nat} (g : GoodB μ s b) : Tracks μ s :=
  ⟨g.alive, g.pend, g.clock, g.reg, g.fr.1, fun t h0 => g.fr.2.1 fun e => by
    have := (g.bidx t).1 h0
    rw [e] at this; cases this⟩

theorem GoodB.of {μ : M} {s : St} (hI : MInv s) (hd : s.pc ≠ .dead) (c : Tracks μ s) : GoodB μ s (timerBatch s) :=
  ⟨c.alive, c.pend, c.clock, hI.time.timeNN, hI.heap, hI.stk hd, hI.time.bnodup, hI.time.bidx, hI.time.ble, c.reg,
    hI.time.expNN, hI.time.lastNN.nm, hI.time.kt, fun _ _ hw => hI.time.waitOk hI.heap hw,
    c.fresh, fun hb => by
      obtain ⟨t, ht⟩ := List.exists_mem_of_ne_nil _ hb
      exact c.bfresh t ((hI.time.bidx t).2 ht),
    hI.time.tv⟩

theorem GoodB.remove {μ : M} {s s' : St} {b0 b' : List Nat} {t : Nat} (gb : GoodB μ s b0) (ht : t ∈ b0)
    (hheap : s'.heap = { s.heap with idx := s.heap.idx.setIfInBounds t (-1) }) (htime : s'.time = s.time)
    (hla : Nm s'.lastAbs) (hkt : KT s') (hnd : b'.Nodup) (hb' : ∀ u, u ∈ b' ↔ (u ∈ b0 ∧ u ≠ t))
    (hstk : Stk s' b') (hw : waitArgs s'.pc = none)
    (htv : needsTV s'.pc = true → s'.timeValid = true) :
    GoodB { μ with reg := μ.reg.filter (·.1 != t) } s' b' := by
  have h0 : s.heap.idx[t]? = some 0 := (gb.bidx t).2 ht
  obtain ⟨f1, -, f3, -⟩ := setIdx_facts gb.hinv h0
  have c := gb.tracks.remove h0 hheap htime
  refine ⟨c.alive, c.pend, c.clock, ?_, ?_, hstk, hnd, ?_, ?_, c.reg, ?_, hla, hkt, ?_,
    ⟨c.fresh, fun _ => gb.tracks.bfresh t h0, htv⟩⟩
  · rw [htime]; exact gb.timeNN
  · rw [hheap]; exact f1
  · intro u
    rw [hheap, f3 u, gb.bidx u, hb']
  · intro u hu
    rw [hheap, htime]; exact gb.ble u ((hb' u).1 hu).1
  · intro u hu
    rw [hheap] at hu ⊢
    exact gb.expNN u ((live_setIdx u).1 hu).1
  · intro abs km h; rw [hw] at h; cases h

def isTimerCb : Ev → Bool
  | .out (.cb (.timer 0)) => true
  | _ => false

def isWait : Ev → Bool
  | .out (.wait ..) => true
  | _ => false

def isKernelTimerWait : Ev → Bool
  | .out (.wait _ .inf _ (some (some _)) _) => true
  | _ => false

def isMainRet : Ev → Bool
  | .out .mainRet => true
  | _ => false

/-- one timer, one bounded wait, the timer fires after the clock passed its expiry, `iv_main` returns -/
def nvInputs : List Input :=
  [.api (.timerRegister 0 ⟨1, 0⟩), .api .main, .time ⟨0, 5⟩, .wret (.events []), .time ⟨1, 7⟩, .handlerEnd]

/-- five waits for the same deadline: the fifth is unbounded with the kernel timer armed; the kernel
timer fires, the timer handler runs, `iv_main` returns -/
def nvInputsK : List Input :=
  [.api (.timerRegister 0 ⟨100, 0⟩), .api .main, .time ⟨0, 1⟩,
   .wret (.events []), .time ⟨0, 2⟩, .wret (.events []), .time ⟨0, 3⟩,
   .wret (.events []), .time ⟨0, 4⟩, .wret (.events []), .time ⟨0, 5⟩,
   .wret (.events [.ktimer]), .time ⟨100, 5⟩, .handlerEnd]

example :
    (runTrace 100 (St.init .epollTimerfd 1 true true) nvInputs).1.any isTimerCb = true ∧
    (runTrace 100 (St.init .epollTimerfd 1 true true) nvInputs).1.any isWait = true ∧
    (runTrace 100 (St.init .epollTimerfd 1 true true) nvInputs).1.any isMainRet = true ∧
    Ivy.Mon.C04.verdict (runTrace 100 (St.init .epollTimerfd 1 true true) nvInputs).1 = none :=
  ⟨by decide +kernel, by decide +kernel, by decide +kernel,
   monitor_accepts _ _ _ _ _ _ (runTrace_exec 100 _ nvInputs)⟩

example :
    (runTrace 300 (St.init .epollTimerfd 1 true true) nvInputsK).1.any isTimerCb = true ∧
    (runTrace 300 (St.init .epollTimerfd 1 true true) nvInputsK).1.any isKernelTimerWait = true ∧
    (runTrace 300 (St.init .epollTimerfd 1 true true) nvInputsK).1.any isMainRet = true ∧
    Ivy.Mon.C04.verdict (runTrace 300 (St.init .epollTimerfd 1 true true) nvInputsK).1 = none :=
  ⟨by decide +kernel, by decide +kernel, by decide +kernel,
   monitor_accepts _ _ _ _ _ _ (runTrace_exec 300 _ nvInputsK)⟩

/-- an interrupted wait: the loop reads the clock again before the next wait and before the handler -/
def nvInputsE : List Input :=
  [.api (.timerRegister 0 ⟨1, 0⟩), .api .main, .time ⟨0, 5⟩, .wret .eintr, .time ⟨0, 6⟩,
   .wret (.events []), .time ⟨1, 7⟩, .handlerEnd]

def isEintr : Ev → Bool
  | .inp (.wret .eintr) => true
  | _ => false

example :
    (runTrace 200 (St.init .epollTimerfd 1 true true) nvInputsE).1.any isEintr = true ∧
    ((runTrace 200 (St.init .epollTimerfd 1 true true) nvInputsE).1.filter isWait).length = 2 ∧
    (runTrace 200 (St.init .epollTimerfd 1 true true) nvInputsE).1.any isTimerCb = true ∧
    (runTrace 200 (St.init .epollTimerfd 1 true true) nvInputsE).1.any isMainRet = true ∧
    Ivy.Mon.C04.verdict (runTrace 200 (St.init .epollTimerfd 1 true true) nvInputsE).1 = none :=
  ⟨by decide +kernel, by decide +kernel, by decide +kernel, by decide +kernel,
   monitor_accepts _ _ _ _ _ _ (runTrace_exec 200 _ nvInputsE)⟩

/-- the monitor rejects a loop that keeps the clock value read before an interrupted wait:
the next wait's finite timeout is computed from the stale value … -/
example : (Ivy.Mon.C04.verdict
    [.inp (.api (.timerRegister 0 ⟨1, 0⟩)), .out (.ret 0), .inp (.api .main), .inp (.time ⟨0, 5⟩),
     .out (.wait "epoll_pwait2" (.ns 999999995) [] none none), .inp (.wret .eintr),
     .out (.wait "epoll_pwait2" (.ns 999999995) [] none none)]).isSome = true := by decide +kernel

/-- … or a timer handler is entered against the stale value -/
example : (Ivy.Mon.C04.verdict
    [.inp (.api (.timerRegister 1 ⟨0, 9⟩)), .out (.ret 0), .inp (.api .main), .inp (.time ⟨0, 5⟩),
     .out (.wait "epoll_pwait2" (.ns 4) [(3, ⟨true, false, false⟩)] none none),
     .inp (.wret (.events [.fd 3 { kin := true }])), .out (.cb (.fd 3 1)),
     .inp (.api (.timerRegister 0 ⟨0, 2⟩)), .out (.ret 0), .inp .handlerEnd,
     .out (.cb (.timer 0))]).isSome = true := by decide +kernel

/-! Three small facts about the vocabulary that the argument above does not use. -/

theorem onHeap_live {h : Store} {t : Nat} (ho : onHeap h t) : live h t := Or.inl ho

theorem getD_of_getElem? {a : Array Int} {t : Nat} {v : Int} (h : a[t]? = some v) : a.getD t (-1) = v := by
  simp [Array.getD_eq_getD_getElem?, h]

theorem le_of_not_gt {a b : TS} (h : a.gt b = false) : a.le b := h

end Ivy.L1.ProofsC04
