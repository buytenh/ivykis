import Ivy.L1.Exec
import Ivy.Mon.C07
/-!
# C07 (progress clause) — what is stated: the full kernel contract and the idle / source oracles

Property C07 also says: "it blocks in the kernel only when nothing is due, and every wake-up makes
progress instead of polling repeatedly without dispatching anything".  The proved monitor `Mon.C07`
does not contain that clause, because it is false under the weak kernel contract `wretOk` (the kernel
may "report" a descriptor with an empty event mask, or a kick that was never armed).  This file states
the model-side counterpart under the FULL kernel contract; `Progress.lean` proves it.  The replay driver
(`Drv/Loop.lean`) runs `idleVerdict` on every log and imports this file only.

## The strong kernel contract `wretStrong`

Everything `wretOk` says, plus for every item of a result `.events l`:
* `.fd f ev`: at least one bit of `ev` is set, and the `IN`/`OUT` bits are within what the library
  asked the kernel for (`ERR`/`HUP` are always reportable): epoll — `s.kint f = some mask`,
  `kin → mask.i`, `kout → mask.o`; poll — the same for the bands of the `pfds` entry of `f`;
* `.kick` only if `s.kickArmed` (the kick is one-shot: reported only when armed);
* `.ktimer` only if `s.ktimer.isSome` (the timerfd is reported only while it is armed).
The same clause is used for user descriptors and for the internal descriptors of raw events
(`f ≥ 1000`).

## Internal raw descriptors (`f ≥ 1000`): the choice made here

The handler of such a descriptor is `iv_event_raw_got_event`, which `read`s the eventfd / pipe before it
calls anything; the result of that `read` is the input `Input.rawRead ok`.  The full kernel contract says
"a descriptor that is reported readable is readable", i.e. `ok = true`.  The record `Ev.inp (.rawRead ok)`
does not name the descriptor, but inside one wake-up the library only ever issues that `read` from the
dispatch of a descriptor the wake-up reported (only descriptors put on `active` by this very wait result
are dispatched).  So the cleanest formulation is:

* a successful raw read (`Ev.inp (.rawRead true)`) *is* progress: it consumes the readiness that caused
  the wake-up (it drains the eventfd), exactly like a reported kick disarms the kick and a reported
  `ktimer` disarms the timerfd;
* the contract clause "reported ⇒ readable" is the hypothesis *no `Ev.inp (.rawRead false)` record occurs
  in the wake-up segment* (`isRawFail`).  `wake_progress` has it inside `idleSeg`, `wake_progress_split` as an
  explicit hypothesis on the segment; the strong trace relation `ExecS` has it built in (`envStrong`).

Without that clause the statement is false for a trivial reason that is not a defect of the library: a
kernel that reports the eventfd readable although it is not makes every wake-up idle.
-/
namespace Ivy.L1.Progress
open Ivy.L1
open Ivy.Heap (TS)

def kevAny (ev : KEv) : Bool := ev.kin || ev.kout || ev.kerr || ev.khup

def kevWithin (ev : KEv) (mask : Bands) : Bool := (!ev.kin || mask.i) && (!ev.kout || mask.o)

def itemStrong (s : St) : WItem → Bool
  | .fd f ev =>
    kevAny ev &&
    (if s.method.isEpoll then
      match s.kint f with
      | some mask => kevWithin ev mask
      | none => false
    else s.pfds.any fun p => p.1 == f && kevWithin ev p.2)
  | .kick => s.kickArmed
  | .ktimer => s.ktimer.isSome

def wretStrong (s : St) (r : WRes) : Bool :=
  wretOk s r &&
  match r with
  | .events l => l.all (itemStrong s)
  | _ => true

def hasKick (l : List WItem) : Bool := l.any fun it => match it with | .kick => true | _ => false
def hasKtimer (l : List WItem) : Bool := l.any fun it => match it with | .ktimer => true | _ => false

def isProgress : Ev → Bool
  | .out (.cb _) => true
  | .inp (.rawRead true) => true
  | _ => false

def isStop : Ev → Bool
  | .out (.wait ..) => true
  | .out .mainRet => true
  | _ => false

def isRawFail : Ev → Bool
  | .inp (.rawRead false) => true
  | _ => false

/-- `idleSeg evs = true` iff `evs = pre ++ stop :: post` where `pre` contains neither progress nor a
failed raw read: the segment reaches the next wait / the return of `iv_main` idle -/
def idleSeg : List Ev → Bool
  | [] => false
  | e :: r => !isProgress e && !isRawFail e && (isStop e || idleSeg r)

def envStrong (s : St) (i : Input) : Bool :=
  envOk s i &&
  match i with
  | .wret r => wretStrong s r
  | .rawRead okk => okk
  | _ => true

/-- `Exec` with `envStrong` in place of `envOk` -/
inductive ExecS : St → List Ev → St → Prop
  | nil (s : St) : ExecS s [] s
  | internal {s s' s'' : St} {b : Block} {outs : List Out} {evs : List Ev} :
      s.pc = .run b → internal s b = (s', outs) → ExecS s' evs s'' →
      ExecS s (outs.map Ev.out ++ evs) s''
  | input {s s' s'' : St} {i : Input} {outs : List Out} {evs : List Ev} :
      envStrong s i = true → input s i = some (s', outs) → ExecS s' evs s'' →
      ExecS s (Ev.inp i :: (outs.map Ev.out ++ evs)) s''

/-- executable trace generator under the strong contract (for the non-vacuity examples) -/
def runTraceS : Nat → St → List Input → List Ev × St
  | 0, s, _ => ([], s)
  | fuel + 1, s, inputs =>
    match s.pc with
    | .run b =>
      let r := internal s b
      let t := runTraceS fuel r.1 inputs
      (r.2.map Ev.out ++ t.1, t.2)
    | _ =>
      match inputs with
      | [] => ([], s)
      | i :: is =>
        if envStrong s i then
          match input s i with
          | some r =>
            let t := runTraceS fuel r.1 is
            (Ev.inp i :: (r.2.map Ev.out ++ t.1), t.2)
          | none => ([], s)
        else ([], s)

/-- source-aware idle oracle, zero tolerance.  State: `true` = a non-empty wake-up that reported only
descriptors has not yet entered a callback / completed a raw read.  It is an error to reach the next
wait, the return of `iv_main`, or another wait result in that state. -/
def idleStep (pend : Bool) (e : Ev) : Except String Bool :=
  match e with
  | .out (.cb _) => .ok false
  | .inp (.rawRead true) => .ok false
  | .inp (.wret r) =>
    if pend then .error "a wait returns although the previous wake-up is still undispatched" else
    match r with
    | .events l => .ok (!l.isEmpty && !hasKick l && !hasKtimer l)
    | _ => .ok false
  | .out (.wait ..) =>
    if pend then .error "idle wake-up: the wait reported descriptors, nothing was dispatched, and the loop waits again" else .ok false
  | .out .mainRet =>
    if pend then .error "idle wake-up: the wait reported descriptors, nothing was dispatched, and iv_main returns" else .ok false
  | _ => .ok pend

def idleVerdict (evs : List Ev) : Option String :=
  match runMon idleStep false evs with
  | .ok _ => none
  | .error e => some e

/-- the environment assumption of `no_spin`.  State `(k, src)`: `k` = number of wake-ups since the last
callback / empty wake-up that consumed a one-shot wake source (a reported kick, a reported kernel timer,
a successful raw read), `src` = the current wake-up is already counted.  Error: a further non-empty
wake-up although two such wake-ups have happened with no callback since. -/
def srcStep (st : Nat × Bool) (e : Ev) : Except String (Nat × Bool) :=
  match e with
  | .out (.cb _) => .ok (0, false)
  | .inp (.wret (.events l)) =>
    if l.isEmpty then .ok (0, false)
    else if st.1 ≥ 2 then .error "a third non-empty wake-up after two wake-ups that consumed one-shot wake sources without a callback"
    else
      let c := hasKick l || hasKtimer l
      .ok (if c then st.1 + 1 else st.1, c)
  | .inp (.rawRead true) => .ok (if st.2 then st.1 else st.1 + 1, true)
  | _ => .ok st

def srcVerdict (evs : List Ev) : Option String :=
  match runMon srcStep (0, false) evs with
  | .ok _ => none
  | .error e => some e

end Ivy.L1.Progress
