import Ivy.L1.CntInv
import Ivy.L1.Simulation
/-!
# The invariant of every reachable state of the L1 machine

`MInv s` holds no monitor state.  Its four groups are proved in their own modules, each through every block and every
enabled input, taking what it needs of the other groups about the state before the step:
* `core` (`Invariant.lean`): frame stack against the program counter, object lists, liveness, dispatch state, raw events;
  at a wait return it needs that the kernel can only report registered descriptors (`FdInv.kernel_registered`), at the
  entry of a timer handler that the timers of the expired batch have index 0 (`TimeInv.bidx`);
* `fd` (`FdInv.lean`): the kernel's view of the descriptors (epoll interest set and notify list, or the `pollfd` array), user
  ids, the event count; registering a raw event needs that its descriptor is unregistered (`RawInv`);
* `time` (`TimeInv.lean`): timers against the clock, the timeout-check state, the arguments of the wait; it needs the heap
  invariant and, for the inputs, that the expired batch is the only timers frame (`stk_of_shape`);
* `cnt` (`CntInv.lean`): what `numobjs` counts; it needs the exact stacks of `core`, the heap invariant, the raw-event link
  and that `eventCount` is not negative.

`exec_simulation_minv` is `exec_simulation` for a relation `MInv s ∧ C μ s`: a proof of `monitor_accepts` supplies the
correspondence `C` between its monitor and the machine, and is handed `MInv` of the states before and after each step;
`exec_simulation_dead` is that for a monitor that stops looking once the machine has died.
-/
namespace Ivy.L1
open ProofsC01 ProofsC04

structure MInv (s : St) : Prop where
  core : Core s
  fd : FdInv s
  time : TimeInv s
  cnt : Cnt s

/-- outside the dead state the exact stacks of `Shape` leave `Stk` one choice: a timers frame is the whole stack,
and only where `pcT` allows it -/
theorem stk_of_shape {s : St} (h : Shape s.pc s.stack s.handled) (hd : s.pc ≠ .dead) : Stk s (timerBatch s) := by
  have base : ∀ {st}, Base st → noT st := by
    rintro st (⟨r, rfl⟩ | ⟨a, rt, rfl⟩ | ⟨c, n, a, rt, rfl, -⟩) <;> simp [isT]
  have none : noT s.stack → Stk s (timerBatch s) := fun hn => by
    have : Stk s [] := Or.inl ⟨hn, rfl⟩
    rwa [timerBatch_of_stk this]
  have user : UserSt s.stack → pcT s.pc → Stk s (timerBatch s) := by
    rintro (e | ⟨r, e⟩ | ⟨r, e⟩ | ⟨c, n, a, rt, e, -⟩ | ⟨b, rest, e, hb⟩) hp
    · exact none (by simp [e])
    · have : Stk s r := Or.inr ⟨[], e, by simp, hp⟩
      rwa [timerBatch_of_stk this]
    · exact none (by simp [e, isT])
    · exact none (by simp [e, isT])
    · exact none (by simp [e, isT, base hb])
  generalize hp : s.pc = p at h hd
  have hT : ∀ r, s.stack = [.timers r] → pcT p → Stk s (timerBatch s) := fun r e hpT => by
    have : Stk s r := Or.inr ⟨[], e, by simp, hp ▸ hpT⟩
    rwa [timerBatch_of_stk this]
  cases p with
  | user => exact user h (hp ▸ trivial)
  | needTime k => cases k <;> first | exact user h (hp ▸ trivial) | exact none (by simp [show s.stack = [] from h])
  | waiting => exact none (by simp [show s.stack = [] from h])
  | needRawRead r =>
    obtain ⟨n, a, rt, e, -⟩ := h
    exact none (by simp [e, isT])
  | dead => exact absurd rfl hd
  | run b =>
    cases b
    case popTimer => obtain ⟨r, e⟩ := h; exact hT r e trivial
    case popTask => obtain ⟨r, e⟩ := h; exact none (by simp [e, isT])
    case runEvents | resume => exact none (base h)
    case popEvent => obtain ⟨b, rest, e, hb⟩ := h; exact none (by simp [e, isT, base hb])
    case dispatchNext => obtain ⟨a, rt, e⟩ := h; exact none (by simp [e, isT])
    case fdStage => obtain ⟨c, n, a, rt, e⟩ := h; exact none (by simp [e, isT])
    all_goals exact none (by simp [show s.stack = [] from h])

namespace MInv
variable {s : St}

theorem heap (h : MInv s) : Ivy.Heap.HeapInv s.heap := h.core.tm.1

theorem stk (h : MInv s) (hd : s.pc ≠ .dead) : Stk s (timerBatch s) := stk_of_shape h.core.shape hd

theorem shapeAt (h : MInv s) {pc : Pc} (hpc : s.pc = pc) : Shape pc s.stack s.handled := hpc ▸ h.core.shape

theorem init (m : Method) (ntimers : Nat) (timerfdAvail pwait2 : Bool) : MInv (St.init m ntimers timerfdAvail pwait2) :=
  ⟨Core.init .., FdInv.init .., TimeInv.init .., Cnt.init ..⟩

theorem step {b : Block} (h : MInv s) (hpc : s.pc = .run b) : Step s b (Ivy.L1.internal s b) :=
  step_of_core h.core (fun t => (h.time.bidx t).2) hpc

theorem internal_spec {b : Block} {s' : St} {outs : List Out} (h : MInv s) (hpc : s.pc = .run b)
    (hi : Ivy.L1.internal s b = (s', outs)) : ISpec s s' outs :=
  Ivy.L1.internal_spec h.core (fun t => (h.time.bidx t).2) hpc hi

theorem api_spec {a : Api} {s' : St} {outs : List Out} (h : MInv s) (hpc : s.pc = .user)
    (henv : envOk s (.api a) = true) (hi : api s a = (s', outs)) : ApiSpec a s s' outs :=
  Ivy.L1.api_spec h.core hpc henv hi

theorem input_spec {i : Input} {s' : St} {outs : List Out} (h : MInv s) (henv : envOk s i = true)
    (hi : Ivy.L1.input s i = some (s', outs)) (hna : ∀ a, i ≠ .api a) : ISpec s s' outs :=
  Ivy.L1.input_spec h.core h.fd.kernel_registered henv hi hna

theorem internal {b : Block} (h : MInv s) (hpc : s.pc = .run b) : MInv (internal s b).1 :=
  have hs := h.step hpc
  ⟨h.core.internal (fun t => (h.time.bidx t).2) hpc, h.fd.internal hs hpc, h.time.internal hs rfl hpc h.heap,
    h.cnt.internal hs h.heap⟩

theorem input {i : Input} {r : St × List Out} (h : MInv s) (henv : envOk s i = true) (hi : input s i = some r) :
    MInv r.1 := by
  have hd : s.pc ≠ .dead := fun e => input_of_dead e hi
  have hraw := h.core.raw
  exact ⟨h.core.input h.fd.kernel_registered henv hi, h.fd.input hraw.1 hraw.kick_iff.1 henv hi,
    h.time.input henv hi h.heap (h.stk hd), h.cnt.input h.core h.fd henv hi⟩

theorem zero (h : MInv s) (hst : s.stack = []) (h0 : s.numobjs = 0) : ∀ p, ¬ Regd s p :=
  h.cnt.zero h.core h.fd h.time hst h0

theorem own (h : MInv s) (hst : s.stack = []) (hn : ∀ p, ¬ Regd s p) (h0 : s.numobjs ≠ 0) : s.tasks ≠ [] :=
  h.cnt.own h.core h.fd hst hn h0

theorem exec {s' : St} {evs : List Ev} (h : Exec s evs s') (hI : MInv s) : MInv s' := by
  induction h with
  | nil => exact hI
  | internal hpc hi _ ih => exact ih (by have := hI.internal hpc; rwa [hi] at this)
  | input henv hi _ ih => exact ih (hI.input henv hi)

end MInv

theorem exec_simulation_minv {σ : Type} {step : σ → Ev → Except String σ} {C : σ → St → Prop}
    (hint : ∀ {μ s b}, MInv s → MInv (internal s b).1 → C μ s → s.pc = .run b →
      ∃ μ', ((internal s b).2.map Ev.out).foldlM step μ = .ok μ' ∧ C μ' (internal s b).1)
    (hinp : ∀ {μ s i s' outs}, MInv s → MInv s' → C μ s → envOk s i = true → input s i = some (s', outs) →
      ∃ μ', (Ev.inp i :: outs.map Ev.out).foldlM step μ = .ok μ' ∧ C μ' s')
    {s s' : St} {evs : List Ev} (h : Exec s evs s') (hI : MInv s) {μ : σ} (hC : C μ s) :
    ∃ μ', evs.foldlM step μ = .ok μ' ∧ C μ' s' := by
  obtain ⟨μ', e, -, hC'⟩ := exec_simulation (R := fun μ s => MInv s ∧ C μ s)
    (fun ⟨hI, hC⟩ hpc => by
      obtain ⟨μ', e, hC'⟩ := hint hI (hI.internal hpc) hC hpc
      exact ⟨μ', e, hI.internal hpc, hC'⟩)
    (fun ⟨hI, hC⟩ henv hi => by
      obtain ⟨μ', e, hC'⟩ := hinp hI (hI.input henv hi) hC henv hi
      exact ⟨μ', e, hI.input henv hi, hC'⟩)
    h ⟨hI, hC⟩
  exact ⟨μ', e, hC'⟩

/-- `exec_simulation_minv` for a monitor with an absorbing state `dead` (entered when the machine dies on `iv_fatal` or a
fault): the correspondence is only owed while the monitor is not dead -/
theorem exec_simulation_dead {σ : Type} {step : σ → Ev → Except String σ} {dead : σ → Prop} {C : σ → St → Prop}
    (habs : ∀ μ, dead μ → ∀ e, step μ e = .ok μ)
    (hint : ∀ {μ s b}, MInv s → MInv (internal s b).1 → C μ s → s.pc = .run b →
      ∃ μ', ((internal s b).2.map Ev.out).foldlM step μ = .ok μ' ∧ (dead μ' ∨ C μ' (internal s b).1))
    (hinp : ∀ {μ s i s' outs}, MInv s → MInv s' → C μ s → envOk s i = true → input s i = some (s', outs) →
      ∃ μ', (Ev.inp i :: outs.map Ev.out).foldlM step μ = .ok μ' ∧ (dead μ' ∨ C μ' s'))
    {s s' : St} {evs : List Ev} (h : Exec s evs s') (hI : MInv s) {μ : σ} (hC : C μ s) :
    ∃ μ', evs.foldlM step μ = .ok μ' := by
  obtain ⟨μ', e, -⟩ := exec_simulation_minv (C := fun μ s => dead μ ∨ C μ s)
    (fun hI hI' hC hpc => hC.elim (fun hd => ⟨_, foldlM_absorbing (habs _ hd) _, Or.inl hd⟩) (hint hI hI' · hpc))
    (fun hI hI' hC henv hi =>
      hC.elim (fun hd => ⟨_, foldlM_absorbing (habs _ hd) _, Or.inl hd⟩) (hinp hI hI' · henv hi))
    h hI (Or.inr hC)
  exact ⟨μ', e⟩

end Ivy.L1
