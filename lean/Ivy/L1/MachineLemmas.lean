import Ivy.L1.Exec
import Ivy.L0.HeapSpec
/-!
# What each helper of `Machine.lean` does, stated once

For every helper one frame equation `h s x = { s with f₁ := (h s x).f₁, … }` naming the only fields it writes, and for
the helpers that write `fds` an object equation saying which fields of a descriptor object they write (`_obj`; of the
objects of the other descriptors, `_obj_ne`).  `makeReady` and `activate` are also given by their values
(`makeReady_fds`, `makeReady_active`; `activate_eq`: three conditional `makeReady`s), `timeoutCheck` and
`taskRegisterCore` case by case.
-/
namespace Ivy.L1
open Ivy.Heap (TS)

theorem upd_apply {α : Type} (f : Nat → α) (k j : Nat) (v : α) : upd f k v j = if j = k then v else f j := rfl
@[simp] theorem upd_same {α : Type} (f : Nat → α) (k : Nat) (v : α) : upd f k v k = v := by simp [upd]
theorem upd_ne {α : Type} (f : Nat → α) {k j : Nat} (v : α) (h : j ≠ k) : upd f k v j = f j := by simp [upd, h]

theorem upd_upd {α : Type} (F : Nat → α) (k : Nat) (a b : α) : upd (upd F k a) k b = upd F k b := by
  funext j
  simp only [upd_apply]
  split <;> rfl

theorem upd_self {α : Type} (F : Nat → α) (k : Nat) : upd F k (F k) = F := by
  funext j
  simp only [upd_apply]
  split
  · next h => rw [h]
  · rfl

theorem rawFd_ge (r : RawId) : 1000 ≤ rawFd r := Nat.le_add_right 1000 r
theorem rawFd_inj {a b : RawId} (h : rawFd a = rawFd b) : a = b := Nat.add_left_cancel h

/-- the descriptors below 1000 are the user's: none is embedded in a raw event -/
theorem ne_rawFd {f : FdId} (hf : f < 1000) (r : RawId) : f ≠ rawFd r :=
  Nat.ne_of_lt (Nat.lt_of_lt_of_le hf (rawFd_ge r))

theorem rawFd_ne {r : RawId} {f : FdId} (hf : f < 1000) : rawFd r ≠ f := (ne_rawFd hf r).symm

theorem rawFd_ne_rawFd {a b : RawId} (h : a ≠ b) : rawFd a ≠ rawFd b := fun e => h (rawFd_inj e)

/-- band `b` of `r` in the numbering of `Frame.fd` and `Cb.fd`: 0 err, 1 in, 2 out -/
def Bands.get (r : Bands) : Nat → Bool
  | 0 => r.e
  | 1 => r.i
  | _ => r.o

def FdObj.handler (o : FdObj) : Nat → Bool
  | 0 => o.herr
  | 1 => o.hin
  | _ => o.hout

theorem Bands.get_union (r r' : Bands) (b : Nat) : (r.union r').get b = (r.get b || r'.get b) := by
  match b with
  | 0 => rfl
  | 1 => rfl
  | _ + 2 => rfl

theorem epollNotify_frame (s : St) (f : FdId) :
    epollNotify s f = { s with notify := (epollNotify s f).notify } := rfl

theorem epollFlushOne_frame (s : St) (f : FdId) :
    epollFlushOne s f =
      { s with notify := s.notify.erase f, kint := (epollFlushOne s f).kint, fds := (epollFlushOne s f).fds } := by
  unfold epollFlushOne
  dsimp only
  split <;> rfl

theorem pollNotify_frame (s : St) (f : FdId) :
    pollNotify s f = { s with pfds := (pollNotify s f).pfds, fds := (pollNotify s f).fds } := by
  unfold pollNotify
  dsimp only
  repeat' split
  all_goals rfl

theorem notifyFd_frame (s : St) (f : FdId) :
    notifyFd s f =
      { s with fds := (notifyFd s f).fds, notify := (notifyFd s f).notify, pfds := (notifyFd s f).pfds } := by
  unfold notifyFd
  dsimp only
  split
  · rfl
  · rw [pollNotify_frame]

theorem flushAll_frame (l : List FdId) (s : St) :
    l.foldl epollFlushOne s =
      { s with notify := (l.foldl epollFlushOne s).notify, kint := (l.foldl epollFlushOne s).kint,
               fds := (l.foldl epollFlushOne s).fds } := by
  induction l generalizing s with
  | nil => rfl
  | cons f l ih => rw [List.foldl_cons, ih, epollFlushOne_frame]

theorem fdRegisterCore_frame (s : St) (f : FdId) (hin hout herr : Bool) :
    fdRegisterCore s f hin hout herr =
      { s with fds := (fdRegisterCore s f hin hout herr).fds, notify := (fdRegisterCore s f hin hout herr).notify,
               pfds := (fdRegisterCore s f hin hout herr).pfds,
               numobjs := s.numobjs + 1, numfds := s.numfds + 1 } := by
  unfold fdRegisterCore
  dsimp only
  rw [notifyFd_frame]

theorem fdUnregisterCore_frame (s : St) (f : FdId) :
    fdUnregisterCore s f =
      { s with fds := (fdUnregisterCore s f).fds, notify := (fdUnregisterCore s f).notify,
               pfds := (fdUnregisterCore s f).pfds, kint := (fdUnregisterCore s f).kint,
               stack := s.stack.map (eraseActive · f),
               numobjs := s.numobjs - 1, numfds := s.numfds - 1,
               handled := if s.handled == some f then none else s.handled } := by
  unfold fdUnregisterCore
  dsimp only
  rw [notifyFd_frame]
  split
  · rw [epollFlushOne_frame]
  · rfl

theorem rawRegisterCore_frame (s : St) (r : RawId) :
    rawRegisterCore s r =
      { s with fds := (rawRegisterCore s r).fds, notify := (rawRegisterCore s r).notify,
               pfds := (rawRegisterCore s r).pfds, numobjs := s.numobjs + 1, numfds := s.numfds + 1,
               raws := upd s.raws r { (s.raws r) with registered := true } } := by
  unfold rawRegisterCore
  dsimp only
  rw [fdRegisterCore_frame]

theorem rawUnregisterCore_frame (s : St) (r : RawId) :
    rawUnregisterCore s r =
      { s with fds := (rawUnregisterCore s r).fds, notify := (rawUnregisterCore s r).notify,
               pfds := (rawUnregisterCore s r).pfds, kint := (rawUnregisterCore s r).kint,
               stack := s.stack.map (eraseActive · (rawFd r)),
               numobjs := s.numobjs - 1, numfds := s.numfds - 1,
               handled := if s.handled == some (rawFd r) then none else s.handled,
               raws := upd s.raws r { (s.raws r) with registered := false } } := by
  unfold rawUnregisterCore
  dsimp only
  rw [fdUnregisterCore_frame]

theorem makeReady_fds (s : St) (a : List FdId) (f : FdId) (b : Bands) :
    (makeReady s a f b).1.fds =
      upd s.fds f { s.fds f with ready := if a.contains f then (s.fds f).ready.union b else b } := by
  unfold makeReady
  dsimp only
  split <;> rfl

theorem makeReady_active (s : St) (a : List FdId) (f : FdId) (b : Bands) :
    (makeReady s a f b).2 = if a.contains f then a else a ++ [f] := by
  unfold makeReady
  dsimp only
  split <;> rfl

/-- one of the three `if (events & …) iv_fd_make_ready(…)` lines of the poll methods -/
def makeReadyIf (c : Bool) (f : FdId) (b : Bands) (x : St × List FdId) : St × List FdId :=
  if c then makeReady x.1 x.2 f b else x

theorem activate_eq (s : St) (a : List FdId) (f : FdId) (ev : KEv) :
    activate s a f ev =
      makeReadyIf (bandsOfKEv ev).e f ⟨false, false, true⟩
        (makeReadyIf (bandsOfKEv ev).o f ⟨false, true, false⟩
          (makeReadyIf (bandsOfKEv ev).i f ⟨true, false, false⟩ (s, a))) := rfl

theorem makeReady_frame (s : St) (a : List FdId) (f : FdId) (b : Bands) :
    (makeReady s a f b).1 = { s with fds := (makeReady s a f b).1.fds } := by
  unfold makeReady
  dsimp only
  split <;> rfl

theorem makeReadyIf_frame (c : Bool) (f : FdId) (b : Bands) (x : St × List FdId) :
    (makeReadyIf c f b x).1 = { x.1 with fds := (makeReadyIf c f b x).1.fds } := by
  unfold makeReadyIf
  split
  · exact makeReady_frame ..
  · rfl

theorem activate_frame (s : St) (a : List FdId) (f : FdId) (ev : KEv) :
    (activate s a f ev).1 = { s with fds := (activate s a f ev).1.fds } := by
  rw [activate_eq, makeReadyIf_frame, makeReadyIf_frame, makeReadyIf_frame]

theorem epollFlushOne_obj (s : St) (f g : FdId) :
    (epollFlushOne s f).fds g = { s.fds g with regBands := ((epollFlushOne s f).fds g).regBands } := by
  unfold epollFlushOne
  dsimp only
  split
  · rfl
  · simp only [upd_apply]
    split
    · subst_vars; rfl
    · rfl

theorem pollNotify_obj (s : St) (f g : FdId) :
    (pollNotify s f).fds g = { s.fds g with index := ((pollNotify s f).fds g).index } := by
  unfold pollNotify
  dsimp only
  repeat' split
  all_goals simp only [upd_apply]
  all_goals repeat' split
  all_goals first | rfl | (subst_vars; rfl)

theorem notifyFd_obj (s : St) (f g : FdId) :
    (notifyFd s f).fds g =
      { s.fds g with wanted := ((notifyFd s f).fds g).wanted, index := ((notifyFd s f).fds g).index } := by
  unfold notifyFd
  dsimp only
  split
  · simp only [epollNotify, upd_apply]
    split
    · subst_vars; rfl
    · rfl
  · rw [pollNotify_obj]
    simp only [upd_apply]
    split
    · subst_vars; rfl
    · rfl

theorem epollFlushOne_obj_ne (s : St) (f : FdId) {g : FdId} (h : g ≠ f) : (epollFlushOne s f).fds g = s.fds g := by
  unfold epollFlushOne
  dsimp only
  split
  · rfl
  · exact upd_ne _ _ h

theorem notifyFd_obj_ne (s : St) (f : FdId) {g : FdId} (h : g ≠ f) :
    (notifyFd s f).fds g = { s.fds g with index := ((notifyFd s f).fds g).index } := by
  unfold notifyFd
  dsimp only
  split
  · simp only [epollNotify, upd_ne _ _ h]
  · rw [pollNotify_obj]
    simp only [upd_ne _ _ h]

/-- `iv_fd_register` writes, in the objects of the other descriptors, nothing but the poll back end's `index` -/
theorem fdRegisterCore_obj_ne (s : St) (f : FdId) (a b c : Bool) {g : FdId} (h : g ≠ f) :
    (fdRegisterCore s f a b c).fds g =
      { s.fds g with index := ((fdRegisterCore s f a b c).fds g).index } := by
  unfold fdRegisterCore
  dsimp only
  rw [notifyFd_obj_ne _ _ h]
  simp only [upd_ne _ _ h]

theorem fdUnregisterCore_obj_ne (s : St) (f : FdId) {g : FdId} (h : g ≠ f) :
    (fdUnregisterCore s f).fds g = { s.fds g with index := ((fdUnregisterCore s f).fds g).index } := by
  unfold fdUnregisterCore
  dsimp only
  split
  · rw [epollFlushOne_obj_ne _ _ h, notifyFd_obj_ne _ _ h]
    simp only [upd_ne _ _ h]
  · rw [notifyFd_obj_ne _ _ h]
    simp only [upd_ne _ _ h]

theorem flushAll_obj (l : List FdId) (s : St) (g : FdId) :
    (l.foldl epollFlushOne s).fds g = { s.fds g with regBands := ((l.foldl epollFlushOne s).fds g).regBands } := by
  induction l generalizing s with
  | nil => rfl
  | cons f l ih => rw [List.foldl_cons, ih, epollFlushOne_obj]

theorem makeReady_obj (s : St) (a : List FdId) (f : FdId) (b : Bands) (g : FdId) :
    (makeReady s a f b).1.fds g = { s.fds g with ready := ((makeReady s a f b).1.fds g).ready } := by
  rw [makeReady_fds, upd_apply]
  split
  · next h => rw [h]
  · rfl

theorem makeReadyIf_obj (c : Bool) (f : FdId) (b : Bands) (x : St × List FdId) (g : FdId) :
    (makeReadyIf c f b x).1.fds g = { x.1.fds g with ready := ((makeReadyIf c f b x).1.fds g).ready } := by
  unfold makeReadyIf
  split
  · exact makeReady_obj ..
  · rfl

theorem activate_obj (s : St) (a : List FdId) (f : FdId) (ev : KEv) (g : FdId) :
    (activate s a f ev).1.fds g = { s.fds g with ready := ((activate s a f ev).1.fds g).ready } := by
  rw [activate_eq, makeReadyIf_obj, makeReadyIf_obj, makeReadyIf_obj]

theorem tsCmp_nonneg {a b : TS} : tsCmp (some a) b ≥ 0 ↔ b.le a := by
  simp only [tsCmp, TS.le, TS.gt]
  grind

theorem tsCmp_eq_zero {a : Option TS} {b : TS} : tsCmp a b = 0 ↔ a = some b := by
  cases a with
  | none => simp [tsCmp]
  | some a =>
    cases a; cases b
    simp only [tsCmp, Option.some.injEq, TS.mk.injEq]
    grind

/-- the cases in order: kernel-timer mode is kept; the same deadline is seen for the fifth time and the timerfd
is given up, or armed; it is seen once more; a new deadline restarts the count -/
theorem timeoutCheck_cases {s : St} {abs : Option TS} {r : St × Bool} (h : timeoutCheck s abs = r) :
    (s.lastAbsCount = 5 ∧ tsCmp abs s.lastAbs ≥ 0 ∧ r = (s, true)) ∨
    (abs = some s.lastAbs ∧ s.lastAbsCount = 4 ∧ s.timerfd = false ∧ s.timerfdAvail = false ∧
      r = ({ s with lastAbsCount := 5, method := .epoll }, false)) ∨
    (abs = some s.lastAbs ∧ s.lastAbsCount = 4 ∧
      r = ({ s with lastAbsCount := 5, timerfd := true, ktimer := some (if s.lastAbs.sec == 0 && s.lastAbs.nsec == 0 then ⟨0, 1⟩ else s.lastAbs) }, true)) ∨
    (abs = some s.lastAbs ∧ s.lastAbsCount ≠ 4 ∧ s.lastAbsCount ≠ 5 ∧
      r = ({ s with lastAbsCount := if s.lastAbsCount < 5 then s.lastAbsCount + 1 else s.lastAbsCount }, false)) ∨
    (abs ≠ some s.lastAbs ∧ ¬ (s.lastAbsCount = 5 ∧ tsCmp abs s.lastAbs ≥ 0) ∧
      r = ({ s with ktimer := if s.lastAbsCount = 5 then none else s.ktimer,
                    lastAbsCount := if abs.isSome then 1 else 0, lastAbs := abs.getD s.lastAbs }, false)) := by
  unfold timeoutCheck at h
  -- the `let`s stay local definitions: inlining them copies the state record into every branch
  extract_lets cmp s1 s2 v at h
  by_cases hk : s.lastAbsCount = 5 ∧ cmp ≥ 0
  · rw [if_pos (by simp [hk.1, hk.2])] at h
    exact Or.inl ⟨hk.1, hk.2, h.symm⟩
  · rw [if_neg (by simpa using hk)] at h
    by_cases ha : abs = some s.lastAbs
    · have hc : cmp = 0 := tsCmp_eq_zero.2 ha
      have h5 : s.lastAbsCount ≠ 5 := fun h => hk ⟨h, by omega⟩
      have e1 : s1 = s := if_neg (by simpa using h5)
      rw [if_pos (by simp [hc])] at h
      by_cases h4 : s.lastAbsCount = 4
      · have e2 : s2 = { s with lastAbsCount := 5 } := by
          simp only [s2, e1, h4]; rfl
        rw [e2, if_pos (by rfl)] at h
        subst ha
        by_cases hf : s.timerfd = false ∧ s.timerfdAvail = false
        · rw [if_pos (by simp [hf.1, hf.2])] at h
          exact Or.inr (Or.inl ⟨rfl, h4, hf.1, hf.2, h.symm⟩)
        · rw [if_neg (by simp_all)] at h
          exact Or.inr (Or.inr (Or.inl ⟨rfl, h4, h.symm⟩))
      · have : s2.lastAbsCount ≠ 5 := by
          simp only [s2, e1]; split <;> simp <;> omega
        rw [if_neg (by simpa using this)] at h
        refine Or.inr (Or.inr (Or.inr (Or.inl ⟨ha, h4, h5, ?_⟩)))
        rw [← h]
        simp only [s2, e1]
        split <;> rfl
    · have hc : cmp ≠ 0 := fun h => ha (tsCmp_eq_zero.1 h)
      rw [if_neg (by simpa using hc)] at h
      refine Or.inr (Or.inr (Or.inr (Or.inr ⟨ha, hk, ?_⟩)))
      rw [← h]
      cases abs <;> (simp only [s1]; split <;> simp_all)

theorem timeoutCheck_frame (s : St) (abs : Option TS) :
    (timeoutCheck s abs).1 =
      { s with method := (timeoutCheck s abs).1.method, lastAbs := (timeoutCheck s abs).1.lastAbs,
               lastAbsCount := (timeoutCheck s abs).1.lastAbsCount, ktimer := (timeoutCheck s abs).1.ktimer,
               timerfd := (timeoutCheck s abs).1.timerfd } := by
  rcases timeoutCheck_cases (s := s) (abs := abs) rfl with
    ⟨_, _, e⟩ | ⟨_, _, _, _, e⟩ | ⟨_, _, e⟩ | ⟨_, _, _, e⟩ | ⟨_, _, e⟩
  all_goals rw [e]

theorem timeoutCheck_method (s : St) (abs : Option TS) :
    (timeoutCheck s abs).1.method = s.method ∨ (timeoutCheck s abs).1.method = .epoll := by
  rcases timeoutCheck_cases (s := s) (abs := abs) rfl with ⟨_, _, e⟩ | ⟨_, _, _, _, e⟩ | ⟨_, _, e⟩ | ⟨_, _, _, e⟩ | ⟨_, _, e⟩
  all_goals rw [e]
  · exact Or.inl rfl
  · exact Or.inr rfl
  all_goals exact Or.inl rfl

/-- `iv_fd_timeout_check` is called under `epollTimerfd` and can only fall back to `epoll` -/
theorem timeoutCheck_isEpoll (s : St) (abs : Option TS) (hm : s.method = .epollTimerfd) :
    (timeoutCheck s abs).1.method.isEpoll = s.method.isEpoll := by
  rcases timeoutCheck_method s abs with h | h <;> rw [h, hm] <;> rfl

/-- `iv_task_register`: the task joins the global list, or — while `iv_run_tasks` runs and the task has not run in
this round — the batch being run -/
theorem taskRegisterCore_cases (s : St) (k : TaskId) :
    taskRegisterCore s k = { s with numobjs := s.numobjs + 1, tasks := s.tasks ++ [k] } ∨
    (inRunTasks s = true ∧ (s.tobjs k).epoch ≠ s.taskEpoch ∧
      taskRegisterCore s k =
        { s with numobjs := s.numobjs + 1, stack := s.stack.map (appendTaskBatch · k) }) := by
  unfold taskRegisterCore
  dsimp only
  split
  · exact Or.inl rfl
  · next hc =>
    simp only [Bool.or_eq_true, Bool.not_eq_true', not_or, Bool.not_eq_false, beq_iff_eq] at hc
    exact Or.inr ⟨hc.1, hc.2, rfl⟩

theorem taskRegisterCore_frame (s : St) (k : TaskId) :
    taskRegisterCore s k =
      { s with numobjs := s.numobjs + 1, tasks := (taskRegisterCore s k).tasks,
               stack := (taskRegisterCore s k).stack } := by
  unfold taskRegisterCore
  dsimp only
  split <;> rfl

end Ivy.L1

/-! ## `iv_fd_register_try`, and the descriptor objects after registering and unregistering

The names of this section are in `Ivy.L1.ProofsC02`, where the invariants of the descriptors are stated over them. -/
namespace Ivy.L1.ProofsC02
open Ivy.L1

/-- the state after a failed `iv_fd_register_try` -/
def tryFail (s : St) (f : FdId) (hin hout herr : Bool) : St :=
  let o := s.fds f
  let o := { o with hin, hout, herr, registered := false, ready := {}, regBands := {}, index := none,
                    wanted := if (hin || hout || herr) then ⟨hin, hout, herr⟩ else ⟨true, true, false⟩ }
  { s with fds := upd s.fds f o, notify := s.notify.erase f }

/-- the state after a successful `iv_fd_register_try` -/
def trySucc (s : St) (f : FdId) (hin hout herr : Bool) : St :=
      let o := s.fds f
      let o := { o with hin, hout, herr, registered := true, ready := {}, regBands := {}, index := none }
      let orig := wantedOf o
      let w : Bands := if orig.isZero then ⟨true, true, false⟩ else orig
      let s := { s with fds := upd s.fds f { o with wanted := w }, notify := s.notify.erase f }
      let s := if s.method.isEpoll then epollFlushOne s f else pollNotify s f
      let s :=
        if orig.isZero then
          let o := s.fds f
          let s := { s with fds := upd s.fds f { o with wanted := {} } }
          if s.method.isEpoll then epollNotify s f else pollNotify s f
        else s
      { s with numobjs := s.numobjs + 1, numfds := s.numfds + 1 }

theorem api_tryFail (s : St) (f : FdId) (i o e : Bool) (hu : (s.fds f).registered = false) :
    api s (.fdRegisterTry f i o e false) = (tryFail s f i o e, [Out.ret (-1)]) := by
  simp [api, hu, tryFail]

theorem api_trySucc (s : St) (f : FdId) (i o e : Bool) (hu : (s.fds f).registered = false) :
    api s (.fdRegisterTry f i o e true) = (trySucc s f i o e, [Out.ret 0]) := by
  simp [api, hu, trySucc, ok]

theorem upd_rel {α : Type} {R : α → α → Prop} {F : Nat → α} {k : Nat} {v : α} (hrefl : ∀ a, R a a)
    (h : R (F k) v) (j : Nat) : R (F j) (upd F k v j) := by
  rw [upd_apply]
  split
  · next e => subst e; exact h
  · exact hrefl _

/-- the object after `iv_fd_register_prologue` -/
abbrev regObj (o1 : FdObj) (i o e : Bool) : FdObj :=
  { o1 with hin := i, hout := o, herr := e, registered := true, ready := {}, regBands := {}, index := none }

/-- the synchronous kernel registration of `iv_fd_register_try` -/
def tsB (s1 : St) (f : FdId) : St := if s1.method.isEpoll then epollFlushOne s1 f else pollNotify s1 f

/-- the way back to an empty `wanted` when no handler is set -/
def tsC (s2 : St) (f : FdId) : St :=
  let s3 := { s2 with fds := upd s2.fds f { (s2.fds f) with wanted := {} } }
  if s3.method.isEpoll then epollNotify s3 f else pollNotify s3 f

theorem trySucc_eq (s : St) (f : FdId) (i o e : Bool) :
    trySucc s f i o e =
      (let o1 : FdObj := (regObj (s.fds f) i o e)
       let w : Bands := if (wantedOf o1).isZero then ⟨true, true, false⟩ else wantedOf o1
       let s2 := tsB { s with fds := upd s.fds f { o1 with wanted := w }, notify := s.notify.erase f } f
       let s4 := if (wantedOf o1).isZero then tsC s2 f else s2
       { s4 with numobjs := s4.numobjs + 1, numfds := s4.numfds + 1 }) := rfl

theorem tsB_frame (s1 : St) (f : FdId) :
    tsB s1 f = { s1 with fds := (tsB s1 f).fds, notify := (tsB s1 f).notify, pfds := (tsB s1 f).pfds,
                         kint := (tsB s1 f).kint } := by
  unfold tsB
  split
  · rw [epollFlushOne_frame]
  · rw [pollNotify_frame]

theorem tsC_frame (s2 : St) (f : FdId) :
    tsC s2 f = { s2 with fds := (tsC s2 f).fds, notify := (tsC s2 f).notify, pfds := (tsC s2 f).pfds } := by
  unfold tsC
  dsimp only
  split
  · rw [epollNotify_frame]
  · rw [pollNotify_frame]

theorem trySucc_frame (s : St) (f : FdId) (i o e : Bool) :
    trySucc s f i o e =
      { s with fds := (trySucc s f i o e).fds, notify := (trySucc s f i o e).notify,
               pfds := (trySucc s f i o e).pfds, kint := (trySucc s f i o e).kint,
               numobjs := s.numobjs + 1, numfds := s.numfds + 1 } := by
  rw [trySucc_eq]
  dsimp only
  split
  · rw [tsC_frame, tsB_frame]
  · rw [tsB_frame]

theorem upd_wanted (F : FdId → FdObj) (f : FdId) (o : FdObj) (w : Bands) (g : FdId) :
    upd F f { o with wanted := w } g = { upd F f o g with wanted := (upd F f { o with wanted := w } g).wanted } := by
  simp only [upd_apply]
  split <;> rfl

theorem tsB_obj (s1 : St) (f g : FdId) :
    (tsB s1 f).fds g =
      { s1.fds g with regBands := ((tsB s1 f).fds g).regBands, index := ((tsB s1 f).fds g).index } := by
  unfold tsB
  split
  · rw [epollFlushOne_obj]
  · rw [pollNotify_obj]

theorem tsC_obj (s2 : St) (f g : FdId) :
    (tsC s2 f).fds g = { s2.fds g with wanted := ((tsC s2 f).fds g).wanted, index := ((tsC s2 f).fds g).index } := by
  unfold tsC
  dsimp only
  split
  · rw [epollNotify_frame]
    dsimp only
    rw [upd_wanted, upd_self]
  · rw [pollNotify_obj]
    dsimp only
    rw [upd_wanted, upd_self]

theorem trySucc_obj (s : St) (f : FdId) (i o e : Bool) (g : FdId) :
    (trySucc s f i o e).fds g =
      { upd s.fds f (regObj (s.fds f) i o e) g with
        wanted := ((trySucc s f i o e).fds g).wanted, regBands := ((trySucc s f i o e).fds g).regBands,
        index := ((trySucc s f i o e).fds g).index } := by
  suffices h : ∃ w r j, (trySucc s f i o e).fds g =
      { upd s.fds f (regObj (s.fds f) i o e) g with wanted := w, regBands := r, index := j } by
    obtain ⟨w, r, j, h⟩ := h
    rw [h]
  rw [trySucc_eq]
  extract_lets +onlyGivenNames o1 w s2 s4
  have h2 : s2.fds g = { upd s.fds f { o1 with wanted := w } g with
      regBands := (s2.fds g).regBands, index := (s2.fds g).index } := tsB_obj _ f g
  have h4 : ∃ w' j', s4.fds g = { s2.fds g with wanted := w', index := j' } := by
    simp only [s4]
    split
    · exact ⟨_, _, tsC_obj s2 f g⟩
    · exact ⟨_, _, rfl⟩
  obtain ⟨w', j', h4⟩ := h4
  refine ⟨w', (s2.fds g).regBands, j', ?_⟩
  show s4.fds g = _
  rw [h4, h2, upd_wanted]
/-- of any descriptor object `iv_fd_register` keeps what the prologue set, but for `wanted` and `index` -/
theorem fdRegisterCore_obj (s : St) (f : FdId) (i o e : Bool) (g : FdId) :
    (fdRegisterCore s f i o e).fds g =
      { upd s.fds f (regObj (s.fds f) i o e) g with
        wanted := ((fdRegisterCore s f i o e).fds g).wanted, index := ((fdRegisterCore s f i o e).fds g).index } := by
  unfold fdRegisterCore
  dsimp only
  rw [notifyFd_obj]

theorem fdUnregisterCore_obj (s : St) (f : FdId) (g : FdId) :
    (fdUnregisterCore s f).fds g =
      { upd s.fds f { (s.fds f) with registered := false } g with
        wanted := ((fdUnregisterCore s f).fds g).wanted, regBands := ((fdUnregisterCore s f).fds g).regBands,
        index := ((fdUnregisterCore s f).fds g).index } := by
  unfold fdUnregisterCore
  dsimp only
  split
  · rw [epollFlushOne_obj, notifyFd_obj]
  · rw [notifyFd_obj]

end Ivy.L1.ProofsC02
