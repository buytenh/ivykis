import Ivy.Mon.C01
import Ivy.L1.MInv
/-!
# C01 — proof that every trace of the L1 machine is accepted by the monitor `Ivy.Mon.C01`

Method: a relation `C μ s` between the monitor state and the machine state: the monitor is live with no pending
registration handshake and its `reg` list enumerates, without duplicates, the machine's registered sets `Regd s`
(`RegOk`).  In a state with the machine invariant `MInv s`, which holds along every execution, every internal block
(`MInv.internal_spec`), every API call (`MInv.api_spec`) and every other input (`MInv.input_spec`) emits records the
monitor accepts and keeps `C`, or the machine dies on `iv_fatal` and the monitor with it (`internal_ok`, `input_ok`):
`ISpec.fold` and `ApiSpec.fold` run the monitor over the records those specifications of `Invariant.lean` allow.  They
rest on its first group `Core` and on two facts of the others: at `popTimer`, that the expired batch has `idx = 0`
(`TimeInv.bidx`); at a wait return, that a descriptor the kernel may report is registered
(`FdInv.kernel_registered`).  The induction over `Exec` is `exec_simulation_dead`.
-/
namespace Ivy.L1.ProofsC01
open Ivy.L1 Ivy.Heap
open Ivy.Mon.C01 (M)

def RegOk (reg : List (Nat × Nat)) (s : St) : Prop := reg.Nodup ∧ ∀ p, p ∈ reg ↔ Regd s p

theorem RegOk.same {reg s s'} (h : RegOk reg s) (hs : ∀ p, Regd s' p ↔ Regd s p) : RegOk reg s' :=
  ⟨h.1, fun p => (h.2 p).trans (hs p).symm⟩

theorem RegOk.add {reg s s' p} (h : RegOk reg s) (hs : ∀ q, Regd s' q ↔ (q = p ∨ Regd s q)) :
    RegOk (reg.erase p ++ [p]) s' := by
  refine ⟨?_, fun q => ?_⟩
  · rw [List.nodup_append]
    refine ⟨h.1.erase p, by simp, ?_⟩
    intro a ha b hb
    simp at hb
    subst hb
    intro hab
    subst hab
    exact (List.Nodup.mem_erase_iff h.1).1 ha |>.1 rfl
  · rw [hs q, ← h.2 q]
    by_cases hq : q = p
    · simp [hq]
    · simp [hq, List.mem_erase_of_ne hq]

theorem RegOk.del {reg s s' p} (h : RegOk reg s) (hs : ∀ q, Regd s' q ↔ (q ≠ p ∧ Regd s q)) :
    RegOk (reg.erase p) s' := by
  refine ⟨h.1.erase p, fun q => ?_⟩
  rw [hs q, ← h.2 q, List.Nodup.mem_erase_iff h.1]

abbrev mstep := Ivy.Mon.C01.step

def C (μ : M) (s : St) : Prop := ∃ reg, μ = ⟨reg, none, false⟩ ∧ RegOk reg s

theorem step_quiet (reg : List (Nat × Nat)) (o : Out) (h : isQuiet o = true) :
    mstep ⟨reg, none, false⟩ (.out o) = .ok ⟨reg, none, false⟩ := by
  cases o <;> simp [isQuiet] at h <;> rfl

theorem fold_quiet (reg : List (Nat × Nat)) (outs : List Out) (h : QuietOuts outs) :
    (outs.map Ev.out).foldlM mstep ⟨reg, none, false⟩ = .ok ⟨reg, none, false⟩ := by
  induction outs with
  | nil => rfl
  | cons o outs ih =>
    rw [List.map_cons, List.foldlM_cons, step_quiet reg o (h o (by simp))]
    exact ih (fun o' ho' => h o' (by simp [ho']))

theorem step_fatal (reg : List (Nat × Nat)) (pd : Option (Nat × Nat)) (m : String) :
    mstep ⟨reg, pd, false⟩ (.out (.fatal m)) = .ok ⟨reg, pd, true⟩ := rfl

theorem step_cb_internal (reg : List (Nat × Nat)) (f b : Nat) (h : 1000 ≤ f) :
    mstep ⟨reg, none, false⟩ (.out (.cb (.fd f b))) = .ok ⟨reg, none, false⟩ := by
  simp [mstep, Ivy.Mon.C01.step, h]

theorem step_cb (reg : List (Nat × Nat)) (c : Cb) (h : cbObj c ∈ reg) :
    mstep ⟨reg, none, false⟩ (.out (.cb c)) = .ok ⟨if cbOnce c then reg.erase (cbObj c) else reg, none, false⟩ := by
  cases c <;> simp_all [mstep, Ivy.Mon.C01.step, cbObj, cbOnce]

theorem step_api (reg : List (Nat × Nat)) (a : Api) :
    mstep ⟨reg, none, false⟩ (.inp (.api a)) = .ok (match classify a with
      | .reg p => ⟨reg, some p, false⟩
      | .unreg p => ⟨reg.erase p, none, false⟩
      | .other => ⟨reg, none, false⟩) := by
  cases a <;> rfl

theorem step_ret_pending (reg : List (Nat × Nat)) (p : Nat × Nat) (v : Int) :
    mstep ⟨reg, some p, false⟩ (.out (.ret v)) = .ok ⟨if v == 0 then reg.erase p ++ [p] else reg, none, false⟩ := rfl

theorem ISpec.fold {s s' outs reg} (hreg : RegOk reg s) (h : ISpec s s' outs) :
    ∃ μ', (outs.map Ev.out).foldlM mstep ⟨reg, none, false⟩ = .ok μ' ∧ (μ'.dead = true ∨ C μ' s') := by
  cases h with
  | quiet hq _ hr => exact ⟨_, fold_quiet reg outs hq, Or.inr ⟨reg, rfl, hreg.same hr⟩⟩
  | cbInt f b hf ho _ hr =>
    subst ho
    refine ⟨⟨reg, none, false⟩, ?_, Or.inr ⟨reg, rfl, hreg.same hr⟩⟩
    simp [step_cb_internal reg f b hf]
  | cb c ho _ hin hr =>
    subst ho
    have hmem := (hreg.2 _).2 hin
    refine ⟨_, by simp [step_cb reg c hmem]; rfl, Or.inr ⟨_, rfl, ?_⟩⟩
    by_cases hone : cbOnce c = true
    · simp only [hone, if_true] at hr ⊢
      exact hreg.del hr
    · simp only [hone] at hr ⊢
      simp only [Bool.false_eq_true, if_false]
      exact hreg.same hr
  | fatal m ho _ =>
    subst ho
    exact ⟨⟨reg, none, true⟩, rfl, Or.inl rfl⟩

theorem ApiSpec.fold {a s s' outs reg} (hreg : RegOk reg s) (h : ApiSpec a s s' outs) :
    ∃ μ', (Ev.inp (.api a) :: outs.map Ev.out).foldlM mstep ⟨reg, none, false⟩ = .ok μ' ∧
      (μ'.dead = true ∨ C μ' s') := by
  rw [List.foldlM_cons, step_api]
  simp only [bind, Except.bind]
  rcases h.2 with ⟨m, rfl⟩ | h
  · cases classify a <;> exact ⟨_, rfl, Or.inl rfl⟩
  · cases hc : classify a with
    | reg p =>
      rw [hc] at h
      simp only at h ⊢
      rcases h with ⟨rfl, hr⟩ | ⟨v, hv, rfl, hr⟩
      · exact ⟨_, rfl, Or.inr ⟨_, rfl, hreg.add hr⟩⟩
      · refine ⟨⟨reg, none, false⟩, ?_, Or.inr ⟨_, rfl, hreg.same hr⟩⟩
        simp [List.foldlM, step_ret_pending, hv, bind, Except.bind, pure, Except.pure]
    | unreg p =>
      rw [hc] at h
      simp only at h ⊢
      exact ⟨_, fold_quiet _ outs h.1, Or.inr ⟨_, rfl, hreg.del h.2⟩⟩
    | other =>
      rw [hc] at h
      simp only at h ⊢
      exact ⟨_, fold_quiet _ outs h.1, Or.inr ⟨_, rfl, hreg.same h.2⟩⟩

theorem internal_ok {μ : M} {s s' : St} {b : Block} {outs} (hI : MInv s) (hC : C μ s) (hpc : s.pc = .run b)
    (h : internal s b = (s', outs)) :
    ∃ μ', (outs.map Ev.out).foldlM mstep μ = .ok μ' ∧ (μ'.dead = true ∨ C μ' s') := by
  obtain ⟨reg, rfl, hreg⟩ := hC
  exact ISpec.fold hreg (hI.internal_spec hpc h)

theorem input_ok {μ : M} {s s' : St} {i : Input} {outs} (hI : MInv s) (hC : C μ s) (henv : envOk s i = true) (h : input s i = some (s', outs)) :
    ∃ μ', (Ev.inp i :: outs.map Ev.out).foldlM mstep μ = .ok μ' ∧ (μ'.dead = true ∨ C μ' s') := by
  obtain ⟨reg, rfl, hreg⟩ := hC
  by_cases ha : ∃ a, i = .api a
  · obtain ⟨a, rfl⟩ := ha
    have hpc : s.pc = .user := pc_of_input h
    simp only [input, hpc, Option.some.injEq] at h
    exact ApiSpec.fold hreg (hI.api_spec hpc henv h)
  · -- the monitor looks at no input but the API calls
    have hi : mstep ⟨reg, none, false⟩ (.inp i) = .ok ⟨reg, none, false⟩ := by
      cases i <;> first | rfl | exact absurd ⟨_, rfl⟩ ha
    rw [List.foldlM_cons, hi]
    exact ISpec.fold hreg (hI.input_spec henv h fun a e => ha ⟨a, e⟩)

theorem regOk_init (m : Method) (ntimers : Nat) (timerfdAvail pwait2 : Bool) :
    RegOk [] (St.init m ntimers timerfdAvail pwait2) := by
  refine ⟨by simp, ?_⟩
  apply Regd_cases <;> intro x <;> simp [Regd5, St.init, Store.init]
  by_cases hx : x < ntimers <;> simp [hx]

theorem monitor_accepts (m : Method) (ntimers : Nat) (timerfdAvail pwait2 : Bool)
    (evs : List Ev) (s' : St) (h : Exec (St.init m ntimers timerfdAvail pwait2) evs s') :
    Ivy.Mon.C01.verdict evs = none := by
  obtain ⟨μ', hμ⟩ := exec_simulation_dead (step := Ivy.Mon.C01.step) (dead := fun μ => μ.dead = true) (C := C)
    (fun μ (hd : μ.dead = true) e => by simp [Ivy.Mon.C01.step, hd])
    (fun hI _ hC hpc => internal_ok hI hC hpc rfl) (fun hI _ hC henv hi => input_ok hI hC henv hi)
    h (MInv.init m ntimers timerfdAvail pwait2) ⟨[], rfl, regOk_init m ntimers timerfdAvail pwait2⟩
  unfold Ivy.Mon.C01.verdict runMon
  have : (List.foldlM Ivy.Mon.C01.step ({} : M) evs) = .ok μ' := hμ
  rw [this]

/-! ## non-vacuity: a run with a task, an event and a descriptor callback, each object unregistered and
freed inside its own handler, and a kernel wait in between -/

def demoInputs : List Input :=
  [.api (.fdRegister 3 true false false), .api (.taskRegister 1), .api (.evRegister 5 true), .api (.evPost 5),
   .api .main,
   .handlerEnd,                                      -- task 1's handler returns
   .api (.evUnregister 5), .free 3 5, .handlerEnd,   -- event 5's handler unregisters and frees it
   .wret (.events [.fd 3 { kin := true }]),          -- the kernel reports descriptor 3 readable
   .api (.fdUnregister 3), .free 0 3, .handlerEnd]   -- descriptor 3's handler unregisters and frees it

def cbOf : Ev → Option Cb
  | .out (.cb c) => some c
  | _ => none

def isWait : Ev → Bool
  | .out (.wait ..) => true
  | _ => false

def isMainRet : Ev → Bool
  | .out .mainRet => true
  | _ => false

example :
    Exec (St.init .epoll 0) (runTrace 80 (St.init .epoll 0) demoInputs).1 (runTrace 80 (St.init .epoll 0) demoInputs).2 ∧
    (runTrace 80 (St.init .epoll 0) demoInputs).1.filterMap cbOf = [.task 1, .event 5, .fd 3 1] ∧
    (runTrace 80 (St.init .epoll 0) demoInputs).1.any isWait = true ∧
    (runTrace 80 (St.init .epoll 0) demoInputs).1.any isMainRet = true ∧
    Ivy.Mon.C01.verdict (runTrace 80 (St.init .epoll 0) demoInputs).1 = none :=
  ⟨runTrace_exec _ _ _, by decide, by decide, by decide,
   monitor_accepts .epoll 0 true true _ _ (runTrace_exec 80 (St.init .epoll 0) demoInputs)⟩

/-- the monitor is not trivially accepting: a callback after the unregister call returned is rejected,
and so is any `fault` record -/
example : Ivy.Mon.C01.verdict
    [.inp (.api (.fdRegister 3 true false false)), .out (.ret 0), .inp (.api (.fdUnregister 3)), .out (.ret 0),
     .out (.cb (.fd 3 1))] ≠ none := by decide

example : Ivy.Mon.C01.verdict [.out (.fault "use-after-free")] ≠ none := by decide

end Ivy.L1.ProofsC01
