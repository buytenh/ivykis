import Ivy.Generated.Tables
import Ivy.L1.Select
import Ivy.L2.Signal
import Ivy.Drv.Loop
/-!
# T-gen "finite tables": the model's pure helper functions agree with what the C code computes

`Ivy/Generated/Tables.lean` is rewritten before every build by `/verif/gen/gen_tables.py`: a small white-box
extractor (`/verif/gen/tables_h.c`, rebuilt from /repo's current sources) EXECUTES the real functions and prints
their value tables.  The theorems below state, by `decide` (kernel evaluation, no `native_decide`), that the
definitions the L1/L2 models are built from agree with those tables.  A change to one of the C functions changes
a table and breaks the theorem named after it at the next check.

| table(s)                                         | C function(s)                                               | model definition                         | domain            |
|--------------------------------------------------|-------------------------------------------------------------|------------------------------------------|-------------------|
| `wanted`                                         | iv_fd.c `recompute_wanted_flags`                            | `wantedOf`                               | complete (16)     |
| `epollMask`                                      | iv_fd_epoll.c `bits_to_poll_mask`                           | `epollMask`                              | complete (8)      |
| `pollMask`                                       | iv_fd_poll.c `bits_to_poll_mask`                            | `pollMaskOf` (= the driver's `fmtBandsPoll`) | complete (8)  |
| `epollEventBand`, `epollTimerfdEventBand`        | the event→band lines of `iv_fd_epoll_poll` / `iv_fd_epoll_timerfd_poll` | `bandsOfKEv`                 | complete (16 each)|
| `pollEventBand`                                  | `iv_fd_poll_activate_fds`                                   | `bandsOfKEv`                             | complete (16)     |
| `timespec`, `timespecCmpNull`                    | iv_private.h `timespec_gt`, `to_relative`, `to_msec`; iv_fd.c `timespec_cmp` | `TS.gt`, `toRelative`, `toMsec`, `tsCmp` | SAMPLED grid |
| `signalObjs`, `signalCompare`                    | iv_signal.c `iv_signal_compare`                             | `Ivy.Signal.less` (three-way: `cmp3`)    | all pairs of 8 objects |
| `exclude`                                        | iv_fd.c `method_is_excluded`                                | `Select.excludeWords` / `Select.eligible`| SAMPLE            |

For the complete-domain tables each theorem has two halves: every row of the table is what the model computes, and
every input of the model has its row in the table (so the table is not short).  The timespec grid
(sec ∈ {0,1,2,86399,86400,86401} × nsec ∈ {0,1,499999,500000,999999,10⁶,10⁹−1}, all ordered pairs; NULL first operand
for `timespec_cmp`) and the exclude sample are finite samples that cover every branch of the C functions; the
unbounded statements about the arithmetic are proved separately from the definitions (`Ivy/L1/TimeInv.lean`).

Band sets appear in the tables as numbers: in = 1, out = 2, err = 4 (`Bands.code`); the extractor adds 8 when the C
code sets any bit outside MASKIN|MASKOUT|MASKERR, which no `Bands.code` equals.  Kernel masks carry a residual
column (all bits other than the named ones) which the theorems require to be 0: the model knows no other bits.
-/
namespace Ivy.L1.TablesAgree
open Ivy.L1 Ivy.Generated
open Ivy.Heap (TS)

/-- the number the extractor prints for a band set -/
def Bands.code (b : Bands) : Nat := (if b.i then 1 else 0) + (if b.o then 2 else 0) + (if b.e then 4 else 0)

def allBands : List Bands :=
  [⟨false, false, false⟩, ⟨true, false, false⟩, ⟨false, true, false⟩, ⟨true, true, false⟩,
   ⟨false, false, true⟩, ⟨true, false, true⟩, ⟨false, true, true⟩, ⟨true, true, true⟩]

theorem mem_allBands (b : Bands) : b ∈ allBands := by
  rcases b with ⟨_ | _, _ | _, _ | _⟩ <;> decide

def allKEv : List KEv :=
  [false, true].flatMap fun a => [false, true].flatMap fun b => [false, true].flatMap fun c =>
    [false, true].map fun d => ⟨a, b, c, d⟩

theorem mem_allKEv (ev : KEv) : ev ∈ allKEv := by
  rcases ev with ⟨_ | _, _ | _, _ | _, _ | _⟩ <;> decide

theorem mem_bools (b : Bool) : b ∈ [false, true] := by
  cases b <;> decide

theorem wantedOf_congr (o : FdObj) :
    wantedOf o = wantedOf { registered := o.registered, hin := o.hin, hout := o.hout, herr := o.herr } := rfl

theorem wanted_table_agrees :
    (∀ r ∈ Tables.wanted,
      Bands.code (wantedOf { registered := r.1, hin := r.2.1, hout := r.2.2.1, herr := r.2.2.2.1 }) = r.2.2.2.2) ∧
    (∀ o : FdObj, (o.registered, o.hin, o.hout, o.herr, Bands.code (wantedOf o)) ∈ Tables.wanted) := by
  have h : ∀ r ∈ [false, true], ∀ i ∈ [false, true], ∀ u ∈ [false, true], ∀ e ∈ [false, true],
      (r, i, u, e, Bands.code (wantedOf { registered := r, hin := i, hout := u, herr := e })) ∈ Tables.wanted := by
    decide +kernel
  refine ⟨by decide +kernel, fun o => ?_⟩
  rw [wantedOf_congr o]
  exact h _ (mem_bools _) _ (mem_bools _) _ (mem_bools _) _ (mem_bools _)

/-- iv_fd_epoll.c: the kernel is asked for EPOLLIN iff `(epollMask b).i`, for EPOLLOUT iff `(epollMask b).o`, and
for nothing else (`(epollMask b).e = false`: there is no err bit to ask for) -/
theorem epoll_mask_table_agrees :
    (∀ r ∈ Tables.epollMask, ∀ b ∈ allBands, Bands.code b = r.1 →
      (epollMask b).i = r.2.1 ∧ (epollMask b).o = r.2.2.1 ∧ (epollMask b).e = false ∧ r.2.2.2 = 0) ∧
    (∀ b : Bands, (Bands.code b, (epollMask b).i, (epollMask b).o, 0) ∈ Tables.epollMask) := by
  have h : ∀ b ∈ allBands, (Bands.code b, (epollMask b).i, (epollMask b).o, 0) ∈ Tables.epollMask := by decide +kernel
  exact ⟨by decide +kernel, fun b => h b (mem_allBands b)⟩

/-- iv_fd_poll.c `bits_to_poll_mask` as a model definition: (POLLIN, POLLOUT, POLLHUP) requested for a band set.
The L1 machine keeps the band set itself in `pfds`; the mask only shows in the replay driver's rendering of the
`WAIT` record, which `fmtBandsPoll_eq` ties to this definition. -/
def pollMaskOf (b : Bands) : Bool × Bool × Bool := (b.i, b.o, b.i || b.o || b.e)

def fmtPollMask (m : Bool × Bool × Bool) : String :=
  (if m.1 then "i" else "") ++ (if m.2.1 then "o" else "") ++ (if m.2.2 then "h" else "")

theorem fmtBandsPoll_eq (b : Bands) : Ivy.Drv.Loop.fmtBandsPoll b = fmtPollMask (pollMaskOf b) := rfl

theorem fmtBandsEpoll_eq (b : Bands) :
    Ivy.Drv.Loop.fmtBandsEpoll b = (if (epollMask b).i then "i" else "") ++ (if (epollMask b).o then "o" else "") := rfl

theorem poll_mask_table_agrees :
    (∀ r ∈ Tables.pollMask, ∀ b ∈ allBands, Bands.code b = r.1 →
      pollMaskOf b = (r.2.1, r.2.2.1, r.2.2.2.1) ∧ r.2.2.2.2 = 0) ∧
    (∀ b : Bands, (Bands.code b, (pollMaskOf b).1, (pollMaskOf b).2.1, (pollMaskOf b).2.2, 0) ∈ Tables.pollMask) := by
  have h : ∀ b ∈ allBands,
      (Bands.code b, (pollMaskOf b).1, (pollMaskOf b).2.1, (pollMaskOf b).2.2, 0) ∈ Tables.pollMask := by decide +kernel
  exact ⟨by decide +kernel, fun b => h b (mem_allBands b)⟩

/-- what one row of an event table says about the model: the bands, and "put on the active list iff some band" -/
def evRowOk (r : Bool × Bool × Bool × Bool × Nat × Bool) : Prop :=
  let b := bandsOfKEv ⟨r.1, r.2.1, r.2.2.1, r.2.2.2.1⟩
  Bands.code b = r.2.2.2.2.1 ∧ (!b.isZero) = r.2.2.2.2.2

instance (r) : Decidable (evRowOk r) := by unfold evRowOk; infer_instance

def evRowOf (ev : KEv) : Bool × Bool × Bool × Bool × Nat × Bool :=
  (ev.kin, ev.kout, ev.kerr, ev.khup, Bands.code (bandsOfKEv ev), !(bandsOfKEv ev).isZero)

/-- both epoll poll functions (plain and timerfd variant) -/
theorem epoll_event_band_table_agrees :
    (∀ r ∈ Tables.epollEventBand, evRowOk r) ∧ (∀ r ∈ Tables.epollTimerfdEventBand, evRowOk r) ∧
    (∀ ev : KEv, evRowOf ev ∈ Tables.epollEventBand ∧ evRowOf ev ∈ Tables.epollTimerfdEventBand) := by
  have h : ∀ ev ∈ allKEv, evRowOf ev ∈ Tables.epollEventBand ∧ evRowOf ev ∈ Tables.epollTimerfdEventBand := by
    decide +kernel
  exact ⟨by decide +kernel, by decide +kernel, fun ev => h ev (mem_allKEv ev)⟩

theorem poll_event_band_table_agrees :
    (∀ r ∈ Tables.pollEventBand, evRowOk r) ∧ (∀ ev : KEv, evRowOf ev ∈ Tables.pollEventBand) := by
  have h : ∀ ev ∈ allKEv, evRowOf ev ∈ Tables.pollEventBand := by decide +kernel
  exact ⟨by decide +kernel, fun ev => h ev (mem_allKEv ev)⟩

/-- row `(a, b, gt, rel, msec, cmp)`: `timespec_gt(a,b)`, `to_relative`/`to_msec` with `now = b`, `abs = a`,
`timespec_cmp(a,b)` -/
def tsRowOk (r : Int × Int × Int × Int × Bool × Int × Int × Int × Int) : Prop :=
  let a : TS := ⟨r.1, r.2.1⟩
  let b : TS := ⟨r.2.2.1, r.2.2.2.1⟩
  TS.gt a b = r.2.2.2.2.1 ∧
  toRelative b a = ⟨r.2.2.2.2.2.1, r.2.2.2.2.2.2.1⟩ ∧
  toMsec b a = r.2.2.2.2.2.2.2.1 ∧
  tsCmp (some a) b = r.2.2.2.2.2.2.2.2

instance (r) : Decidable (tsRowOk r) := by unfold tsRowOk; infer_instance

/-- SAMPLED: every row of the grid; the NULL rows are `timespec_cmp(NULL, b) = 1` -/
theorem timespec_tables_agree :
    (∀ r ∈ Tables.timespec, tsRowOk r) ∧
    (∀ r ∈ Tables.timespecCmpNull, tsCmp none ⟨r.1, r.2.1⟩ = r.2.2) := by
  refine ⟨?_, by decide +kernel⟩
  -- the table is a left-nested `++` of 42 chunks: evaluated as one list, every row would be walked through every
  -- enclosing `++`; chunk by chunk it is not
  unfold Tables.timespec
  simp only [List.forall_mem_append]
  decide +kernel

open Ivy.Signal in
/-- the signal model's state in which interest `i` is object `i` of the extractor's array (ids = address order) -/
def sigState : Ivy.Signal.State :=
  { State.init 1 with
    sig := fun i => (Tables.signalObjs.getD i (0, false, false)).1,
    excl := fun i => (Tables.signalObjs.getD i (0, false, false)).2.1,
    this := fun i => (Tables.signalObjs.getD i (0, false, false)).2.2 }

/-- the three-way comparator the model's `less` stands for -/
def cmp3 (st : Ivy.Signal.State) (a b : Nat) : Int :=
  if Ivy.Signal.less st a b then -1 else if Ivy.Signal.less st b a then 1 else 0

theorem signal_compare_table_agrees :
    (∀ r ∈ Tables.signalCompare, cmp3 sigState r.1 r.2.1 = r.2.2) ∧
    (∀ i ∈ List.range Tables.signalObjs.length, ∀ j ∈ List.range Tables.signalObjs.length,
      (i, j, cmp3 sigState i j) ∈ Tables.signalCompare) := by
  refine ⟨by decide +kernel, by decide +kernel⟩

open Ivy.L1.Select in
/-- row `(exclude, name, excluded)`: `name` is one of the words the model's parser yields; and for the names of the
four methods, eligibility (with every `init` succeeding) is the negation -/
def exRowOk (r : Option String × String × Bool) : Prop :=
  ((match r.1 with | some s => excludeWords s | none => []).contains r.2.1) = r.2.2 ∧
  ∀ m ∈ candidates, methodName m = r.2.1 → eligible r.1 (fun _ => true) m = !r.2.2

instance (r) : Decidable (exRowOk r) := by unfold exRowOk; infer_instance

open Ivy.L1.Select in
/-- the eligibility clause of `exRowOk` is the negation of its first clause, by the definition of `eligible` -/
theorem exRowOk_of_contains (r : Option String × String × Bool)
    (h : ((match r.1 with | some s => excludeWords s | none => []).contains r.2.1) = r.2.2) : exRowOk r :=
  ⟨h, fun m _ hm => by
    obtain ⟨_ | s, name, b⟩ := r <;> simp only [eligible, hm, Bool.and_true] <;> exact congrArg (!·) h⟩

open Ivy.L1.Select in
theorem excludeWords_eq (s : String) : excludeWords s = words s.toList [] (2 * s.toList.length + 2) := by
  simp [excludeWords, String.length_toList]

open Ivy.L1.Select in
theorem exclude_table_agrees : ∀ r ∈ Tables.exclude, exRowOk r := by
  have h : ∀ r ∈ Tables.exclude,
      ((match r.1 with | some s => excludeWords s | none => []).contains r.2.1) = r.2.2 := by
    -- the kernel decodes a string literal in quadratic time: let it decode each once, not for `toList` and `length` both
    simp only [excludeWords_eq]
    decide +kernel
  exact fun r hr => exRowOk_of_contains r (h r hr)

/-! ## Non-vacuity: the tables have the expected sizes (an extractor that fails leaves them empty) -/

/-- chunk by chunk, as in `timespec_tables_agree` -/
theorem timespec_length : Tables.timespec.length = 1764 := by
  unfold Tables.timespec
  simp only [List.length_append]
  decide +kernel

example : Tables.extractorError = "" := rfl
example : Tables.wanted.length = 16 := rfl
example : Tables.epollMask.length = 8 := rfl
example : Tables.pollMask.length = 8 := rfl
example : Tables.epollEventBand.length = 16 := rfl
example : Tables.epollTimerfdEventBand.length = 16 := rfl
example : Tables.pollEventBand.length = 16 := rfl
example : Tables.timespec.length = 1764 := timespec_length
example : Tables.timespecCmpNull.length = 42 := rfl
example : Tables.signalObjs.length = 8 := rfl
example : Tables.signalCompare.length = 64 := rfl
example : Tables.exclude.length = 207 := by decide +kernel

/-- the sizes as one citable statement -/
theorem table_sizes :
    Tables.wanted.length = 16 ∧ Tables.epollMask.length = 8 ∧ Tables.pollMask.length = 8 ∧
    Tables.epollEventBand.length = 16 ∧ Tables.epollTimerfdEventBand.length = 16 ∧ Tables.pollEventBand.length = 16 ∧
    Tables.timespec.length = 1764 ∧ Tables.timespecCmpNull.length = 42 ∧
    Tables.signalObjs.length = 8 ∧ Tables.signalCompare.length = 64 ∧ Tables.exclude.length = 207 ∧
    Tables.extractorError = "" :=
  ⟨rfl, rfl, rfl, rfl, rfl, rfl, timespec_length, by decide +kernel⟩

end Ivy.L1.TablesAgree
