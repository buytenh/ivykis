import Ivy.L1.StepLemmas
/-!
# API calls by kind, and the other inputs

`api_effect` says three things of an API call that do not depend on one another: the fields it can write, by the kind of
the call (`ApiKind.writes`, a record equation in the form of `MachineLemmas`); the frame stack edited frame by frame
(`ApiKind.Edits`); the return to the caller with which output (`ApiCtl`).  `api_frame` is the first alone, and `ApiRes`,
the bare shape of an API result, is read off `ApiCtl`.  With these a proof file shows by `cases k <;> rfl` on the table
alone that the calls it is not concerned with write none of the fields it reads, without opening `api`.  Of the
descriptor OBJECTS, `api_objEffect` says what the calls that are not on a user descriptor do: they work on the object of
a raw event's descriptor at most (`Api.rawFd?`) and leave the others alone but for `index` (`ObjEffect`).  What a call
on a user descriptor does to the objects is in the object equations of `MachineLemmas`, call by call, and the files that
need it open those calls.  The other inputs, `afterTime`, `freeObj` and `initObj`, have an equation each; what becomes
of the descriptor and task objects when memory is freed or initialised is in `freeObj_fds`, `freeObj_tobjs`,
`initObj_fds`, `initObj_tobjs`.  The blocks of the loop are in `Step.lean`, branch by branch.
-/
namespace Ivy.L1
open Ivy.Heap (TS)

/-- the API calls by the object they concern and, where calls on one kind of object differ in that, by the fields
they write -/
inductive ApiKind
  | fd | timer | task | init | event | post | raw | clock | loop

def Api.kind : Api → ApiKind
  | .fdRegister .. | .fdRegisterTry .. | .fdUnregister _ | .fdSetIn .. | .fdSetOut .. | .fdSetErr .. => .fd
  | .timerRegister .. | .timerUnregister _ => .timer
  | .taskRegister _ | .taskUnregister _ => .task
  | .taskInit _ => .init
  | .evRegister .. | .evUnregister _ => .event
  | .evPost _ => .post
  | .rawRegister .. | .rawUnregister _ => .raw
  | .invalidateNow => .clock
  | .quit | .validateNow | .main => .loop

/-- `s` with the fields an API call of kind `k` can write taken from `s'` (registering the first event and
unregistering the last one register and unregister a raw event; posting an event registers a task) -/
def ApiKind.writes (k : ApiKind) (s s' : St) : St :=
  match k with
  | .fd =>
    { s with fds := s'.fds, notify := s'.notify, pfds := s'.pfds, kint := s'.kint, stack := s'.stack,
             numobjs := s'.numobjs, numfds := s'.numfds, handled := s'.handled, pc := s'.pc }
  | .timer => { s with heap := s'.heap, numobjs := s'.numobjs, stack := s'.stack, pc := s'.pc }
  | .task => { s with numobjs := s'.numobjs, tasks := s'.tasks, stack := s'.stack, pc := s'.pc }
  | .init => { s with tobjs := s'.tobjs }
  | .event =>
    { s with useRaw := s'.useRaw, numobjs := s'.numobjs, eventCount := s'.eventCount, kickReg := s'.kickReg,
             kickArmed := s'.kickArmed, pending := s'.pending, evs := s'.evs, raws := s'.raws,
             fds := s'.fds, notify := s'.notify, pfds := s'.pfds, kint := s'.kint, stack := s'.stack,
             numfds := s'.numfds, handled := s'.handled }
  | .post => { s with pending := s'.pending, numobjs := s'.numobjs, tasks := s'.tasks, stack := s'.stack }
  | .raw =>
    { s with raws := s'.raws, fds := s'.fds, notify := s'.notify, pfds := s'.pfds, kint := s'.kint,
             stack := s'.stack, numobjs := s'.numobjs, numfds := s'.numfds, handled := s'.handled }
  | .clock => { s with timeValid := false }
  | .loop => { s with quit := s'.quit, pc := s'.pc }

/-- the edits a call of kind `k` can make to the frames of the stack: none; an unregistered descriptor leaves the
active list; `iv_timer_unregister` rewrites the expired batch; a task joins or leaves the batch being run; an
unregistered event leaves the batch being delivered, and the last one takes the kick raw event's descriptor with it -/
inductive ApiKind.Edits : ApiKind → (Frame → Frame) → Prop
  | none (k : ApiKind) : Edits k id
  | fd (f : FdId) : Edits .fd (eraseActive · f)
  | raw (r : RawId) : Edits .raw (eraseActive · (rawFd r))
  | timer (b : List Nat) : Edits .timer (setTimerBatch · b)
  | register (k : TaskId) : Edits .task (appendTaskBatch · k)
  | unregister (k : TaskId) : Edits .task (eraseTask · k)
  | event (e : EvId) : Edits .event (eraseEvent · e)
  | lastEvent (e : EvId) : Edits .event ((eraseActive · (rawFd 0)) ∘ (eraseEvent · e))
  | post : Edits .post (appendTaskBatch · 0)

/-- what an API call returns and where control goes: the thread dies; the call returns a value, or nothing, to the
caller; `iv_validate_now` reads the clock; `iv_main` starts the loop -/
inductive ApiCtl (s : St) (a : Api) : St × List Out → Prop
  | dead (o : Out) : isBad o = true → ApiCtl s a ({ s with pc := .dead }, [o])
  | ret (s' : St) (v : Int) : s'.pc = s.pc → ApiCtl s a (s', [.ret v])
  | nil (s' : St) : s'.pc = s.pc → ApiCtl s a (s', [])
  | validate : a = .validateNow → s.timeValid = false → ApiCtl s a ({ s with pc := .needTime .forValidate }, [])
  | main : a = .main → s.stack = [] → ApiCtl s a ({ s with quit := false, pc := .run (.mainTop true) }, [])

structure ApiEffect (s : St) (a : Api) (x : St × List Out) : Prop where
  frame : x.1 = a.kind.writes s x.1
  stack : ∃ φ, a.kind.Edits φ ∧ x.1.stack = s.stack.map φ
  ctl : ApiCtl s a x

theorem api_effect (s : St) (a : Api) : ApiEffect s a (api s a) := by
  have ite : ∀ {c : Prop} [Decidable c] {x y : St × List Out}, (c → ApiEffect s a x) → (¬ c → ApiEffect s a y) →
      ApiEffect s a (if c then x else y) := by
    intro c _ x y hx hy
    split
    · next h => exact hx h
    · next h => exact hy h
  have same : ∃ φ, a.kind.Edits φ ∧ s.stack = s.stack.map φ := ⟨_, .none _, (List.map_id _).symm⟩
  have dead : ∀ o, isBad o = true → (a.kind.writes s { s with pc := .dead } = { s with pc := .dead }) →
      ApiEffect s a ({ s with pc := .dead }, [o]) := fun o ho e => ⟨e.symm, same, .dead _ ho⟩
  have ret : ∀ (s1 : St) (v : Int), s1 = a.kind.writes s s1 → s1.pc = s.pc →
      (∃ φ, a.kind.Edits φ ∧ s1.stack = s.stack.map φ) → ApiEffect s a (ok s1 v) :=
    fun s1 v h1 h2 h3 => ⟨h1, h3, .ret _ _ h2⟩
  have nil : ∀ (s1 : St), s1 = a.kind.writes s s1 → s1.pc = s.pc →
      (∃ φ, a.kind.Edits φ ∧ s1.stack = s.stack.map φ) → ApiEffect s a (s1, []) :=
    fun s1 h1 h2 h3 => ⟨h1, h3, .nil _ h2⟩
  cases a with
  | fdRegister f i o e =>
    rw [api]
    have h := fdRegisterCore_frame s f i o e
    generalize fdRegisterCore s f i o e = s1 at h ⊢
    exact ite (fun _ => dead _ rfl rfl) (fun _ => ret s1 _ (by rw [h]; rfl) (by rw [h]) (by rw [h]; exact same))
  | fdUnregister f =>
    rw [api]
    have h := fdUnregisterCore_frame s f
    generalize fdUnregisterCore s f = s1 at h ⊢
    exact ite (fun _ => dead _ rfl rfl)
      (fun _ => ret s1 _ (by rw [h]; rfl) (by rw [h]) (by rw [h]; exact ⟨_, .fd f, rfl⟩))
  | fdSetIn f v | fdSetOut f v | fdSetErr f v =>
    rw [api]
    refine ite (fun _ => dead _ rfl rfl) (fun _ => ?_)
    exact ret _ _ (by rw [notifyFd_frame]; rfl) (by rw [notifyFd_frame]) (by rw [notifyFd_frame]; exact same)
  | fdRegisterTry f i o e k =>
    cases hu : (s.fds f).registered with
    | true => rw [api, if_pos hu]; exact dead _ rfl rfl
    | false =>
      cases k with
      | false => rw [ProofsC02.api_tryFail s f i o e hu]; exact ⟨rfl, same, .ret _ _ rfl⟩
      | true =>
        rw [ProofsC02.api_trySucc s f i o e hu]
        have h := ProofsC02.trySucc_frame s f i o e
        generalize ProofsC02.trySucc s f i o e = s1 at h ⊢
        exact ret s1 _ (by rw [h]; rfl) (by rw [h]) (by rw [h]; exact same)
  | timerRegister t e =>
    rw [api]
    split
    · exact ret _ _ rfl rfl same
    · exact dead _ rfl rfl
    · exact dead _ rfl rfl
  | timerUnregister t =>
    rw [api]
    split
    · exact ⟨rfl, ⟨_, .timer _, rfl⟩, .ret _ _ rfl⟩
    · exact dead _ rfl rfl
    · exact dead _ rfl rfl
  | taskRegister k =>
    rw [api]
    refine ite (fun _ => dead _ rfl rfl) (fun _ => ?_)
    rcases taskRegisterCore_cases s k with e | ⟨_, _, e⟩ <;> rw [e]
    · exact ret _ _ rfl rfl same
    · exact ret _ _ rfl rfl ⟨_, .register k, rfl⟩
  | taskUnregister k =>
    exact ite (fun _ => dead _ rfl rfl) (fun _ => ret _ _ rfl rfl ⟨_, .unregister k, rfl⟩)
  | taskInit k => exact nil _ rfl rfl same
  | evRegister e k =>
    rcases api_evRegister_cases s e k with ⟨_, he⟩ | ⟨_, _, _, he⟩ | ⟨_, _, _, he⟩ | ⟨_, _, _, he⟩ <;> rw [he]
    · exact ret _ _ rfl rfl same
    · exact ret _ _ rfl rfl same
    · have h := rawRegisterCore_frame { s with numobjs := s.numobjs + 1, eventCount := s.eventCount + 1, useRaw := true } 0
      generalize rawRegisterCore _ 0 = s1 at h ⊢
      exact ret _ _ (by rw [h]; rfl) (by rw [h]) (by rw [h]; exact same)
    · exact ⟨rfl, same, .ret _ _ rfl⟩
  | evUnregister e =>
    rcases api_evUnregister_cases s e with ⟨_, he⟩ | ⟨_, _, he⟩ | ⟨_, _, he⟩ <;> rw [he]
    · exact ret _ _ rfl rfl ⟨_, .event e, rfl⟩
    · exact ret _ _ rfl rfl ⟨_, .event e, rfl⟩
    · have h := rawUnregisterCore_frame (evUnregMid s e) 0
      generalize rawUnregisterCore _ 0 = s1 at h ⊢
      exact ret _ _ (by rw [h]; rfl) (by rw [h]; rfl)
        (by rw [h]; exact ⟨_, .lastEvent e, List.map_map⟩)
  | evPost e =>
    rw [api]
    refine ite (fun _ => nil _ rfl rfl same) (fun _ => ite (fun _ => ?_) (fun _ => nil _ rfl rfl same))
    rcases taskRegisterCore_cases { s with pending := s.pending ++ [e] } 0 with h | ⟨_, _, h⟩ <;> rw [h]
    · exact nil _ rfl rfl same
    · exact nil _ rfl rfl ⟨_, .post, rfl⟩
  | rawRegister r k =>
    rw [api]
    refine ite (fun _ => ⟨rfl, same, .ret _ _ rfl⟩) (fun _ => ?_)
    have h := rawRegisterCore_frame s r
    generalize rawRegisterCore s r = s1 at h ⊢
    exact ret _ _ (by rw [h]; rfl) (by rw [h]) (by rw [h]; exact same)
  | rawUnregister r =>
    rw [api]
    have h := rawUnregisterCore_frame s r
    generalize rawUnregisterCore s r = s1 at h ⊢
    exact nil _ (by rw [h]; rfl) (by rw [h]) (by rw [h]; exact ⟨_, .raw r, rfl⟩)
  | quit => exact nil _ rfl rfl same
  | invalidateNow => exact nil _ rfl rfl same
  | validateNow =>
    exact ite (fun _ => nil _ rfl rfl same) (fun h => ⟨rfl, same, .validate rfl (Bool.eq_false_iff.2 h)⟩)
  | main =>
    rw [api]
    split
    · next hst => exact ⟨rfl, same, .main rfl hst⟩
    · exact dead _ rfl rfl

theorem api_frame (s : St) (a : Api) : (api s a).1 = a.kind.writes s (api s a).1 := (api_effect s a).frame

/-- the descriptor of the raw event that a call registers or unregisters: with the first event registered and the last
one unregistered, the kick raw event -/
def Api.rawFd? : Api → Option FdId
  | .rawRegister r _ | .rawUnregister r => some (rawFd r)
  | .evRegister .. | .evUnregister _ => some (rawFd 0)
  | _ => none

/-- it is none of the user's descriptors -/
theorem Api.rawFd?_raw (a : Api) : ∃ x, 1000 ≤ x ∧ ∀ g, g ≠ x → some g ≠ a.rawFd? := by
  cases a with
  | rawRegister r | rawUnregister r => exact ⟨_, rawFd_ge r, fun g hg h => hg (Option.some.inj h)⟩
  | evRegister | evUnregister => exact ⟨_, rawFd_ge 0, fun g hg h => hg (Option.some.inj h)⟩
  | _ => exact ⟨1000, Nat.le_refl _, fun _ _ => nofun⟩

/-- of the descriptor objects `x` differs from `s` in that of `o` and in the poll indices only, and `handled` is as in
`s`, or cleared if it was `o`.  It is for the calls that are not on a user descriptor: they leave the user's descriptor
objects alone and touch `handled` only to clear it for the raw event's own descriptor (`api_objEffect`) -/
def ObjEffect (s : St) (o : Option FdId) (x : St) : Prop :=
  (∀ g, some g ≠ o → x.fds g = { s.fds g with index := (x.fds g).index }) ∧
  (x.handled = s.handled ∨ s.handled = o ∧ x.handled = none)

theorem ObjEffect.of_eq {s x : St} (o : Option FdId) (h1 : x.fds = s.fds) (h2 : x.handled = s.handled) :
    ObjEffect s o x :=
  ⟨fun g _ => by rw [h1], .inl h2⟩

theorem ObjEffect.trans {s x y : St} {o : Option FdId} (h1 : ObjEffect s o x) (h2 : ObjEffect x o y) :
    ObjEffect s o y :=
  ⟨fun g hg => by rw [h2.1 g hg, h1.1 g hg],
    h2.2.elim (fun e2 => h1.2.imp e2.trans fun e1 => ⟨e1.1, e2.trans e1.2⟩)
      fun e2 => .inr ⟨h1.2.elim (fun e1 => e1.symm.trans e2.1) (·.1), e2.2⟩⟩

theorem rawRegisterCore_objEffect (s : St) (r : RawId) : ObjEffect s (some (rawFd r)) (rawRegisterCore s r) := by
  unfold rawRegisterCore
  exact ObjEffect.trans ⟨fun _ hg => fdRegisterCore_obj_ne s _ true false false (hg ∘ congrArg some),
    .inl ((congrArg St.handled (fdRegisterCore_frame s _ true false false)).trans rfl)⟩ (.of_eq _ rfl rfl)

theorem rawUnregisterCore_objEffect (s : St) (r : RawId) : ObjEffect s (some (rawFd r)) (rawUnregisterCore s r) := by
  unfold rawUnregisterCore
  refine ObjEffect.trans ⟨fun _ hg => fdUnregisterCore_obj_ne s _ (hg ∘ congrArg some), ?_⟩ (.of_eq _ rfl rfl)
  rw [(congrArg St.handled (fdUnregisterCore_frame s (rawFd r))).trans rfl]
  split
  · next h => exact .inr ⟨eq_of_beq h, rfl⟩
  · exact .inl rfl

theorem api_objEffect (s : St) (a : Api) (hk : a.kind ≠ .fd) : ObjEffect s a.rawFd? (api s a).1 := by
  have rest : (∀ s', (a.kind.writes s s').fds = s.fds ∧ (a.kind.writes s s').handled = s.handled) →
      ObjEffect s a.rawFd? (api s a).1 := fun h =>
    .of_eq _ ((congrArg St.fds (api_frame s a)).trans (h _).1) ((congrArg St.handled (api_frame s a)).trans (h _).2)
  cases a with
  | fdRegister | fdUnregister | fdSetIn | fdSetOut | fdSetErr | fdRegisterTry => exact absurd rfl hk
  | evRegister e k =>
    rcases api_evRegister_cases s e k with ⟨_, he⟩ | ⟨_, _, _, he⟩ | ⟨_, _, _, he⟩ | ⟨_, _, _, he⟩ <;> rw [he]
    · exact .of_eq _ rfl rfl
    · exact .of_eq _ rfl rfl
    · exact rawRegisterCore_objEffect { s with numobjs := s.numobjs + 1, eventCount := s.eventCount + 1, useRaw := true } 0
    · exact .of_eq _ rfl rfl
  | evUnregister e =>
    rcases api_evUnregister_cases s e with ⟨_, he⟩ | ⟨_, _, he⟩ | ⟨_, _, he⟩ <;> rw [he]
    · exact .of_eq _ rfl rfl
    · exact .of_eq _ rfl rfl
    · exact rawUnregisterCore_objEffect (evUnregMid s e) 0
  | rawRegister r k =>
    rw [api]
    split
    · exact .of_eq _ rfl rfl
    · exact rawRegisterCore_objEffect s r
  | rawUnregister r => exact rawUnregisterCore_objEffect s r
  | _ => exact rest fun _ => ⟨rfl, rfl⟩

/-- where the loop goes on once it has the time -/
def TimeK.resume : TimeK → Pc
  | .forTimers => .run .collect
  | .forWait abs km => .run (.wait abs km)
  | .forValidate => .user

theorem afterTime_eq (s : St) (t : TS) (k : TimeK) :
    afterTime s t k = ({ s with time := t, timeValid := true, pc := k.resume }, []) := by
  cases k <;> rfl

theorem freeObj_frame (s : St) (kind id : Nat) :
    freeObj s kind id = { s with fds := (freeObj s kind id).fds, tlive := (freeObj s kind id).tlive,
                                 tobjs := (freeObj s kind id).tobjs, evs := (freeObj s kind id).evs,
                                 raws := (freeObj s kind id).raws } := by
  unfold freeObj
  split <;> rfl

theorem initObj_frame (s : St) (kind id : Nat) :
    initObj s kind id = { s with fds := (initObj s kind id).fds, tlive := (initObj s kind id).tlive,
                                 tobjs := (initObj s kind id).tobjs, evs := (initObj s kind id).evs,
                                 raws := (initObj s kind id).raws } := by
  unfold initObj
  split <;> rfl

/-- freed memory: of a descriptor object and of a task object only the `live` flag can change -/
theorem freeObj_fds (s : St) (kind id : Nat) (g : FdId) :
    (freeObj s kind id).fds g = { s.fds g with live := ((freeObj s kind id).fds g).live } := by
  unfold freeObj
  split <;> first
    | rfl
    | exact ProofsC02.upd_rel (R := fun o o' : FdObj => o' = { o with live := o'.live }) (fun _ => rfl) rfl g

theorem freeObj_tobjs (s : St) (kind id : Nat) (t : TaskId) :
    (freeObj s kind id).tobjs t = { s.tobjs t with live := ((freeObj s kind id).tobjs t).live } := by
  unfold freeObj
  split <;> first
    | rfl
    | exact ProofsC02.upd_rel (R := fun o o' : TaskObj => o' = { o with live := o'.live }) (fun _ => rfl) rfl t

/-- initialised memory: the descriptor objects are as they were unless the object is a descriptor, which is then as
`IV_FD_INIT` leaves it; and so for the task objects -/
theorem initObj_fds (s : St) (kind id : Nat) :
    (initObj s kind id).fds = s.fds ∨ kind = 0 ∧ (initObj s kind id).fds = upd s.fds id { live := true } := by
  unfold initObj
  split <;> first | exact .inl rfl | exact .inr ⟨rfl, rfl⟩

theorem initObj_tobjs (s : St) (kind id : Nat) :
    (initObj s kind id).tobjs = s.tobjs ∨
      kind = 2 ∧ (initObj s kind id).tobjs = upd s.tobjs id { epoch := s.taskEpoch, live := true } := by
  unfold initObj
  split <;> first | exact .inl rfl | exact .inr ⟨rfl, rfl⟩


inductive ApiRes (s : St) : St × List Out → Prop
  | ret (s' : St) (v : Int) : ApiRes s (s', [.ret v])
  | nil (s' : St) : ApiRes s (s', [])
  | dead (o : Out) : isBad o = true → ApiRes s ({ s with pc := .dead }, [o])

theorem ApiCtl.res {s : St} {a : Api} {x : St × List Out} (h : ApiCtl s a x) : ApiRes s x := by
  cases h with
  | dead o ho => exact .dead o ho
  | ret s' v => exact .ret s' v
  | nil s' | validate | main => exact .nil _

theorem api_res (s : St) (a : Api) : ApiRes s (api s a) := (api_effect s a).ctl.res

end Ivy.L1
