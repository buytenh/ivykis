import Ivy.L1.MachineLemmas
/-!
# What the return of the kernel wait does

`afterWait` for a list of reported items is a fold of `waitStep` followed by `afterEvents`.  `WaitFold` describes the
result of the fold exactly (`waitStep_spec`): the fields written, what a reported kick and a reported kernel timer did,
and, as `Coll`, which descriptors `iv_fd_make_ready` collected with which bands.  There are three ways in, by what a
proof needs: `afterWait_events_state` is the state after reported items with `WaitFold` of it, `afterWait_eintr_eq` the
state after `EINTR`; `Wake` is what both leave, without the collection (`afterWait_wake`); `WaitEnosys` is the `ENOSYS`
return branch by branch (`afterWait_enosys_cases`; `generalize` the result, then `cases`).  `WaitEffect` names the fields
written whatever the result.
-/
namespace Ivy.L1
open Ivy.Heap (TS)

/-- an invariant of a fold that may speak of the items consumed so far -/
theorem foldl_prefix {α β : Type} (f : α → β → α) (P : List β → α → Prop)
    (hstep : ∀ pre b acc, P pre acc → P (pre ++ [b]) (f acc b)) (l : List β) :
    ∀ pre acc, P pre acc → P (pre ++ l) (l.foldl f acc) := by
  induction l with
  | nil => intro pre acc h; rwa [List.append_nil]
  | cons b l ih =>
    intro pre acc h
    have := ih (pre ++ [b]) (f acc b) (hstep pre b acc h)
    rwa [List.append_assoc] at this

/-- `iv_fd_make_ready` has collected exactly the bands `Q`, starting from the objects `fds0`: the active list has no
duplicates and holds the descriptors with a band in `Q`; their `ready` bands are those in `Q` (set at the first touch,
joined at later ones); the other descriptors keep their `ready` bands -/
structure Coll (fds0 : FdId → FdObj) (Q : FdId → Nat → Prop) (fds : FdId → FdObj) (active : List FdId) : Prop where
  nodup : active.Nodup
  mem : ∀ g, g ∈ active ↔ ∃ b, Q g b
  keep : ∀ g, g ∉ active → (fds g).ready = (fds0 g).ready
  ready : ∀ g ∈ active, ∀ b, (fds g).ready.get b = true ↔ Q g b

theorem Coll.congr {fds0 fds : FdId → FdObj} {Q Q' : FdId → Nat → Prop} {a : List FdId} (h : Coll fds0 Q fds a)
    (hq : ∀ g b, Q g b ↔ Q' g b) : Coll fds0 Q' fds a :=
  ⟨h.nodup, fun g => (h.mem g).trans (exists_congr (hq g)), h.keep, fun g hg b => (h.ready g hg b).trans (hq g b)⟩

theorem makeReady_coll {fds0 : FdId → FdObj} {s : St} {Q : FdId → Nat → Prop} {a : List FdId} (h : Coll fds0 Q s.fds a)
    (f : FdId) (bb : Bands) (hb : ∃ b, bb.get b = true) :
    Coll fds0 (fun g b => Q g b ∨ (g = f ∧ bb.get b = true)) (makeReady s a f bb).1.fds (makeReady s a f bb).2 := by
  obtain ⟨b0, hb0⟩ := hb
  rw [makeReady_fds, makeReady_active]
  by_cases hfa : f ∈ a
  · -- a later touch: the bands join those collected
    rw [if_pos (List.contains_iff_mem.2 hfa), if_pos (List.contains_iff_mem.2 hfa)]
    refine ⟨h.nodup, fun g => ?_, fun g hg => ?_, fun g hg b => ?_⟩
    · rw [h.mem]
      constructor
      · rintro ⟨b, hb⟩; exact ⟨b, Or.inl hb⟩
      · rintro ⟨b, hb | ⟨rfl, _⟩⟩
        · exact ⟨b, hb⟩
        · exact (h.mem _).1 hfa
    · have e : g ≠ f := fun e => hg (e ▸ hfa)
      rw [upd_ne _ _ e]; exact h.keep g hg
    · by_cases e : g = f
      · subst e
        simp only [upd_same, Bands.get_union, Bool.or_eq_true, h.ready g hg b, true_and]
      · simp only [upd_ne _ _ e, h.ready g hg b, e, false_and, or_false]
  · -- the first touch: the descriptor joins the list with these bands
    have hc : ¬ a.contains f = true := fun h => hfa (List.contains_iff_mem.1 h)
    have hQ : ∀ b, ¬ Q f b := fun b hb => hfa ((h.mem f).2 ⟨b, hb⟩)
    rw [if_neg hc, if_neg hc]
    refine ⟨?_, fun g => ?_, fun g hg => ?_, fun g hg b => ?_⟩
    · refine List.nodup_append.2 ⟨h.nodup, List.nodup_cons.2 ⟨List.not_mem_nil, List.nodup_nil⟩, fun x hx y hy => ?_⟩
      rw [List.mem_singleton.1 hy]
      exact fun e => hfa (e ▸ hx)
    · rw [List.mem_append, List.mem_singleton, h.mem]
      constructor
      · rintro (⟨b, hb⟩ | rfl)
        · exact ⟨b, Or.inl hb⟩
        · exact ⟨b0, Or.inr ⟨rfl, hb0⟩⟩
      · rintro ⟨b, hb | ⟨rfl, _⟩⟩
        · exact Or.inl ⟨b, hb⟩
        · exact Or.inr rfl
    · have hga : g ∉ a := fun h => hg (List.mem_append_left _ h)
      have hgf : g ≠ f := fun e => hg (List.mem_append_right _ (List.mem_singleton.2 e))
      rw [upd_ne _ _ hgf]; exact h.keep g hga
    · by_cases e : g = f
      · subst e
        simp only [upd_same, hQ b, true_and, false_or]
      · have hga : g ∈ a := (List.mem_append.1 hg).resolve_right (fun h => e (List.mem_singleton.1 h))
        simp only [upd_ne _ _ e, h.ready g hga b, e, false_and, or_false]

theorem makeReadyIf_coll {fds0 : FdId → FdObj} {x : St × List FdId} {Q : FdId → Nat → Prop} (h : Coll fds0 Q x.1.fds x.2)
    (c : Bool) (f : FdId) (bb : Bands) (hb : ∃ b, bb.get b = true) :
    Coll fds0 (fun g b => Q g b ∨ (g = f ∧ c = true ∧ bb.get b = true))
      (makeReadyIf c f bb x).1.fds (makeReadyIf c f bb x).2 := by
  cases c with
  | true => exact (makeReady_coll h f bb hb).congr fun g b => by simp only [true_and]
  | false => exact h.congr fun g b => by simp only [Bool.false_eq_true, false_and, and_false, or_false]

theorem activate_coll {fds0 : FdId → FdObj} {s : St} {Q : FdId → Nat → Prop} {a : List FdId} (h : Coll fds0 Q s.fds a)
    (f : FdId) (ev : KEv) :
    Coll fds0 (fun g b => Q g b ∨ (g = f ∧ (bandsOfKEv ev).get b = true))
      (activate s a f ev).1.fds (activate s a f ev).2 := by
  rw [activate_eq]
  have h1 := makeReadyIf_coll (x := (s, a)) h (bandsOfKEv ev).i f ⟨true, false, false⟩ ⟨1, rfl⟩
  have h2 := makeReadyIf_coll h1 (bandsOfKEv ev).o f ⟨false, true, false⟩ ⟨2, rfl⟩
  have h3 := makeReadyIf_coll h2 (bandsOfKEv ev).e f ⟨false, false, true⟩ ⟨0, rfl⟩
  refine h3.congr fun g b => ?_
  match b with
  | 0 => simp [Bands.get]
  | 1 => simp [Bands.get]
  | _ + 2 => simp [Bands.get]

/-- the loop body of `afterWait`'s scan of the reported items -/
def waitStep (acc : St × List FdId × Bool × Bool) (it : WItem) : St × List FdId × Bool × Bool :=
  let (s, a, rt, re) := acc
  match it with
  | .kick => ({ s with kickArmed := false }, a, rt, true)
  | .ktimer => ({ s with ktimer := none }, a, true, re)
  | .fd f ev => let (s', a') := activate s a f ev; (s', a', rt, re)

def afterEvents (s1 : St) (active : List FdId) (rt runEv km : Bool) : St × List Out :=
  let s2 := if km && rt then { s1 with lastAbsCount := 0 } else s1
  let s3 := { s2 with stack := .poll active rt :: s2.stack }
  if runEv then goto s3 .runEvents else goto s3 .dispatchNext

def ReportedBand (l : List WItem) (g : FdId) (b : Nat) : Prop := ∃ ev, WItem.fd g ev ∈ l ∧ (bandsOfKEv ev).get b = true

theorem ReportedBand_snoc_other {pre : List WItem} {it : WItem} (h : ∀ f ev, it ≠ .fd f ev) (g : FdId) (b : Nat) :
    ReportedBand pre g b ↔ ReportedBand (pre ++ [it]) g b := by
  refine exists_congr fun ev => and_congr_left fun _ => ?_
  rw [List.mem_append, List.mem_singleton]
  exact ⟨Or.inl, fun h' => h'.elim id (fun e => absurd e.symm (h g ev))⟩

theorem ReportedBand_snoc_fd (pre : List WItem) (f : FdId) (ev : KEv) (g : FdId) (b : Nat) :
    ReportedBand pre g b ∨ (g = f ∧ (bandsOfKEv ev).get b = true) ↔ ReportedBand (pre ++ [.fd f ev]) g b := by
  unfold ReportedBand
  simp only [List.mem_append, List.mem_singleton, WItem.fd.injEq]
  constructor
  · rintro (⟨e, h, hb⟩ | ⟨rfl, hb⟩)
    · exact ⟨e, Or.inl h, hb⟩
    · exact ⟨ev, Or.inr ⟨rfl, rfl⟩, hb⟩
  · rintro ⟨e, h | ⟨rfl, rfl⟩, hb⟩
    · exact Or.inl ⟨e, h, hb⟩
    · exact Or.inr ⟨rfl, hb⟩

/-- the scan of the wait result `l`, from `s0` (the state at the wait, clock invalidated) and `rt0`, in `acc`: only
`fds`, `kickArmed` and `ktimer` change, and of the objects only `ready`; a reported kick disarms the one-shot kick and
asks for the pending events to be run; a reported kernel timer disarms it and asks for the timers to be run; the
descriptors are collected as `Coll` says -/
structure WaitFold (s0 : St) (rt0 : Bool) (l : List WItem) (acc : St × List FdId × Bool × Bool) : Prop where
  frame : acc.1 = { s0 with fds := acc.1.fds, kickArmed := acc.1.kickArmed, ktimer := acc.1.ktimer }
  obj : ∀ g, acc.1.fds g = { s0.fds g with ready := (acc.1.fds g).ready }
  kick : WItem.kick ∈ l → acc.1.kickArmed = false ∧ acc.2.2.2 = true
  nokick : WItem.kick ∉ l → acc.1.kickArmed = s0.kickArmed ∧ acc.2.2.2 = false
  ktimer : WItem.ktimer ∈ l → acc.1.ktimer = none ∧ acc.2.2.1 = true
  noktimer : WItem.ktimer ∉ l → acc.1.ktimer = s0.ktimer ∧ acc.2.2.1 = rt0
  coll : Coll s0.fds (ReportedBand l) acc.1.fds acc.2.1

theorem waitStep_spec (s0 : St) (rt0 : Bool) (l : List WItem) :
    WaitFold s0 rt0 l (l.foldl waitStep (s0, [], rt0, false)) := by
  refine foldl_prefix waitStep (WaitFold s0 rt0) ?_ l [] _
    ⟨rfl, fun _ => rfl, nofun, fun _ => ⟨rfl, rfl⟩, nofun, fun _ => ⟨rfl, rfl⟩,
      List.nodup_nil, fun g => ⟨nofun, fun ⟨_, _, h, _⟩ => nomatch h⟩, fun _ _ => rfl, nofun⟩
  rintro pre it ⟨s1, a, rt, re⟩ ⟨hf, h2, h3, h4, h5, h6, h7⟩
  obtain ⟨fds, ka, kt, rfl⟩ : ∃ fds ka kt, s1 = { s0 with fds := fds, kickArmed := ka, ktimer := kt } := ⟨_, _, _, hf⟩
  dsimp only at h2 h3 h4 h5 h6 h7
  cases it with
  | kick =>
    exact ⟨rfl, h2, fun _ => ⟨rfl, rfl⟩, fun h => absurd (by simp) h, fun h => h5 (by simpa using h),
      fun h => h6 (by simpa using h), h7.congr (ReportedBand_snoc_other (fun _ _ h => nomatch h))⟩
  | ktimer =>
    exact ⟨rfl, h2, fun h => h3 (by simpa using h), fun h => h4 (by simpa using h), fun _ => ⟨rfl, rfl⟩,
      fun h => absurd (by simp) h, h7.congr (ReportedBand_snoc_other (fun _ _ h => nomatch h))⟩
  | fd f ev =>
    have e : (waitStep (_, a, rt, re) (.fd f ev)).1 =
        { s0 with fds := (activate _ a f ev).1.fds, kickArmed := ka, ktimer := kt } :=
      activate_frame { s0 with fds := fds, kickArmed := ka, ktimer := kt } a f ev
    refine ⟨by rw [e], fun g => ?_, ?_, ?_, ?_, ?_, (activate_coll h7 f ev).congr (ReportedBand_snoc_fd pre f ev)⟩
    · exact (activate_obj _ a f ev g).trans (by dsimp only; rw [h2 g]; rfl)
    · intro h; rw [e]; exact h3 (by simpa using h)
    · intro h; rw [e]; exact h4 (by simpa using h)
    · intro h; rw [e]; exact h5 (by simpa using h)
    · intro h; rw [e]; exact h6 (by simpa using h)

/-- `ENOSYS` from the wait, branch by branch: without `epoll_pwait2` the wait is tried again with `epoll_wait`;
without `ppoll` the method becomes `poll`, which reads the clock again for a finite timeout and else waits at once;
without `epoll_wait` or `poll` the library gives up -/
inductive WaitEnosys (s : St) (abs : Option TS) (km : Bool) : St × List Out → Prop
  | retry : s.method.isEpoll = true → s.pwait2 = true →
      WaitEnosys s abs km ({ s with pwait2 := false, pc := .run (.wait abs km) }, [])
  | fatal (m : String) : s.method ≠ .ppoll → (s.method.isEpoll = true → s.pwait2 = false) →
      WaitEnosys s abs km ({ s with pc := .dead }, [.fatal m])
  | pollTime : s.method = .ppoll → abs.isSome = true →
      WaitEnosys s abs km ({ s with timeValid := false, method := .poll, pc := .needTime (.forWait abs km) }, [])
  | pollWait : s.method = .ppoll → abs = none →
      WaitEnosys s abs km ({ s with timeValid := false, method := .poll, pc := .run (.wait abs km) }, [])

theorem afterWait_enosys_cases (s : St) (abs : Option TS) (km : Bool) :
    WaitEnosys s abs km (afterWait s abs km .enosys) := by
  have epoll : s.method.isEpoll = true → WaitEnosys s abs km
      (if s.pwait2 = true then goto { s with pwait2 := false } (.wait abs km)
       else fatal s "iv_fd_epoll_poll: got error") := fun hm => by
    split
    · next hp => exact .retry hm hp
    · next hp => exact .fatal _ (fun h => by rw [h] at hm; cases hm) fun _ => Bool.eq_false_iff.2 hp
  rw [afterWait]
  split
  · next hm => exact epoll (by rw [hm]; rfl)
  · next hm => exact epoll (by rw [hm]; rfl)
  · next hm =>
    dsimp only
    split
    · next ha => exact .pollTime hm ha
    · next ha => exact .pollWait hm (Option.not_isSome_iff_eq_none.1 ha)
  · next hm => exact .fatal _ (fun h => by rw [h] at hm; cases hm) fun h => by rw [hm] at h; cases h

theorem afterEvents_fst (s1 : St) (active : List FdId) (rt runEv km : Bool) :
    ∃ b, ((runEv = true ∧ b = .runEvents) ∨ (runEv = false ∧ b = .dispatchNext)) ∧
      afterEvents s1 active rt runEv km =
        ({ s1 with lastAbsCount := if (km && rt) = true then 0 else s1.lastAbsCount,
                   stack := .poll active rt :: s1.stack, pc := .run b }, []) := by
  unfold afterEvents
  cases runEv <;> cases (km && rt)
  · exact ⟨_, Or.inr ⟨rfl, rfl⟩, rfl⟩
  · exact ⟨_, Or.inr ⟨rfl, rfl⟩, rfl⟩
  · exact ⟨_, Or.inl ⟨rfl, rfl⟩, rfl⟩
  · exact ⟨_, Or.inl ⟨rfl, rfl⟩, rfl⟩

theorem afterWait_events_state (s : St) (abs : Option TS) (km : Bool) (l : List WItem) :
    ∃ s1 active rt runEv b,
      WaitFold { s with timeValid := false } (if s.method == .epollTimerfd then abs.isSome else true) l
        (s1, active, rt, runEv) ∧
      ((runEv = true ∧ b = .runEvents) ∨ (runEv = false ∧ b = .dispatchNext)) ∧
      afterWait s abs km (.events l) =
        ({ s1 with lastAbsCount := if (km && rt) = true then 0 else s1.lastAbsCount,
                   stack := .poll active rt :: s1.stack, pc := .run b }, []) := by
  have h := waitStep_spec { s with timeValid := false } (if s.method == .epollTimerfd then abs.isSome else true) l
  have e : afterWait s abs km (.events l) =
      (let r := l.foldl waitStep
        ({ s with timeValid := false }, [], (if s.method == .epollTimerfd then abs.isSome else true), false)
       afterEvents r.1 r.2.1 r.2.2.1 r.2.2.2 km) := rfl
  rw [e]
  generalize List.foldl waitStep _ l = r at h
  obtain ⟨s1, a, rt, re⟩ := r
  obtain ⟨b, hb, he⟩ := afterEvents_fst s1 a rt re km
  exact ⟨s1, a, rt, re, b, h, hb, he⟩

/-- `EINTR`: nothing was reported; the timers are looked at unless the kernel timer would have said so -/
theorem afterWait_eintr_eq (s : St) (abs : Option TS) (km : Bool) :
    afterWait s abs km .eintr =
      ({ s with timeValid := false,
                lastAbsCount := if (km && if s.method == .epollTimerfd then abs.isSome else true) = true then 0
                                else s.lastAbsCount,
                stack := .poll [] (if s.method == .epollTimerfd then abs.isSome else true) :: s.stack,
                pc := .run .dispatchNext }, []) := by
  obtain ⟨b, hb, e⟩ := afterEvents_fst { s with timeValid := false } []
    (if s.method == .epollTimerfd then abs.isSome else true) false km
  rcases hb with ⟨h, -⟩ | ⟨-, rfl⟩
  · cases h
  · exact e

/-- a wake-up, with items or with `EINTR`, as most simulation proofs need it: `x` is `s` with the clock invalid, the
descriptor objects `fds`, the one-shot wake sources `ka` and `kt`, the frame of the active list pushed and control at
`b`.  The descriptor objects changed in `ready` only, a wake source is disarmed only if it was reported, and `b` runs the
pending events if the kick was reported and starts dispatching if not -/
structure Wake (s : St) (km : Bool) (fds : FdId → FdObj) (ka : Bool) (kt : Option TS) (active : List FdId)
    (rt runEv : Bool) (b : Block) (x : St × List Out) : Prop where
  obj : ∀ g, fds g = { s.fds g with ready := (fds g).ready }
  ktimer : rt = false → kt = s.ktimer
  kick : runEv = false → ka = s.kickArmed
  next : (runEv = true ∧ b = .runEvents) ∨ (runEv = false ∧ b = .dispatchNext)
  eq : x = ({ s with timeValid := false, fds := fds, kickArmed := ka, ktimer := kt,
                     lastAbsCount := if (km && rt) = true then 0 else s.lastAbsCount,
                     stack := .poll active rt :: s.stack, pc := .run b }, [])

theorem afterWait_wake (s : St) (abs : Option TS) (km : Bool) {r : WRes} (hr : r ≠ .enosys) :
    ∃ fds ka kt active rt runEv b, Wake s km fds ka kt active rt runEv b (afterWait s abs km r) := by
  cases r with
  | enosys => exact absurd rfl hr
  | eintr =>
    exact ⟨s.fds, s.kickArmed, s.ktimer, [], _, false, _, fun _ => rfl, fun _ => rfl, fun _ => rfl, .inr ⟨rfl, rfl⟩,
      afterWait_eintr_eq s abs km⟩
  | events l =>
    obtain ⟨s1, active, rt, runEv, b, hw, hb, e⟩ := afterWait_events_state s abs km l
    obtain ⟨fds, ka, kt, rfl⟩ :
        ∃ fds ka kt, s1 = { s with timeValid := false, fds := fds, kickArmed := ka, ktimer := kt } :=
      ⟨_, _, _, hw.frame⟩
    refine ⟨fds, ka, kt, active, rt, runEv, b, hw.obj, fun hrt => ?_, fun hre => ?_, hb, e⟩
    · by_cases hm : WItem.ktimer ∈ l
      · exact Bool.noConfusion (hrt.symm.trans (hw.ktimer hm).2)
      · exact (hw.noktimer hm).1
    · by_cases hm : WItem.kick ∈ l
      · exact Bool.noConfusion (hre.symm.trans (hw.kick hm).2)
      · exact (hw.nokick hm).1

theorem afterWait_wake_outs (s : St) (abs : Option TS) (km : Bool) {r : WRes} (hr : r ≠ .enosys) :
    (afterWait s abs km r).2 = [] := by
  obtain ⟨_, _, _, _, _, _, _, w⟩ := afterWait_wake s abs km hr
  rw [w.eq]

/-- what the return of the wait does, whatever the result: it writes the readiness of the descriptors, the one-shot
wake sources, the clock's validity, the count of equal deadlines, the stack and `pc`, and after `ENOSYS` the choice of
system call (`ppoll` to `poll`: the kind of method stays); of a descriptor object it writes `ready` only, and to the
stack it does nothing or pushes the frame of the active list -/
structure WaitEffect (s x : St) : Prop where
  frame : x = { s with timeValid := x.timeValid, fds := x.fds, kickArmed := x.kickArmed, ktimer := x.ktimer,
                       lastAbsCount := x.lastAbsCount, stack := x.stack, pc := x.pc, pwait2 := x.pwait2,
                       method := x.method }
  obj : ∀ g, x.fds g = { s.fds g with ready := (x.fds g).ready }
  isEpoll : x.method.isEpoll = s.method.isEpoll
  stack : x.stack = s.stack ∨ ∃ a rt, x.stack = .poll a rt :: s.stack

theorem afterWait_effect (s : St) (abs : Option TS) (km : Bool) (r : WRes) : WaitEffect s (afterWait s abs km r).1 := by
  by_cases hr : r = .enosys
  · subst hr
    have h := afterWait_enosys_cases s abs km
    generalize afterWait s abs km .enosys = x at h ⊢
    cases h with
    | pollTime hm | pollWait hm => exact ⟨rfl, fun _ => rfl, by rw [hm]; rfl, .inl rfl⟩
    | _ => exact ⟨rfl, fun _ => rfl, rfl, .inl rfl⟩
  · obtain ⟨fds, ka, kt, active, rt, runEv, b, w⟩ := afterWait_wake s abs km hr
    rw [w.eq]
    exact ⟨rfl, w.obj, rfl, .inr ⟨_, _, rfl⟩⟩

theorem afterWait_ctl (s : St) (abs : Option TS) (km : Bool) (r : WRes) :
    (∃ m, afterWait s abs km r = ({ s with pc := .dead }, [.fatal m])) ∨
    ((afterWait s abs km r).2 = [] ∧
      ((afterWait s abs km r).1.pc = .run (.wait abs km) ∨
        (afterWait s abs km r).1.pc = .needTime (.forWait abs km) ∨
        (afterWait s abs km r).1.pc = .run .runEvents ∨ (afterWait s abs km r).1.pc = .run .dispatchNext)) := by
  by_cases hr : r = .enosys
  · subst hr
    have h := afterWait_enosys_cases s abs km
    generalize afterWait s abs km .enosys = x at h ⊢
    cases h with
    | fatal m => exact .inl ⟨m, rfl⟩
    | retry | pollWait => exact .inr ⟨rfl, .inl rfl⟩
    | pollTime => exact .inr ⟨rfl, .inr (.inl rfl)⟩
  · obtain ⟨_, _, _, _, _, _, b, w⟩ := afterWait_wake s abs km hr
    rw [w.eq]
    rcases w.next with ⟨-, rfl⟩ | ⟨-, rfl⟩
    · exact .inr ⟨rfl, .inr (.inr (.inl rfl))⟩
    · exact .inr ⟨rfl, .inr (.inr (.inr rfl))⟩

end Ivy.L1
