import Ivy.L1.MInv
import Ivy.Mon.C07
/-!
# Proof of C07 (iv_main returns iff quit or nothing registered) over the L1 loop machine

The five lists of the monitor are the registered sets of the machine, one per kind of object: `Corr μ s` says that
`lists μ` enumerates `ProofsC01.Regd s` (`Enum`), that the monitor's flags follow the control state, and that from the
exit check to the return of the wait the loop has found `quit = false` and `numobjs ≠ 0`.  What a step does to the
registered sets is read off `ISpec` and `ApiSpec` (Invariant.lean), what the monitor does to its lists off its own step
function (`lists_cbM`, `lists_retM`); `Enum.same`, `Enum.add` and `Enum.del` put the two together, for all blocks, all
API calls and all other inputs alike.  The monitor's two checks need emptiness only: `iv_main` returns with
`numobjs = 0` only if nothing is registered (`MInv.zero`), and with nothing registered and `numobjs ≠ 0` the library's
own task is queued (`MInv.own`), so the wait does not block (`TimeInv.wait_tasks`).
-/

namespace Ivy.L1.ProofsC07
open Ivy.L1 Ivy.Heap
open Ivy.Mon.C07 (M count nonBlocking)
open Ivy.L1.ProofsC01 (Regd)

/-! ## the monitor's steps -/

def FoldTo (μ : M) (evs : List Ev) (P : M → Prop) : Prop := ∃ μ', evs.foldlM Mon.C07.step μ = .ok μ' ∧ P μ'

theorem foldTo_nil {μ : M} {P : M → Prop} (h : P μ) : FoldTo μ [] P := ⟨μ, rfl, h⟩

theorem foldTo_cons {μ μ1 : M} {e : Ev} {evs : List Ev} {P : M → Prop} (h1 : Mon.C07.step μ e = .ok μ1)
    (h2 : FoldTo μ1 evs P) : FoldTo μ (e :: evs) P := by
  obtain ⟨μ', e', hp⟩ := h2
  refine ⟨μ', ?_, hp⟩
  rw [List.foldlM_cons, h1]; exact e'

theorem step_dead {μ : M} (h : μ.dead = true) (e : Ev) : Mon.C07.step μ e = .ok μ := by
  unfold Mon.C07.step; simp [h]

theorem step_fatal {μ : M} (h : μ.dead = false) (m : String) :
    Mon.C07.step μ (.out (.fatal m)) = .ok { μ with dead := true } := by
  unfold Mon.C07.step; simp [h]

theorem step_fault {μ : M} (h : μ.dead = false) (m : String) :
    Mon.C07.step μ (.out (.fault m)) = .ok { μ with dead := true } := by
  unfold Mon.C07.step; simp [h]

theorem foldTo_fault {μ : M} (h : μ.dead = false) (m : String) {P : M → Prop}
    (hP : ∀ μ', μ'.dead = true → P μ') : FoldTo μ [.out (.fault m)] P :=
  foldTo_cons (step_fault h m) (foldTo_nil (hP _ rfl))

def cbM (μ : M) (c : Cb) : M :=
  let m := { μ with inCb := true, idleWakes := 0, pending := none }
  match c with
  | .timer t => { m with timers := m.timers.erase t }
  | .task k => { m with tasks := m.tasks.erase k }
  | _ => m

def apiM (m : M) (a : Api) : M :=
  match a with
  | .main => { m with quit := false, inMain := true, pending := none, idleWakes := 0 }
  | .quit => { m with quit := true, pending := none }
  | .fdUnregister f => { m with fds := m.fds.erase f, pending := none }
  | .timerUnregister t => { m with timers := m.timers.erase t, pending := none }
  | .taskUnregister k => { m with tasks := m.tasks.erase k, pending := none }
  | .evUnregister x => { m with events := m.events.erase x, pending := none }
  | .rawUnregister r => { m with raws := m.raws.erase r, pending := none }
  | a => { m with pending := some a }

def retM (m : M) (v : Int) : M :=
  let m' := { m with pending := none }
  if v != 0 then m' else
  match m.pending with
  | some (.fdRegister f ..) => { m' with fds := m.fds ++ [f] }
  | some (.fdRegisterTry f ..) => { m' with fds := m.fds ++ [f] }
  | some (.timerRegister t _) => { m' with timers := m.timers ++ [t] }
  | some (.taskRegister k) => { m' with tasks := m.tasks ++ [k] }
  | some (.evRegister x _) => { m' with events := m.events ++ [x] }
  | some (.rawRegister r _) => { m' with raws := m.raws ++ [r] }
  | _ => m'

theorem step_api {μ : M} (hd : μ.dead = false) (a : Api) : Mon.C07.step μ (.inp (.api a)) = .ok (apiM μ a) := by
  unfold Mon.C07.step apiM
  simp only [hd]
  cases a <;> rfl

theorem step_ret {μ : M} (hd : μ.dead = false) (v : Int) : Mon.C07.step μ (.out (.ret v)) = .ok (retM μ v) := by
  unfold Mon.C07.step retM
  simp only [hd, Bool.false_eq_true, if_false]
  by_cases hv : (v != 0) = true
  · simp only [hv, if_true]
  · simp only [hv]
    generalize μ.pending = p
    cases p with
    | none => rfl
    | some a => cases a <;> rfl

theorem apiM_dead (μ : M) (a : Api) : (apiM μ a).dead = μ.dead := by cases a <;> rfl

/-- on these inputs the monitor only clears `pending` -/
def noted : Input → Bool
  | .api _ | .handlerEnd => false
  | _ => true

theorem step_inp_other {μ : M} (hd : μ.dead = false) (i : Input) (h : noted i = true) :
    Mon.C07.step μ (.inp i) = .ok { μ with pending := none } := by
  unfold Mon.C07.step
  simp only [hd]
  cases i <;> first | rfl | cases h

theorem step_handlerEnd {μ : M} (hd : μ.dead = false) :
    Mon.C07.step μ (.inp .handlerEnd) = .ok { μ with inCb := false, pending := none } := by
  unfold Mon.C07.step; simp only [hd]; rfl

/-! ## lists that enumerate the registered sets -/

/-- `L k` lists the registered objects of kind `k`, each once -/
def Enum (L : Nat → List Nat) (s : St) : Prop := ∀ k, (L k).Nodup ∧ ∀ x, x ∈ L k ↔ Regd s (k, x)

def delAt (L : Nat → List Nat) (p : Nat × Nat) : Nat → List Nat :=
  fun k => if k = p.1 then (L k).erase p.2 else L k

def addAt (L : Nat → List Nat) (p : Nat × Nat) : Nat → List Nat :=
  fun k => if k = p.1 then L k ++ [p.2] else L k

theorem Enum.same {L s s'} (h : Enum L s) (hr : ∀ p, Regd s' p ↔ Regd s p) : Enum L s' :=
  fun k => ⟨(h k).1, fun x => ((h k).2 x).trans (hr _).symm⟩

theorem Enum.del {L s s'} {p : Nat × Nat} (h : Enum L s) (hr : ∀ q, Regd s' q ↔ (q ≠ p ∧ Regd s q)) :
    Enum (delAt L p) s' := by
  obtain ⟨k0, x0⟩ := p
  intro k
  unfold delAt
  split
  · next hk =>
    subst hk
    refine ⟨(h _).1.erase _, fun x => ?_⟩
    rw [(h _).1.mem_erase_iff, (h _).2 x, hr]
    exact and_congr_left fun _ => ⟨fun hx e => hx (Prod.mk.inj e).2, fun hx e => hx (by rw [e])⟩
  · next hk =>
    refine ⟨(h k).1, fun x => ?_⟩
    rw [(h k).2 x, hr]
    exact ⟨fun h => ⟨fun e => hk (Prod.mk.inj e).1, h⟩, And.right⟩

theorem Enum.add {L s s'} {p : Nat × Nat} (h : Enum L s) (hp : ¬ Regd s p)
    (hr : ∀ q, Regd s' q ↔ (q = p ∨ Regd s q)) : Enum (addAt L p) s' := by
  obtain ⟨k0, x0⟩ := p
  intro k
  unfold addAt
  split
  · next hk =>
    subst hk
    have hx0 : x0 ∉ L k := fun hm => hp (((h _).2 x0).1 hm)
    refine ⟨List.nodup_append.2 ⟨(h _).1, by simp, fun a ha b hb => by
      rw [List.mem_singleton.1 hb]; rintro rfl; exact hx0 ha⟩, fun x => ?_⟩
    rw [List.mem_append, List.mem_singleton, (h _).2 x, hr, or_comm]
    exact or_congr_left ⟨fun e => by rw [e], fun e => (Prod.mk.inj e).2⟩
  · next hk =>
    refine ⟨(h k).1, fun x => ?_⟩
    rw [(h k).2 x, hr]
    exact ⟨Or.inr, fun h => h.resolve_left fun e => hk (Prod.mk.inj e).1⟩

theorem Enum.nil_of {L s} (h : Enum L s) (hn : ∀ p, ¬ Regd s p) (k : Nat) : L k = [] :=
  List.eq_nil_iff_forall_not_mem.2 fun x hx => hn _ (((h k).2 x).1 hx)

/-! ## what a step does to the registered sets, read off `ISpec` -/

/-- the object a record unregisters: a timer or task whose handler is entered -/
def once : List Out → Option (Nat × Nat)
  | [.cb c] => if cbOnce c then some (cbObj c) else none
  | _ => none

theorem once_cb (c : Cb) : once [.cb c] = if cbOnce c then some (cbObj c) else none := rfl

theorem regd_of_ispec {s s' : St} {outs} (h : ISpec s s' outs) (hnf : ∀ m, outs ≠ [.fatal m]) :
    ∀ q, Regd s' q ↔ (once outs ≠ some q ∧ Regd s q) := by
  cases h with
  | quiet hq _ hr =>
    have : once outs = none := by
      unfold once
      split
      · next c => exact absurd (hq _ List.mem_cons_self) (by simp [isQuiet])
      · rfl
    intro q; rw [this, hr]; exact ⟨fun h => ⟨nofun, h⟩, And.right⟩
  | cbInt f b _ ho _ hr => subst ho; intro q; rw [hr]; exact ⟨fun h => ⟨nofun, h⟩, And.right⟩
  | cb c ho _ _ hr =>
    subst ho
    intro q
    rw [hr, once_cb]
    cases cbOnce c
    · exact ⟨fun h => ⟨nofun, h⟩, And.right⟩
    · exact and_congr_left fun _ => ⟨fun h e => h (Option.some.inj e).symm, fun h e => h (by rw [e]; rfl)⟩
  | fatal m ho => exact absurd ho (hnf m)

theorem regd_same {s s' : St} {outs} (h : ∀ q, Regd s' q ↔ (once outs ≠ some q ∧ Regd s q))
    (ho : once outs = none) : ∀ p, Regd s' p ↔ Regd s p :=
  fun p => (h p).trans (by rw [ho]; exact ⟨And.right, fun h => ⟨nofun, h⟩⟩)

/-! ## the monitor's lists -/

def lists (μ : M) : Nat → List Nat
  | 0 => μ.fds | 1 => μ.timers | 2 => μ.tasks | 3 => μ.events | 4 => μ.raws | _ => []

theorem count_eq (μ : M) : count μ =
    (lists μ 0).length + (lists μ 1).length + (lists μ 2).length + (lists μ 3).length + (lists μ 4).length := rfl

theorem lists_cbM (μ : M) (c : Cb) :
    lists (cbM μ c) = match once [.cb c] with | some p => delAt (lists μ) p | none => lists μ := by
  cases c with
  | timer | task => funext k; rcases k with _ | _ | _ | _ | _ | k <;> rfl
  | _ => rfl

theorem lists_apiM (μ : M) (a : Api) :
    lists (apiM μ a) = match classify a with | .unreg p => delAt (lists μ) p | _ => lists μ := by
  cases a with
  | fdUnregister | timerUnregister | taskUnregister | evUnregister | rawUnregister =>
    funext k; rcases k with _ | _ | _ | _ | _ | k <;> rfl
  | _ => rfl

theorem lists_retM (μ : M) (a : Api) (v : Int) :
    lists (retM (apiM μ a) v) =
      match classify a with
      | .reg p => if v = 0 then addAt (lists μ) p else lists μ
      | .unreg p => delAt (lists μ) p
      | .other => lists μ := by
  by_cases hv : v = 0
  · subst hv
    cases a with
    | fdRegister | fdRegisterTry | timerRegister | taskRegister | evRegister | rawRegister | fdUnregister
    | timerUnregister | taskUnregister | evUnregister | rawUnregister =>
      funext k; rcases k with _ | _ | _ | _ | _ | k <;> rfl
    | _ => rfl
  · have : retM (apiM μ a) v = { apiM μ a with pending := none } := by
      unfold retM; rw [if_pos (by simpa using hv)]
    rw [this, show lists { apiM μ a with pending := none } = lists (apiM μ a) from rfl, lists_apiM]
    cases classify a with
    | reg p => exact (if_neg hv).symm
    | _ => rfl

/-! ## the correspondence -/

def pcUserish : Pc → Bool
  | .user | .needTime .forValidate => true
  | _ => false

/-- from the exit check to the return of the wait: the loop has decided not to return -/
def pcStay : Pc → Bool
  | .run .prepWait | .run (.flush _ _) | .run (.wait _ _) | .waiting _ _ | .needTime (.forWait _ _) => true
  | _ => false

/-- the monitor's lists enumerate the registered sets and its flags follow the control state; and two facts about the
machine alone that `MInv` cannot give: `alive` (with `mdead`: the machine is dead only if the monitor is, every `fatal`
or `fault` record kills the monitor; a dead machine state satisfies `MInv` and no other clause here excludes it) and
`stay` (what the exit check found, while the loop acts on it; no other property needs it) -/
structure Corr (μ : M) (s : St) : Prop where
  mdead : μ.dead = false
  alive : s.pc ≠ .dead
  quit_eq : μ.quit = s.quit
  inCb : μ.inCb = true → pcUserish s.pc = true ∧ s.stack ≠ []
  inMain : (s.stack ≠ [] ∨ pcUserish s.pc = false) → μ.inMain = true
  enum : Enum (lists μ) s
  stay : pcStay s.pc = true → s.quit = false ∧ s.numobjs ≠ 0

theorem corr_init (m : Method) (n : Nat) (tf pw : Bool) : Corr {} (St.init m n tf pw) := by
  refine ⟨rfl, nofun, rfl, nofun, fun h => h.elim (absurd rfl) nofun, fun k => ?_, nofun⟩
  have hn : ∀ p, ¬ Regd (St.init m n tf pw) p := by
    refine Regd_cases _ (fun f h => nomatch h.2) (fun t h => ?_) (fun k h => nomatch h.2) (fun e h => nomatch h)
      (fun r h => nomatch h.2) (fun k x => Regd5 _ k x)
    have h : 0 ≤ (St.init m n tf pw).heap.idx.getD t (-1) := h
    have : (St.init m n tf pw).heap.idx.getD t (-1) = -1 := by
      simp only [St.init, Store.init, Array.getD_eq_getD_getElem?, Array.getElem?_replicate]
      split <;> rfl
    omega
  rcases k with _ | _ | _ | _ | _ | k <;> exact ⟨List.nodup_nil, fun x => ⟨nofun, fun h => absurd h (hn _)⟩⟩

/-- what a step owes: the monitor has died with the machine, or the correspondence holds again -/
def Owes (μ : M) (s : St) : Prop := μ.dead = true ∨ Corr μ s

def Goal (μ : M) (r : St × List Out) : Prop := FoldTo μ (r.2.map Ev.out) (Owes · r.1)

theorem Goal.inv {μ s} (h : Corr μ s) : Goal μ (s, []) := foldTo_nil (Or.inr h)

/-- `iv_fatal`, or the C code would touch freed memory: the monitor gives up with the machine -/
theorem Goal.bad {μ : M} (h : μ.dead = false) {o : Out} (ho : isBad o = true) (s : St) : Goal μ (s, [o]) := by
  cases o with
  | fatal m => exact foldTo_cons (step_fatal h m) (foldTo_nil (Or.inl rfl))
  | fault m => exact foldTo_fault h m fun _ => Or.inl
  | _ => cases ho

theorem inCb_false {μ s} (hC : Corr μ s) (hu : pcUserish s.pc = false) : μ.inCb = false := by
  cases h : μ.inCb
  · rfl
  · have := (hC.inCb h).1; rw [hu] at this; cases this

/-- a step that leaves the monitor's flags alone: control stays with the user, or stays with the library; in user
code the stack stays empty or stays non-empty -/
theorem Corr.keep {μ μ' s s'} (hC : Corr μ s) (hd : μ'.dead = false) (hcb : μ'.inCb = μ.inCb)
    (hm : μ'.inMain = μ.inMain) (hq : μ'.quit = μ.quit) (he : Enum (lists μ') s') (hquit : s'.quit = s.quit)
    (hp : s'.pc ≠ .dead) (hu : pcUserish s'.pc = pcUserish s.pc)
    (hst : pcUserish s.pc = true → (s'.stack = [] ↔ s.stack = []))
    (hs : pcStay s'.pc = true → s.quit = false ∧ s'.numobjs ≠ 0) : Corr μ' s' := by
  refine ⟨hd, hp, by rw [hq, hquit]; exact hC.quit_eq, fun h => ?_, fun h => ?_, he, fun h => hquit ▸ hs h⟩
  · obtain ⟨h1, h2⟩ := hC.inCb (hcb ▸ h)
    exact ⟨hu ▸ h1, fun e => h2 ((hst h1).1 e)⟩
  · rw [hm]
    cases hus : pcUserish s.pc with
    | false => exact hC.inMain (.inr hus)
    | true =>
      rw [hu, hus] at h
      exact hC.inMain (.inl fun e => h.elim (fun h => h ((hst hus).2 e)) nofun)

/-- a step of the library that enters no handler and does not return from `iv_main` -/
theorem Corr.lib {μ s s'} (hC : Corr μ s) (hu : pcUserish s.pc = false) (q : Option Api)
    (hr : ∀ p, Regd s' p ↔ Regd s p) (hq : s'.quit = s.quit) (hp : s'.pc ≠ .dead) (hpu : pcUserish s'.pc = false)
    (hs : pcStay s'.pc = true → s.quit = false ∧ s'.numobjs ≠ 0) : Corr { μ with pending := q } s' :=
  hC.keep hC.mdead rfl rfl rfl (hC.enum.same hr) hq hp (hpu.trans hu.symm) (fun h => by rw [hu] at h; cases h) hs

/-- user code writes fields that neither control nor the stack depend on -/
theorem Corr.user_same {μ s s'} (hC : Corr μ s) (hpc : s.pc = .user) (q : Option Api)
    (hr : ∀ p, Regd s' p ↔ Regd s p) (h1 : s'.pc = s.pc) (h2 : s'.stack = s.stack) (h3 : s'.quit = s.quit) :
    Corr { μ with pending := q } s' :=
  hC.keep hC.mdead rfl rfl rfl (hC.enum.same hr) h3 (h1 ▸ hC.alive) (by rw [h1]) (fun _ => by rw [h2])
    (fun h => by rw [h1, hpc] at h; cases h)

theorem step_cb {μ s} (hC : Corr μ s) (hu : pcUserish s.pc = false) (c : Cb) :
    Mon.C07.step μ (.out (.cb c)) = .ok (cbM μ c) := by
  have h1 := inCb_false hC hu
  have h2 := hC.inMain (Or.inr hu)
  unfold Mon.C07.step cbM
  simp only [hC.mdead, h1, h2]
  cases c <;> rfl

/-- the library enters a handler -/
theorem Goal.cb {μ s s'} (hC : Corr μ s) (hu : pcUserish s.pc = false) (c : Cb)
    (hr : ∀ q, Regd s' q ↔ (once [.cb c] ≠ some q ∧ Regd s q)) (hq : s'.quit = s.quit) (hp : s'.pc = .user)
    (hne : s'.stack ≠ []) : Goal μ (s', [.cb c]) := by
  refine foldTo_cons (step_cb hC hu c) (Goal.inv ?_)
  have he : Enum (lists (cbM μ c)) s' := by
    rw [lists_cbM]
    cases ho : once [Out.cb c] with
    | none => exact hC.enum.same (regd_same hr ho)
    | some p =>
      exact hC.enum.del fun q => (hr q).trans (by
        rw [ho]; exact and_congr_left fun _ => ⟨fun h e => h (by rw [e]), fun h e => h (Option.some.inj e).symm⟩)
  exact ⟨by cases c <;> exact hC.mdead, by rw [hp]; nofun, by cases c <;> exact hq ▸ hC.quit_eq,
    fun _ => ⟨by rw [hp]; rfl, hne⟩, fun _ => by cases c <;> exact hC.inMain (.inr hu), he, by rw [hp]; nofun⟩

theorem no_regd_of_count {μ s} (hC : Corr μ s) (h0 : count μ = 0) : ∀ p, ¬ Regd s p := by
  rw [count_eq] at h0
  have nil : ∀ {k}, (lists μ k).length = 0 → ∀ x, ¬ Regd s (k, x) := fun hk x h => by
    have := ((hC.enum _).2 x).2 h
    rw [List.eq_nil_of_length_eq_zero hk] at this; cases this
  exact Regd_cases _ (nil (by omega)) (nil (by omega)) (nil (by omega)) (nil (by omega)) (nil (by omega))
    (fun k x => Regd5 s k x)

/-! ## the blocks of the loop -/

theorem regd_internal {s : St} {b : Block} (hM : MInv s) (hpc : s.pc = .run b) :
    ∀ q, Regd (internal s b).1 q ↔ (once (internal s b).2 ≠ some q ∧ Regd s q) := by
  have hs := hM.step hpc
  have hsp : ISpec s (internal s b).1 (internal s b).2 := hM.internal_spec hpc rfl
  generalize internal s b = x at hs hsp
  exact regd_of_ispec hsp fun m e => by cases hs <;> cases e

theorem internal_step {μ s} {b : Block} (hM : MInv s) (hC : Corr μ s) (hpc : s.pc = .run b) :
    Goal μ (internal s b) := by
  have hu : pcUserish s.pc = false := by rw [hpc]; rfl
  have hq : pcStay (.run b) = true → s.quit = false ∧ s.numobjs ≠ 0 := fun h => hC.stay (by rw [hpc]; exact h)
  have hs := hM.step hpc
  have hr := regd_internal hM hpc
  generalize internal s b = x at hs hr
  have hr0 : once x.2 = none → ∀ p, Regd x.1 p ↔ Regd s p := regd_same hr
  have go : ∀ {s' : St}, x = (s', []) → s'.quit = s.quit → s'.pc ≠ .dead → pcUserish s'.pc = false →
      (pcStay s'.pc = true → s.quit = false ∧ s'.numobjs ≠ 0) → Goal μ (s', []) := fun e h1 h2 h3 h4 =>
    .inv (hC.lib hu μ.pending (by have := hr0 (by rw [e]; rfl); rwa [e] at this) h1 h2 h3 h4)
  cases hs with
  | mainTop_skip | mainTop_collect | mainTop_clock | collect | popTimer_done | startTasks | popTask_done
  | popTask_events | runEvents_none | runEvents_some | popEvent_done | resume_tasks | resume_poll | resume_fd
  | dispatch_done | dispatch_next | fd_done | fd_pass | fd_raw => exact go rfl rfl Pc.noConfusion rfl Bool.noConfusion
  | popTimer_cb | popTask_cb | popEvent_cb | fd_cb => exact .cb hC hu _ hr rfl rfl (List.cons_ne_nil _ _)
  | stay _ h1 h2 => exact go rfl rfl nofun rfl fun _ => ⟨h1, h2⟩
  | prepWait s1 abs km _ e => exact go rfl (by rw [e]) nofun rfl fun _ => by rw [e]; exact hq rfl
  | flush_clock abs km | flush_go abs km =>
    exact go rfl (by rw [flushed_frame]) nofun rfl fun _ => by rw [flushed_frame]; exact hq rfl
  | exit hst h =>
    -- `iv_main` returns: `iv_quit` was called, or nothing is registered
    have hmon : Mon.C07.step μ (.out .mainRet) = .ok { μ with inMain := false, pending := none } := by
      have : (!μ.quit && count μ != 0) = false := by
        rcases h with h | h
        · simp [hC.quit_eq, h]
        · have hn := hC.enum.nil_of (hM.zero hst h)
          simp [count_eq, hn]
      unfold Mon.C07.step
      simp [hC.mdead, this]
    refine foldTo_cons hmon (Goal.inv ?_)
    exact { hC with alive := nofun, inCb := fun h => (by rw [inCb_false hC hu] at h; cases h),
                    inMain := fun h => h.elim (absurd hst) nofun, enum := hC.enum.same (hr0 rfl), stay := nofun }
  | wait abs km hst =>
    -- the wait is entered: not after `iv_quit`, and with nothing registered only for the library's own task
    obtain ⟨hq1, hq2⟩ := hq rfl
    have hnb : count μ = 0 →
        nonBlocking (timeoutOf s abs) (if s.timerfd then some s.ktimer else none) = true := fun h0 => by
      rcases hM.time.wait_tasks (by rw [hpc]; rfl) (hM.own hst (no_regd_of_count hC h0) hq2) with
        e | e | ⟨e, hk⟩
      · rw [e]; rfl
      · rw [e]; rfl
      · rw [e, hk]; rfl
    have hmon : ∀ p i k,
        Mon.C07.step μ (.out (.wait p (timeoutOf s abs) i (if s.timerfd then some s.ktimer else none) k)) =
          .ok { μ with pending := none } := fun p i k => by
      unfold Mon.C07.step
      simp only [hC.mdead, hC.quit_eq, hq1]
      by_cases h0 : count μ = 0
      · simp [hnb h0, h0]
      · simp [h0]
    exact foldTo_cons (hmon _ _ _) (Goal.inv (hC.lib hu none (hr0 rfl) rfl nofun rfl fun _ => ⟨hq1, hq2⟩))

/-! ## user code: the API calls -/

theorem Goal.ret {μ : M} {a : Api} {s' : St} {v : Int} (hd : μ.dead = false) (h : Corr (retM (apiM μ a) v) s') :
    Goal (apiM μ a) (s', [.ret v]) :=
  foldTo_cons (step_ret ((apiM_dead μ a).trans hd) v) (Goal.inv h)

theorem retM_flags (m : M) (v : Int) : (retM m v).dead = m.dead ∧ (retM m v).inCb = m.inCb ∧
    (retM m v).inMain = m.inMain ∧ (retM m v).quit = m.quit := by
  unfold retM
  split
  · exact ⟨rfl, rfl, rfl, rfl⟩
  · split <;> exact ⟨rfl, rfl, rfl, rfl⟩

/-- `iv_quit`, `iv_validate_now`, `iv_main` -/
theorem api_loop {μ s} (a : Api) (hC : Corr μ s) (hpc : s.pc = .user) (hk : a.kind = .loop) :
    Goal (apiM μ a) (api s a) := by
  cases a <;> first | cases hk | skip
  · -- `iv_quit`
    exact .inv { hC with quit_eq := rfl, stay := by rw [hpc]; nofun }
  · -- `iv_validate_now`
    rw [api]
    split
    · exact .inv { hC with }
    · exact .inv { hC with alive := nofun, inCb := fun h => ⟨rfl, (hC.inCb h).2⟩,
                           inMain := fun h => h.elim (fun h => hC.inMain (.inl h)) nofun, stay := nofun }
  · -- `iv_main`
    rw [api]
    split
    · next hst =>
      exact .inv { hC with alive := nofun, quit_eq := rfl, inCb := fun h => absurd hst (hC.inCb h).2,
                           inMain := fun _ => rfl, stay := nofun }
    · exact foldTo_cons (step_fatal ((apiM_dead μ _).trans hC.mdead) _) (foldTo_nil (Or.inl rfl))

theorem apiM_flags (μ : M) (a : Api) (hk : a.kind ≠ .loop) :
    (apiM μ a).inCb = μ.inCb ∧ (apiM μ a).inMain = μ.inMain ∧ (apiM μ a).quit = μ.quit := by
  cases a <;> first | exact ⟨rfl, rfl, rfl⟩ | exact absurd rfl hk

/-- a call that registers an object and returns 0 found it unregistered: the library checks (`iv_fatal` otherwise), or
registering it twice is invalid use (events, raw events) -/
theorem fresh {s : St} {a : Api} {p : Nat × Nat} (henv : envOk s (.api a) = true) (hcl : classify a = .reg p)
    (ho : (api s a).2 = [.ret 0]) : ¬ Regd s p := by
  have hok : apiOk s a = true := (Bool.and_eq_true_iff.1 henv).1
  -- the calls that check for themselves: a registered object makes them call `iv_fatal`
  have guard : ∀ {c : Prop} [Decidable c] {m : String} {x : St × List Out},
      (if c then fatal s m else x).2 = [.ret 0] → ¬ c := fun h hc => by rw [if_pos hc] at h; cases h
  cases a with
  | fdRegister f i o e => cases hcl; rw [api] at ho; exact fun hr => guard ho hr.2
  | fdRegisterTry f i o e k => cases hcl; rw [api] at ho; exact fun hr => guard ho hr.2
  | timerRegister t e =>
    cases hcl
    intro hr
    have : register s.heap t e = .fatal s.heap "iv_timer_register: called with timer still on the heap" := by
      unfold register
      rw [if_pos (by rw [bne_iff_ne]; have : 0 ≤ s.heap.idx.getD t (-1) := hr; omega)]
    rw [api, this] at ho
    cases ho
  | taskRegister k =>
    cases hcl; rw [api] at ho; exact fun hr => guard ho ((ProofsC01.taskOnList_iff s k).2 hr.2)
  | evRegister e r =>
    cases hcl; exact fun hr => by simp [apiOk, show (s.evs e).registered = true from hr] at hok
  | rawRegister r k =>
    cases hcl; exact fun hr => by simp [apiOk, show (s.raws r).registered = true from hr.2] at hok
  | _ => cases hcl

theorem api_step {μ s} (a : Api) (hM : MInv s) (hC : Corr μ s) (hpc : s.pc = .user)
    (henv : envOk s (.api a) = true) : Goal (apiM μ a) (api s a) := by
  by_cases hk : a.kind = .loop
  · exact api_loop a hC hpc hk
  obtain ⟨hf, ⟨φ, -, hst⟩, hc⟩ := api_effect s a
  have hsp : ApiSpec a s (api s a).1 (api s a).2 := hM.api_spec hpc henv rfl
  replace hsp := hsp.2
  have hfresh := fun p hcl => fresh (p := p) henv hcl
  have hd := (apiM_dead μ a).trans hC.mdead
  obtain ⟨g1, g2, g3⟩ := apiM_flags μ a hk
  have hquit : (api s a).1.quit = s.quit := by rw [hf]; cases hk' : a.kind <;> first | rfl | exact absurd hk' hk
  generalize api s a = x at hf hst hc hsp hfresh hquit
  have hne : x.1.stack = [] ↔ s.stack = [] := by rw [hst]; exact List.map_eq_nil_iff
  -- the call returns to its caller: the lists against the registered sets
  have back : ∀ {μ' : M} {s' : St}, x.1 = s' → s'.pc = s.pc → μ'.dead = false → μ'.inCb = μ.inCb →
      μ'.inMain = μ.inMain → μ'.quit = μ.quit → Enum (lists μ') s' → Corr μ' s' := by
    rintro μ' s' rfl e h1 h2 h3 h4 h5
    exact hC.keep h1 h2 h3 h4 h5 hquit (by rw [e, hpc]; nofun) (by rw [e]) (fun _ => hne) (by rw [e, hpc]; nofun)
  cases hc with
  | dead o ho => exact .bad hd ho _
  | ret s' v e =>
    obtain ⟨f1, f2, f3, f4⟩ := retM_flags (apiM μ a) v
    refine .ret hC.mdead (back rfl e (f1.trans hd) (f2.trans g1) (f3.trans g2) (f4.trans g3) ?_)
    rw [lists_retM]
    rcases hsp with ⟨m, hm⟩ | hsp
    · cases hm
    · cases hcl : classify a with
      | reg p =>
        rw [hcl] at hsp
        rcases hsp with ⟨ho, hr⟩ | ⟨v', hv', ho, hr⟩
        · cases ho
          exact hC.enum.add (hfresh p hcl rfl) hr
        · cases ho
          show Enum (if v = 0 then _ else _) s'
          rw [if_neg hv']
          exact hC.enum.same hr
      | unreg p => rw [hcl] at hsp; exact hC.enum.del hsp.2
      | other => rw [hcl] at hsp; exact hC.enum.same hsp.2
  | nil s' e =>
    refine .inv (back rfl e hd g1 g2 g3 ?_)
    rw [lists_apiM]
    rcases hsp with ⟨m, hm⟩ | hsp
    · cases hm
    · cases hcl : classify a with
      | reg p => rw [hcl] at hsp; rcases hsp with ⟨ho, -⟩ | ⟨_, _, ho, -⟩ <;> cases ho
      | unreg p => rw [hcl] at hsp; exact hC.enum.del hsp.2
      | other => rw [hcl] at hsp; exact hC.enum.same hsp.2
  | validate ha => subst ha; exact absurd rfl hk
  | main ha => subst ha; exact absurd rfl hk

/-! ## the other inputs -/

abbrev InpGoal (μ : M) (i : Input) (r : St × List Out) : Prop :=
  FoldTo μ (Ev.inp i :: r.2.map Ev.out) (Owes · r.1)

theorem InpGoal.other {μ : M} {i : Input} {r : St × List Out} (hd : μ.dead = false) (hn : noted i = true)
    (g : Goal { μ with pending := none } r) : InpGoal μ i r :=
  foldTo_cons (step_inp_other hd i hn) g

theorem InpGoal.lib {μ s s'} {i : Input} (hC : Corr μ s) (hn : noted i = true) (hr : ∀ p, Regd s' p ↔ Regd s p)
    (hu : pcUserish s.pc = false) (hq : s'.quit = s.quit) (hp : s'.pc ≠ .dead) (hpu : pcUserish s'.pc = false)
    (hs : pcStay s'.pc = true → s.quit = false ∧ s'.numobjs ≠ 0) : InpGoal μ i (s', []) :=
  .other hC.mdead hn (.inv (hC.lib hu none hr hq hp hpu hs))

theorem regd_input {s : St} {i : Input} {res : St × List Out} (hM : MInv s) (henv : envOk s i = true)
    (hin : input s i = some res) (hn : noted i = true) (ho : res.2 = []) : ∀ p, Regd res.1 p ↔ Regd s p :=
  regd_same (regd_of_ispec (hM.input_spec henv hin fun a e => by subst e; cases hn)
    fun m e => by rw [ho] at e; cases e) (by rw [ho]; rfl)

theorem input_step {μ s} (i : Input) (hM : MInv s) (hC : Corr μ s) (henv : envOk s i = true) (res : St × List Out)
    (hin : input s i = some res) : InpGoal μ i res := by
  have hr := regd_input hM henv hin
  cases input_inv hin with
  | api a hpc => exact foldTo_cons (step_api hC.mdead a) (api_step a hM hC hpc henv)
  | handlerEnd b hpc hb =>
    have hne : s.stack ≠ [] := fun e => by simp [input, hpc, e] at hin
    refine foldTo_cons (step_handlerEnd hC.mdead) (Goal.inv ?_)
    exact { hC with alive := nofun, inCb := nofun, inMain := fun _ => hC.inMain (.inl hne),
                    enum := hC.enum.same (Regd_congr rfl),
                    stay := by rcases hb with rfl | rfl | rfl | rfl <;> nofun }
  | free k id hpc =>
    have e : (freeObj s k id).pc = s.pc ∧ (freeObj s k id).stack = s.stack ∧ (freeObj s k id).quit = s.quit := by
      rw [freeObj_frame]; exact ⟨rfl, rfl, rfl⟩
    exact .other hC.mdead rfl (.inv (hC.user_same hpc none (hr rfl rfl) e.1 e.2.1 e.2.2))
  | init k id hpc =>
    have e : (initObj s k id).pc = s.pc ∧ (initObj s k id).stack = s.stack ∧ (initObj s k id).quit = s.quit := by
      rw [initObj_frame]; exact ⟨rfl, rfl, rfl⟩
    exact .other hC.mdead rfl (.inv (hC.user_same hpc none (hr rfl rfl) e.1 e.2.1 e.2.2))
  | time t k hpc =>
    have e := afterTime_eq s t k
    generalize afterTime s t k = x at e hr
    subst e
    refine .other hC.mdead rfl (.inv (hC.keep hC.mdead rfl rfl rfl (hC.enum.same (hr rfl rfl)) rfl ?_ ?_
      (fun _ => Iff.rfl) ?_))
    · cases k <;> nofun
    · rw [hpc]; cases k <;> rfl
    · cases k with
      | forWait a km => exact fun _ => hC.stay (by rw [hpc]; rfl)
      | _ => nofun
  | wret abs km r hpc =>
    have hq := hC.stay (by rw [hpc]; rfl)
    have hw := (afterWait_effect s abs km r).frame
    rcases afterWait_ctl s abs km r with ⟨m, e⟩ | ⟨e, hp⟩
    · rw [e]; exact .other hC.mdead rfl (.bad (μ := { μ with pending := none }) hC.mdead rfl _)
    · generalize afterWait s abs km r = x at hw e hp hr
      obtain ⟨s', outs⟩ := x
      cases e
      have hw : s' = _ := hw
      exact .lib hC rfl (hr rfl rfl) (by rw [hpc]; rfl) (by rw [hw])
        (by rcases hp with h | h | h | h <;> rw [h] <;> nofun) (by rcases hp with h | h | h | h <;> rw [h] <;> rfl)
        (fun _ => by rw [hw]; exact hq)
  | xpostNop abs km e hpc =>
    exact .lib hC rfl (fun _ => Iff.rfl) (by rw [hpc]; rfl) rfl hC.alive (by rw [hpc]; rfl) hC.stay
  | xpost abs km e ka hpc =>
    exact .lib hC rfl (hr rfl rfl) (by rw [hpc]; rfl) rfl (by rw [hpc]; nofun) (by rw [hpc]; rfl)
      fun _ => hC.stay (by rw [hpc]; rfl)
  | rawGoto r okk b hpc hb =>
    exact .lib hC rfl (Regd_congr rfl) (by rw [hpc]; rfl) rfl nofun rfl (by rcases hb with rfl | rfl <;> nofun)
  | rawFault r okk msg hpc => exact .other hC.mdead rfl (.bad (μ := { μ with pending := none }) hC.mdead rfl _)
  | rawCb r okk hpc =>
    obtain ⟨n, a, rt, hst, -⟩ := hM.shapeAt hpc
    exact .other hC.mdead rfl (.cb (μ := { μ with pending := none }) { hC with } (by rw [hpc]; rfl) _
      (fun q => (Regd_congr rfl q).trans ⟨fun h => ⟨nofun, h⟩, And.right⟩) rfl rfl
      (by rw [show ({ s with pc := Pc.user } : St).stack = s.stack from rfl, hst]; nofun))

theorem monitor_accepts (m : Method) (ntimers : Nat) (timerfdAvail pwait2 : Bool)
    (evs : List Ev) (s' : St) (h : Exec (St.init m ntimers timerfdAvail pwait2) evs s') :
    Ivy.Mon.C07.verdict evs = none := by
  obtain ⟨μ', e⟩ := exec_simulation_dead (step := Mon.C07.step) (dead := (·.dead = true)) (C := Corr)
    (fun _ hd => step_dead hd) (fun hM _ hC hpc => internal_step hM hC hpc)
    (fun hM _ hC henv hin => input_step _ hM hC henv _ hin)
    h (MInv.init m ntimers timerfdAvail pwait2) (corr_init m ntimers timerfdAvail pwait2)
  unfold Ivy.Mon.C07.verdict runMon
  rw [e]

/-! ## non-vacuity: a run that registers a task and an event, waits, is woken by a foreign post,
runs the event handler (which unregisters the event) and returns from `iv_main` -/

def demoInputs : List Input :=
  [.api (.taskRegister 1), .api (.evRegister 0 true), .api .main,
   .handlerEnd,                         -- task 1's handler returns
   .xpost 0, .wret (.events [.kick]),   -- another thread posts event 0; the wait reports the kick
   .api (.evUnregister 0), .handlerEnd] -- event 0's handler unregisters it and returns

def demoTrace : List Ev × St := runTrace 100 (St.init .epoll 0 true true) demoInputs

def isTaskCb : Ev → Bool | .out (.cb (.task 1)) => true | _ => false
def isEventCb : Ev → Bool | .out (.cb (.event 0)) => true | _ => false
def isWait : Ev → Bool | .out (.wait ..) => true | _ => false
def isMainRet : Ev → Bool | .out .mainRet => true | _ => false

example :
    Exec (St.init .epoll 0 true true) demoTrace.1 demoTrace.2 ∧
    demoTrace.1.any isTaskCb = true ∧ demoTrace.1.any isEventCb = true ∧
    demoTrace.1.any isWait = true ∧ demoTrace.1.any isMainRet = true ∧
    Ivy.Mon.C07.verdict demoTrace.1 = none :=
  ⟨runTrace_exec _ _ _, by decide, by decide, by decide, by decide,
   monitor_accepts _ _ _ _ _ _ (runTrace_exec 100 (St.init .epoll 0 true true) demoInputs)⟩

/-! ## `Inv`, `R`: a relation on a view of the state, which no proof goes through

`Inv μ (view s)` relates the monitor to the fields of the machine state the property depends on.  Besides the
correspondence (each monitor list holds the registered objects of its kind and is as long as `numobjs` says, in `Tm`,
`Tk`, `fd_reg` … `acct`) it restates, in a vocabulary of its own (`Good`, `tasksOf`, `batchOf`, `noEvTop`, the classes
`pcIdle` and `pcNoEv`, `waitInfo`, `WaitOk`, `ktOf`), what `MInv` says of the machine alone: the stack of each program
point, heap and expired batch, duplicate-free task lists, the clock and the timeout check, the arguments of the wait.
`R` is `Inv` or a dead monitor.  The proofs keep `Corr` instead, whose one clause `Enum (lists μ) s` stands for the
membership and length clauses together; `api_fault` and the two facts about `tasksOf` are the statements about this
vocabulary that stand on their own. -/

structure V where
  pc : Pc
  stack : List Frame
  quit : Bool
  numobjs : Int
  heap : Store
  tasks : List TaskId
  eventCount : Int
  fdReg : FdId → Bool
  rawReg : RawId → Bool
  evReg : EvId → Bool
  time : TS
  lastAbs : TS
  lastAbsCount : Nat
  ktimer : Option TS
  timerfd : Bool
  method : Method

def view (s : St) : V :=
  { pc := s.pc, stack := s.stack, quit := s.quit, numobjs := s.numobjs, heap := s.heap, tasks := s.tasks,
    eventCount := s.eventCount, fdReg := fun f => (s.fds f).registered, rawReg := fun r => (s.raws r).registered,
    evReg := fun e => (s.evs e).registered, time := s.time, lastAbs := s.lastAbs, lastAbsCount := s.lastAbsCount,
    ktimer := s.ktimer, timerfd := s.timerfd, method := s.method }

inductive Good : List Frame → Prop
  | nil : Good []
  | timers (r) : Good [.timers r]
  | tasks (r) : Good [.tasks r]
  | poll (a rt) : Good [.poll a rt]
  | fd (c n a rt) : Good [.fd c n, .poll a rt]
  | evTasks (b r) : Good [.events b, .tasks r]
  | evPoll (b a rt) : Good [.events b, .poll a rt]
  | evFd (b c n a rt) : Good [.events b, .fd c n, .poll a rt]

def tasksOf : List Frame → List TaskId
  | [] => []
  | .tasks r :: rest => r ++ tasksOf rest
  | _ :: rest => tasksOf rest

def batchOf : List Frame → List Nat
  | [] => []
  | .timers r :: rest => r ++ batchOf rest
  | _ :: rest => batchOf rest

/-- the stacks on which `__iv_event_run_pending_events` can start -/
def noEvTop : List Frame → Prop
  | [.tasks _] | [.poll _ _] | [.fd _ _, .poll _ _] => True
  | _ => False

def pcIdle : Pc → Bool
  | .run (.mainTop _) | .run .collect | .run .startTasks | .run .exitCheck | .run .prepWait
  | .run (.flush _ _) | .run (.wait _ _) | .waiting _ _ | .needTime .forTimers | .needTime (.forWait _ _) => true
  | _ => false

def pcNoEv : Pc → Bool
  | .run .runEvents | .needRawRead _ => true
  | _ => false

def waitInfo : Pc → Option (Option TS × Bool)
  | .run (.flush a k) | .run (.wait a k) | .waiting a k | .needTime (.forWait a k) => some (a, k)
  | _ => none

theorem tasksOf_map_appendTaskBatch {st} (h : Good st) (k : TaskId) (hr : st.any (fun fr => match fr with | .tasks _ => true | _ => false) = true) :
    tasksOf (st.map (appendTaskBatch · k)) = tasksOf st ++ [k] := by
  cases h <;> simp_all [appendTaskBatch, tasksOf]

theorem tasksOf_of_not_inRun {st} (hr : st.any (fun fr => match fr with | .tasks _ => true | _ => false) = false) :
    tasksOf st = [] := by
  induction st with
  | nil => rfl
  | cons fr rest ih =>
    rw [List.any_cons, Bool.or_eq_false_iff] at hr
    cases fr with
    | tasks r => cases hr.1
    | _ => exact ih hr.2

structure Tm (μt : List Nat) (h : Store) (b : List Nat) : Prop where
  hinv : HeapInv h
  b_idx : ∀ t, t ∈ b ↔ h.idx[t]? = some 0
  b_nd : b.Nodup
  mem : ∀ t, (h.idx[t]? = some 0 ∨ onHeap h t) → t ∈ μt
  len : μt.length = h.num + b.length
  exp_nn : ∀ t, onHeap h t → 0 ≤ (expOf h t).sec ∧ 0 ≤ (expOf h t).nsec

structure Tk (μk all : List TaskId) : Prop where
  nd : all.Nodup
  mem : ∀ k, k ∈ all → k ≠ 0 → k ∈ μk
  len : all.length = μk.length + (if 0 ∈ all then 1 else 0)

def WaitOk (v : V) (a : Option TS) (k : Bool) : Prop :=
  v.quit = false ∧ v.numobjs ≠ 0 ∧
  (k = true → a = none ∧ v.method = .epollTimerfd ∧ v.lastAbsCount = 5) ∧
  (k = false → v.method = .epollTimerfd → v.lastAbsCount ≠ 5) ∧
  (v.tasks ≠ [] → a = some ⟨0, 0⟩ ∨ (k = true ∧ v.timerfd = true ∧ v.ktimer = some ⟨0, 1⟩))

def ktOf (la : TS) : TS := if la.sec == 0 && la.nsec == 0 then ⟨0, 1⟩ else la

structure Inv (μ : M) (v : V) : Prop where
  mdead : μ.dead = false
  quit_eq : μ.quit = v.quit
  good : Good v.stack
  idle : pcIdle v.pc = true → v.stack = []
  noev : pcNoEv v.pc = true → noEvTop v.stack
  inCb : μ.inCb = true → pcUserish v.pc = true ∧ v.stack ≠ []
  inMain : (v.stack ≠ [] ∨ pcUserish v.pc = false) → μ.inMain = true
  tm : Tm μ.timers v.heap (batchOf v.stack)
  tk : Tk μ.tasks (v.tasks ++ tasksOf v.stack)
  fd_reg : ∀ f, f < 1000 → v.fdReg f = true → f ∈ μ.fds
  raw_reg : ∀ r, 1 ≤ r → v.rawReg r = true → r ∈ μ.raws
  ev_reg : ∀ e, v.evReg e = true → e ∈ μ.events
  ev_cnt : v.eventCount = μ.events.length
  acct : v.numobjs = ((μ.fds.length + μ.raws.length + v.heap.num + (v.tasks ++ tasksOf v.stack).length +
            μ.events.length + min μ.events.length 1 : Nat) : Int)
  time_nn : 0 ≤ v.time.sec ∧ 0 ≤ v.time.nsec
  la_nn : 0 ≤ v.lastAbs.sec ∧ 0 ≤ v.lastAbs.nsec
  ktim : v.method = .epollTimerfd → v.lastAbsCount = 5 → v.timerfd = true ∧ v.ktimer = some (ktOf v.lastAbs)
  pre : v.pc = .run .prepWait → v.quit = false ∧ v.numobjs ≠ 0
  wait : ∀ a k, waitInfo v.pc = some (a, k) → WaitOk v a k

def R (μ : M) (s : St) : Prop := μ.dead = true ∨ Inv μ (view s)

theorem api_fault {μ : M} (hd : μ.dead = false) (a : Api) (s : St) (msg : String) :
    FoldTo μ (Ev.inp (.api a) :: [Ev.out (.fault msg)]) (fun μ' => R μ' s) :=
  foldTo_cons (step_api hd a) (foldTo_fault (by rw [apiM_dead]; exact hd) _ fun _ => Or.inl)

end Ivy.L1.ProofsC07
