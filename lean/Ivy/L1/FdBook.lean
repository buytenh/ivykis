import Ivy.Mon.Fd
import Ivy.L1.StepFrames
/-!
# The laws of `Mon.FdBook`

The monitors C02 and C03 keep the same book of registered descriptors (`Ivy/Mon/Fd.lean`); their proofs use it through
these lemmas and do not open `put` and `drop`.  `find` after `put` and `drop`, membership in `regd` after them (the
list may hold several views of one descriptor, `find` answers with the first), the handler flags in terms of `find`,
and `step` on the API calls it does not record.
-/
namespace Ivy.Mon
open Ivy.L1

/-- the API calls the book records -/
def isFdApi : Api → Bool
  | .fdRegister .. | .fdRegisterTry .. | .fdUnregister _ | .fdSetIn .. | .fdSetOut .. | .fdSetErr .. => true
  | _ => false

theorem kind_of_isFdApi {a : Api} (h : isFdApi a = false) : a.kind ≠ .fd := by
  cases a with
  | fdRegister | fdRegisterTry | fdUnregister | fdSetIn | fdSetOut | fdSetErr => cases h
  | _ => exact ApiKind.noConfusion

theorem find?_filter_key {β : Type} (key : β → Nat) (l : List β) (f g : Nat) :
    (l.filter (fun p => key p != f)).find? (fun p => key p == g) =
      if f = g then none else l.find? (fun p => key p == g) := by
  induction l with
  | nil => simp
  | cons a t ih =>
    simp only [List.filter_cons, List.find?_cons]
    grind

namespace FdBook

theorem find_some {b : FdBook} {f : FdId} {v : FdView} (h : b.find f = some v) : v ∈ b.regd ∧ v.f = f :=
  ⟨List.mem_of_find?_eq_some h, by simpa using List.find?_some h⟩

theorem find_none {b : FdBook} {f : FdId} (h : b.find f = none) : ∀ v ∈ b.regd, v.f ≠ f := fun v hv => by
  simpa using (List.find?_eq_none.1 h) v hv

theorem find_congr {b b' : FdBook} (h : b'.regd = b.regd) (f : FdId) : b'.find f = b.find f := by
  unfold find
  rw [h]

theorem find_drop (b : FdBook) (f g : FdId) : (b.drop f).find g = if f = g then none else b.find g :=
  find?_filter_key (fun w : FdView => w.f) b.regd f g

theorem find_put (b : FdBook) (v : FdView) (g : FdId) : (b.put v).find g = if v.f = g then some v else b.find g := by
  show ((b.drop v.f).regd ++ [v]).find? (·.f == g) = _
  rw [List.find?_append, show (b.drop v.f).regd.find? (·.f == g) = (b.drop v.f).find g from rfl, find_drop]
  by_cases h : v.f = g
  · simp [h]
  · have : (v.f == g) = false := by simpa using h
    cases hx : b.find g <;> simp [this, h]

theorem regd_put (b : FdBook) (v : FdView) : (b.put v).regd = b.regd.filter (·.f != v.f) ++ [v] := rfl

theorem mem_drop {b : FdBook} {f : FdId} {w : FdView} : w ∈ (b.drop f).regd ↔ w ∈ b.regd ∧ w.f ≠ f := by
  simp [drop]

theorem mem_put {b : FdBook} {v w : FdView} : w ∈ (b.put v).regd ↔ (w ∈ b.regd ∧ w.f ≠ v.f) ∨ w = v := by
  simp [regd_put]

theorem handler_of_find {b : FdBook} {f : FdId} {v : FdView} (h : b.find f = some v) (band : Nat) :
    b.handler f band = (match band with | 0 => v.herr | 1 => v.hin | _ => v.hout) := by
  unfold handler
  rw [h]
  rfl

theorem handler_of_find_none {b : FdBook} {f : FdId} (h : b.find f = none) (band : Nat) :
    b.handler f band = false := by
  unfold handler
  rw [h]

theorem handler_of_view {b : FdBook} {f : FdId} {v : FdView} {o : FdObj} (hfind : b.find f = some v)
    (hi : v.hin = o.hin) (ho : v.hout = o.hout) (he : v.herr = o.herr) (band : Nat) :
    b.handler f band = o.handler band := by
  rw [handler_of_find hfind]
  match band with
  | 0 => exact he
  | 1 => exact hi
  | _ + 2 => exact ho

theorem step_api_other (b : FdBook) {a : Api} (h : isFdApi a = false) :
    b.step (.inp (.api a)) = { b with pending := none } := by
  cases a <;> first | (simp [isFdApi] at h; done) | simp [step]

end FdBook
end Ivy.Mon
