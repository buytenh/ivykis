import Ivy.L1.MInv
/-!
# Facts about every reachable L1 state

`MInv` holds along every execution (`MInv.exec`), so from an initial state it holds in every reachable state
(`reach_init`), with no side condition on the trace; the pollfd-array / epoll-mirror facts below are its descriptor
clauses read off.
-/
namespace Ivy.L1.ProofsReach
open Ivy.L1 Ivy.L1.ProofsC02

theorem reach_init (m : Method) (ntimers : Nat) (timerfdAvail pwait2 : Bool) (evs : List Ev) (s' : St)
    (h : Exec (St.init m ntimers timerfdAvail pwait2) evs s') : MInv s' :=
  MInv.exec h (MInv.init m ntimers timerfdAvail pwait2)

/-- C18 `no_oob`: under the poll methods every stored index points at the descriptor's own slot of
the pollfd array -/
theorem poll_index_in_bounds (m : Method) (ntimers : Nat) (timerfdAvail pwait2 : Bool) (evs : List Ev) (s' : St)
    (h : Exec (St.init m ntimers timerfdAvail pwait2) evs s') (hP : s'.method.isEpoll = false) :
    ∀ f i, (s'.fds f).index = some i → i < s'.pfds.length ∧ ∃ b, s'.pfds[i]? = some (f, b) :=
  fun _ _ hi => ((reach_init m ntimers timerfdAvail pwait2 evs s' h).fd.finP hP).index_lt hi

theorem poll_array_dense (m : Method) (ntimers : Nat) (timerfdAvail pwait2 : Bool) (evs : List Ev) (s' : St)
    (h : Exec (St.init m ntimers timerfdAvail pwait2) evs s') (hP : s'.method.isEpoll = false) :
    (s'.pfds.map (·.1)).Nodup ∧
    ∀ i f b, s'.pfds[i]? = some (f, b) →
      (s'.fds f).registered = true ∧ (s'.fds f).index = some i ∧ b = (s'.fds f).wanted :=
  ((reach_init m ntimers timerfdAvail pwait2 evs s' h).fd.finP hP).dense

/-- C18 `no_stale_kernel_interest`, epoll methods: the kernel interest set only contains registered descriptors (no stale kernel
registration survives `iv_fd_unregister`: the synchronous `EPOLL_CTL_DEL`) -/
theorem kernel_interest_registered (m : Method) (ntimers : Nat) (timerfdAvail pwait2 : Bool) (evs : List Ev) (s' : St)
    (h : Exec (St.init m ntimers timerfdAvail pwait2) evs s') (hE : s'.method.isEpoll = true) :
    ∀ f, (s'.kint f).isSome = true → (s'.fds f).registered = true :=
  fun _ hk => ((reach_init m ntimers timerfdAvail pwait2 evs s' h).fd.finE hE).kint_registered hk

theorem notify_consistent (m : Method) (ntimers : Nat) (timerfdAvail pwait2 : Bool) (evs : List Ev) (s' : St)
    (h : Exec (St.init m ntimers timerfdAvail pwait2) evs s') (hE : s'.method.isEpoll = true) :
    ∀ f, (s'.fds f).registered = true → (f ∈ s'.notify ↔ (s'.fds f).regBands ≠ (s'.fds f).wanted) :=
  ((reach_init m ntimers timerfdAvail pwait2 evs s' h).fd.finE hE).mem

theorem kernel_interest_eq (m : Method) (ntimers : Nat) (timerfdAvail pwait2 : Bool) (evs : List Ev) (s' : St)
    (h : Exec (St.init m ntimers timerfdAvail pwait2) evs s') (hE : s'.method.isEpoll = true) :
    ∀ f, s'.kint f = if (s'.fds f).regBands.isZero then none else some (epollMask (s'.fds f).regBands) :=
  ((reach_init m ntimers timerfdAvail pwait2 evs s' h).fd.finE hE).kint

/-! ## non-vacuity -/

/-- three registrations and an unregister of the first: swap-with-last moves descriptor 7 to slot 0 -/
def demoPoll : List Input :=
  [.api (.fdRegister 3 true false false), .api (.fdRegister 5 false true false),
   .api (.fdRegister 7 true true false), .api (.fdUnregister 3)]

example :
    let s' := (runTrace 20 (St.init .poll 0 true true) demoPoll).2
    s'.method.isEpoll = false ∧ s'.pfds.length = 2 ∧ (s'.fds 7).index = some 0 ∧ (s'.fds 5).index = some 1 ∧
    (s'.fds 3).index = none ∧
    (∀ f i, (s'.fds f).index = some i → i < s'.pfds.length ∧ ∃ b, s'.pfds[i]? = some (f, b)) := by
  refine ⟨by decide, by decide, by decide, by decide, by decide, ?_⟩
  exact poll_index_in_bounds .poll 0 true true _ _ (runTrace_exec 20 _ demoPoll) (by decide)

/-- epoll: after the flush before the first wait the kernel watches descriptor 3; after the unregister
inside the handler it no longer does -/
def demoEpoll1 : List Input := [.api (.fdRegister 3 true false false), .api .main]
def demoEpoll2 : List Input :=
  demoEpoll1 ++ [.wret (.events [.fd 3 ⟨true, false, false, false⟩]), .api (.fdUnregister 3)]

example :
    let s1 := (runTrace 20 (St.init .epoll 0 true true) demoEpoll1).2
    let s2 := (runTrace 20 (St.init .epoll 0 true true) demoEpoll2).2
    (s1.kint 3).isSome = true ∧ (s1.fds 3).registered = true ∧ s1.notify = [] ∧
    (s2.kint 3).isSome = false ∧ (s2.fds 3).registered = false ∧
    (∀ f, (s2.kint f).isSome = true → (s2.fds f).registered = true) := by
  refine ⟨by decide, by decide, by decide, by decide, by decide, ?_⟩
  exact kernel_interest_registered .epoll 0 true true _ _ (runTrace_exec 20 _ demoEpoll2) (by decide)

end Ivy.L1.ProofsReach
