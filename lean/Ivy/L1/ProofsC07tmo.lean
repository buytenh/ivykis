import Ivy.L1.MInv
import Ivy.Mon.TmoContract
/-!
# C07 (timeout clause) — the timeout-progress oracle `Mon.C07.tmoVerdict` is sound for the L1 machine

`tmoVerdict` rejects (a) a wait with a finite non-zero timeout that returns the empty result and is followed by
another wait before any callback, and (b) a third empty zero-timeout poll with neither a callback nor a non-empty
wait result since the first.

The environment is held to the timeout contract `tmoContract` (`ctrStep`, `Ivy/Mon/TmoContract.lean`): the first clock
reading after a wait with a finite non-zero timeout came back empty is at or after (clock value the timeout was
computed from) + (timeout).  Monotonicity of the clock is part of `envOk`; only the machine invariant `MInv` uses
it, the argument about timeouts does not.

`to_msec` caps a millisecond timeout at 24 h: with a timer further away `poll` / `epoll_wait` legitimately wake up
with nothing due and wait again, and `tmoVerdict` rejects that (`Ivy.Props.C07tmo.day_cap_rejected`).  All the work
is done for `tmoStepC`, which treats a millisecond wait at the cap like an unbounded one; it agrees with `tmoStep` on
traces without such a wait (`noDayCap`, `tmoFold_eq`).

`tmo_run`: from any state related to the contract state and the oracle state by `Inv`, every continuation that keeps
the contract is accepted.  The contract is a hypothesis on the whole trace, so this is an induction on `Exec` of its
own (`Post` is what one step owes), not an instance of `exec_simulation`; the machine invariant `MInv` is threaded
through it and supplies every fact about the machine alone (the heap invariant, non-negative times, that a deadline
handed to the wait is zero or the expiry of a timer on the heap: `wait_deadline`; with no task pending it is the
head of the heap, or there is none and the kernel-timer mode will be kept: `wait_calm`).

`Inv` says: (`clock`) the contract's `last` is the machine's cached `time`; (`link`) while a sleep is in the kernel
some timer on the heap expires at or before the contract's `pend`; (`owed`) after a sleep came back empty the
machine is on the straight path `dispatchNext → mainTop → clock_gettime → collect → popTimer` and some timer on the
heap expires at or before the contract's `due`, so `collect` finds it (`OwedAt`);
(`zs`) after an empty zero-timeout poll no user code runs until the next callback, the task list is empty when the
next timeout is computed, and either the heap is empty, or the clock was read after the poll and nothing is due at
that value, or kernel-timer mode persists — so the next timeout is not zero (`ZAt`), except through the `ppoll → poll`
fallback after `ENOSYS`, which reads the clock again; that happens once, the method being `poll` afterwards (first
clause of `ZInv`).  Hence `zeros ≤ 2`, and `zeros ≤ 1` on traces without `ENOSYS` (the parameter `fb` of `Inv`).
-/
namespace Ivy.L1.ProofsC07tmo
open Ivy.L1 Ivy.Heap Ivy.L1.ProofsC04
open Ivy.Mon.C04 (ns)
open Ivy.Mon.C07 (TmoSt tmoStep tmoVerdict tmoStepC tmoCapVerdict)

/-- no millisecond wait at (or beyond) the 24 h cap of `to_msec` -/
def capOk : Ev → Bool
  | .out (.wait _ (.ms v) ..) => decide (v < 86400000)
  | _ => true

def noDayCap (evs : List Ev) : Bool := evs.all capOk

theorem tmoStepC_eq (m : TmoSt) (e : Ev) (h : capOk e = true) : tmoStepC m e = tmoStep m e := by
  unfold tmoStepC
  split
  · next v _ _ _ =>
    simp only [capOk, decide_eq_true_eq] at h
    simp [tmoStep, h]
  · rfl

theorem tmoFold_eq (evs : List Ev) : ∀ m : TmoSt, evs.all capOk = true →
    evs.foldlM tmoStepC m = evs.foldlM tmoStep m := by
  induction evs with
  | nil => intro m _; rfl
  | cons e r ih =>
    intro m h
    simp only [List.all_cons, Bool.and_eq_true] at h
    rw [List.foldlM_cons, List.foldlM_cons, tmoStepC_eq m e h.1]
    cases tmoStep m e with
    | error x => rfl
    | ok m1 => exact ih m1 h.2

def Due (h : Store) (d : Int) : Prop := ∃ r, onHeap h r ∧ ns (expOf h r) ≤ d

theorem num_pos_of_due {h : Store} (hi : HeapInv h) {d : Int} (hd : Due h d) : h.num ≠ 0 := by
  obtain ⟨r, hr, _⟩ := hd
  have := Ivy.Heap.Proofs.num_pos_of_onHeap hi hr
  omega

theorem ne_zero_of_gt {now a : TS} (hn : NN now) (hg : a.gt now = true) : a ≠ ⟨0, 0⟩ := by
  rintro rfl
  unfold NN at hn
  simp [TS.gt] at hg
  omega

theorem ns_deadline {now a : TS} (hn : NN now) (hv : TS.toNs (toRelative now a) > 0) :
    ns a ≤ ns now + TS.toNs (toRelative now a) ∧ a ≠ ⟨0, 0⟩ := by
  rw [toRel_ns] at hv ⊢
  split at hv
  · next hg => rw [if_pos hg]; exact ⟨by omega, ne_zero_of_gt hn hg⟩
  · omega

/-- a non-zero millisecond timeout below the 24 h cap ends at or after the deadline (rounded up) -/
theorem ms_deadline {now a : TS} (hn : NN now) (ha : Nm a) (hv : toMsec now a > 0) (hcap : toMsec now a < 86400000) :
    ns a ≤ ns now + toMsec now a * 1000000 ∧ a ≠ ⟨0, 0⟩ := by
  have hr := toRel_ns now a
  have hb := toMsec_bounds hn.nm ha
  split at hr
  · next hg => exact ⟨by omega, ne_zero_of_gt hn hg⟩
  · omega

theorem pos_of_gt {now a : TS} (hn : Nm now) (ha : Nm a) (hg : a.gt now = true) :
    TS.toNs (toRelative now a) > 0 ∧ toMsec now a > 0 := by
  have hr := toRel_ns now a
  have hb := toMsec_bounds hn ha
  rw [if_pos hg] at hr
  have hlt := (gt_iff_ns ha hn).1 hg
  omega

def NoneDue (s : St) : Prop := s.timeValid = true ∧ ∀ t, onHeap s.heap t → (expOf s.heap t).gt s.time = true

/-- kernel-timer mode will be kept by the next `iv_fd_timeout_check` -/
def KM (s : St) : Prop :=
  s.method = .epollTimerfd ∧ s.lastAbsCount = 5 ∧ tsCmp (soonest s.heap) s.lastAbs ≥ 0

/-- the next timeout computed with an empty task list is not zero -/
def NextNonzero (s : St) : Prop := s.heap.num = 0 ∨ NoneDue s ∨ KM s

/-- the arguments of the wait being prepared give a non-zero timeout -/
def WArgs (s : St) (abs : Option TS) (km : Bool) : Prop :=
  (km = true ∧ abs = none ∧ KM s) ∨
  (km = false ∧ ((abs = none ∧ s.heap.num = 0) ∨ ∃ a, abs = some a ∧ s.timeValid = true ∧ a.gt s.time = true))

theorem KM.same {s s' : St} (h : Same s s') (k : KM s) : KM s' := by
  unfold KM at *
  rw [h.method, h.lastAbsCount, h.heap, h.lastAbs]
  exact k

theorem WArgs.same {s s' : St} {abs : Option TS} {km : Bool} (h : Same s s') (w : WArgs s abs km) : WArgs s' abs km := by
  unfold WArgs at *
  rw [h.heap, h.timeValid, h.time]
  rcases w with ⟨a, b, k⟩ | w
  · exact Or.inl ⟨a, b, k.same h⟩
  · exact Or.inr w

def ZD (s : St) (rt : Bool) : Prop :=
  if rt = true then s.timeValid = false else s.tasks = [] ∧ (s.heap.num = 0 ∨ KM s)

/-! What `MInv` says about the arguments of a wait being prepared or under way. -/

theorem wait_deadline {s : St} (hI : MInv s) {abs : Option TS} {km : Bool} (hw : waitArgs s.pc = some (abs, km))
    {a : TS} (ha : abs = some a) : Nm a ∧ (a = ⟨0, 0⟩ ∨ ∃ r, onHeap s.heap r ∧ expOf s.heap r = a) := by
  obtain ⟨w0, w1⟩ := hI.time.wait abs km hw
  cases km with
  | true => rw [(w1 rfl).1] at ha; cases ha
  | false =>
    have hd : deadline s = some a := (w0 rfl).1.symm.trans ha
    refine ⟨(hI.time.deadlineNN hI.heap hd).nm, ?_⟩
    unfold deadline at hd
    split at hd
    · cases hd; exact Or.inl rfl
    · exact Or.inr (Proofs.soonest_some hI.heap hd)

/-- with no task pending: a wait with a timeout has the head of the heap as its deadline, and a wait without one
was prepared in the kernel-timer mode, which the next `iv_fd_timeout_check` will keep -/
theorem wait_calm {s : St} (hI : MInv s) {abs : Option TS} {km : Bool} (hw : waitArgs s.pc = some (abs, km))
    (ht : s.tasks = []) : if km = true then abs = none ∧ KM s else abs = soonest s.heap := by
  obtain ⟨w0, w1⟩ := hI.time.wait abs km hw
  have hd : deadline s = soonest s.heap := by simp [deadline, ht]
  cases km with
  | true =>
    obtain ⟨ha, hm, h5, hc⟩ := w1 rfl
    exact ⟨ha, hm, h5, hd ▸ hc⟩
  | false => exact (w0 rfl).1.trans hd

/-- after a wait with a non-zero finite timeout returned empty: the loop is on its way to a timer callback -/
def OwedAt (s : St) (c : CSt) : Pc → Prop
  | .run .dispatchNext =>
    (∃ rest, s.stack = .poll [] true :: rest) ∧ s.timeValid = false ∧ ∃ d, c.due = some d ∧ Due s.heap d
  | .run (.mainTop rt) => rt = true ∧ s.timeValid = false ∧ ∃ d, c.due = some d ∧ Due s.heap d
  | .needTime .forTimers => ∃ d, c.due = some d ∧ Due s.heap d
  | .run .collect => Due s.heap (ns s.time)
  | .run .popTimer => timerBatch s ≠ []
  | _ => False

/-- after an empty zero-timeout poll, no callback since: no user code has run, and the loop cannot compute a zero
timeout again (except once through the `ppoll → poll` fallback, which re-reads the clock) -/
def ZAt (fb : Bool) (s : St) (m : TmoSt) : Pc → Prop
  | .run .dispatchNext => ∃ rt rest, s.stack = .poll [] rt :: rest ∧ ZD s rt
  | .run (.mainTop rt) => ZD s rt
  | .needTime .forTimers => True
  | .run .collect => True
  | .run .popTimer => timerBatch s = [] → NoneDue s
  | .run .startTasks => NextNonzero s
  | .run .popTask => s.tasks = [] ∧ NextNonzero s
  | .run .runEvents => (∃ b rest, s.stack = .tasks b :: rest) ∧ s.tasks = [] ∧ NextNonzero s
  | .run .popEvent => ∃ e r rest, s.stack = .events (e :: r) :: rest
  | .run .resume => (∃ b rest, s.stack = .tasks b :: rest) ∧ s.tasks = [] ∧ NextNonzero s
  | .run .exitCheck => s.tasks = [] ∧ NextNonzero s
  | .run .prepWait => s.tasks = [] ∧ NextNonzero s
  | .run (.flush abs km) => s.tasks = [] ∧ WArgs s abs km
  | .needTime (.forWait abs _) => fb = true ∧ s.method = .poll ∧ m.zeros ≤ 1 ∧ abs.isSome = true
  | .run (.wait abs km) =>
    (s.tasks = [] ∧ WArgs s abs km) ∨ (fb = true ∧ s.method = .poll ∧ m.zeros ≤ 1 ∧ abs.isSome = true)
  | .waiting abs km =>
    (s.tasks = [] ∧ WArgs s abs km ∧ m.zero = false) ∨
    (fb = true ∧ s.method = .poll ∧ m.zeros ≤ 1 ∧ abs.isSome = true)
  | _ => False

def ZInv (fb : Bool) (s : St) (m : TmoSt) : Prop := (m.zeros ≤ 1 ∨ s.method ≠ .ppoll) ∧ ZAt fb s m s.pc

/-- the bound on the oracle's counter: 2, and 1 when the `ppoll → poll` fallback is excluded (`fb = false`) -/
def Zb (fb : Bool) (n : Nat) : Prop := n ≤ 2 ∧ (fb = false → n ≤ 1)

variable {fb : Bool}

theorem Zb.zero : Zb fb 0 := ⟨by omega, fun _ => by omega⟩

structure Inv (fb : Bool) (s : St) (c : CSt) (m : TmoSt) : Prop where
  clock : c.last = ns s.time
  zle : Zb fb m.zeros
  link : ∀ abs km, s.pc = .waiting abs km →
    (m.sleep = true → abs.isSome = true ∧ ∃ d, c.pend = some d ∧ Due s.heap d) ∧
    (m.zero = true → abs.isSome = true)
  owed : m.owed = true → OwedAt s c s.pc
  zs : m.owed = false → 1 ≤ m.zeros → ZInv fb s m

theorem inv_init (mt : Method) (n : Nat) (a b : Bool) : Inv fb (St.init mt n a b) {} {} := by
  refine ⟨rfl, Zb.zero, ?_, ?_, ?_⟩
  · intro abs km h; simp [St.init] at h
  · intro h; cases h
  · intro _ h; simp at h

theorem Inv.normal {s' : St} {c' : CSt} {m' : TmoSt} (hw : waitArgs s'.pc = none) (hc : c'.last = ns s'.time)
    (h0 : m'.zeros = 0) (hf : m'.owed = false) : Inv fb s' c' m' := by
  refine ⟨hc, by rw [h0]; exact Zb.zero, ?_, ?_, ?_⟩
  · intro abs km h; rw [h] at hw; simp [waitArgs] at hw
  · intro h; rw [hf] at h; cases h
  · intro _ h; omega

/-! ## what a step owes: the oracle accepts its records and the invariant holds afterwards -/

def Post (fb : Bool) (s' : St) (c : CSt) (m : TmoSt) (evs : List Ev) : Prop :=
  ∀ c', evs.foldlM ctrStep c = .ok c' →
    ∃ m', evs.foldlM tmoStepC m = .ok m' ∧ Zb fb m'.zeros ∧ (s'.pc = .dead ∨ Inv fb s' c' m')

theorem Post.nil {s' : St} {c : CSt} {m : TmoSt} (h : s'.pc = .dead ∨ Inv fb s' c m) (hz : Zb fb m.zeros) : Post fb s' c m [] := by
  intro c' hc
  cases hc
  exact ⟨m, rfl, hz, h⟩

theorem Post.inv {s' : St} {c : CSt} {m : TmoSt} (h : Inv fb s' c m) : Post fb s' c m [] :=
  Post.nil (Or.inr h) h.zle

theorem Post.dead {s' : St} {c : CSt} {m : TmoSt} {o : Out} (hz : Zb fb m.zeros) (hd : s'.pc = .dead)
    (ho : isBad o = true) : Post fb s' c m [Ev.out o] := by
  intro c' hc
  refine ⟨m, ?_, hz, Or.inl hd⟩
  rw [foldlM_one]
  cases o <;> first | rfl | cases ho

theorem Post.cb {s' : St} {c : CSt} {m : TmoSt} (k : Cb) (hu : s'.pc = .user) (hc : c.last = ns s'.time) :
    Post fb s' c m [Ev.out (.cb k)] := by
  intro c' hc'
  rw [foldlM_one] at hc'
  cases hc'
  refine ⟨{ m with owed := false, zeros := 0 }, by rw [foldlM_one]; rfl, Zb.zero, Or.inr ?_⟩
  exact Inv.normal (by rw [hu]; rfl) hc rfl rfl

theorem Post.mainRet {s' : St} {c : CSt} {m : TmoSt} (hu : s'.pc = .user) (hc : c.last = ns s'.time) :
    Post fb s' c m [Ev.out .mainRet] := by
  intro c' hc'
  rw [foldlM_one] at hc'
  cases hc'
  refine ⟨{}, by rw [foldlM_one]; rfl, Zb.zero, Or.inr ?_⟩
  exact Inv.normal (by rw [hu]; rfl) hc rfl rfl

theorem Post.inp {s' : St} {c : CSt} {m : TmoSt} {i : Input}
    (h : ∀ c', ctrStep c (.inp i) = .ok c' →
      ∃ m', tmoStepC m (.inp i) = .ok m' ∧ Zb fb m'.zeros ∧ (s'.pc = .dead ∨ Inv fb s' c' m')) :
    Post fb s' c m [Ev.inp i] := fun c' hc' => by
  rw [foldlM_one] at hc' ⊢
  exact h c' hc'

theorem Post.inp1 {s' : St} {c c1 : CSt} {m m1 : TmoSt} {i : Input} (hc : ctrStep c (.inp i) = .ok c1)
    (hm : tmoStepC m (.inp i) = .ok m1) (hz : Zb fb m1.zeros) (hI : Inv fb s' c1 m1) :
    Post fb s' c m [Ev.inp i] := .inp fun c' e => by
  cases hc.symm.trans e
  exact ⟨m1, hm, hz, Or.inr hI⟩

inductive Shape (s' : St) : List Out → Prop
  | dead (o : Out) : s'.pc = .dead → isBad o = true → Shape s' [o]
  | nil : waitArgs s'.pc = none → Shape s' []
  | ret (v : Int) : waitArgs s'.pc = none → Shape s' [Out.ret v]
  | cb (k : Cb) : s'.pc = .user → Shape s' [Out.cb k]
  | mainRet : s'.pc = .user → Shape s' [Out.mainRet]

theorem Shape.of_plain {s : St} {r : St × List Out} (h : Plain s r) : Shape r.1 r.2 := by
  cases h with
  | fatal msg => exact .dead _ rfl rfl
  | fault msg => exact .dead _ rfl rfl
  | silent s' h => exact .nil h.wait
  | ret s' v h => exact .ret v h.wait
  | cb s' c _ hu _ => exact .cb c hu
  | mainRet s' hu _ => exact .mainRet hu

theorem Post.shape {s' : St} {c : CSt} {m : TmoSt} {outs : List Out} (hf : m.owed = false) (h0 : m.zeros = 0)
    (hc : c.last = ns s'.time) (hsh : Shape s' outs) : Post fb s' c m (outs.map Ev.out) := by
  cases hsh with
  | dead o hd hb => exact Post.dead (by rw [h0]; exact Zb.zero) hd hb
  | nil hw => exact Post.inv (Inv.normal hw hc h0 hf)
  | ret v hw =>
    intro c' hc'
    rw [List.map_cons, List.map_nil, foldlM_one] at hc' ⊢
    cases hc'
    exact ⟨m, rfl, by rw [h0]; exact Zb.zero, Or.inr (Inv.normal hw hc h0 hf)⟩
  | cb k hu => exact Post.cb k hu hc
  | mainRet hu => exact Post.mainRet hu hc

theorem Inv.step {s s' : St} {c : CSt} {m : TmoSt} (I : Inv fb s c m) {p q : Pc} (hp : s.pc = p) (hq : s'.pc = q)
    (ht : s'.time = s.time) (hm : s'.method = s.method) (hw : waitArgs q = none)
    (ho : OwedAt s c p → OwedAt s' c q) (hz : ZAt fb s m p → ZAt fb s' m q) : Inv fb s' c m := by
  rw [← hq] at hw
  refine ⟨by rw [ht]; exact I.clock, I.zle, ?_, fun h => ?_, fun h1 h2 => ?_⟩
  · intro abs km h; rw [h] at hw; simp [waitArgs] at hw
  · have h2 := I.owed h
    rw [hp] at h2
    rw [hq]; exact ho h2
  · have h3 := I.zs h1 h2
    unfold ZInv at h3 ⊢
    rw [hq, hm]; rw [hp] at h3
    exact ⟨h3.1, hz h3.2⟩

theorem Inv.not_owed {s : St} {c : CSt} {m : TmoSt} (I : Inv fb s c m) {p : Pc} (hp : s.pc = p)
    (h : ¬ OwedAt s c p) : m.owed = false := by
  cases ho : m.owed with
  | false => rfl
  | true => exact absurd (hp ▸ I.owed ho) h

theorem Inv.idle {s : St} {c : CSt} {m : TmoSt} (I : Inv fb s c m) {p : Pc} (hp : s.pc = p)
    (h1 : OwedAt s c p → False) (h2 : ZAt fb s m p → False) : m.owed = false ∧ m.zeros = 0 := by
  have ho := I.not_owed hp h1
  refine ⟨ho, ?_⟩
  cases hz : m.zeros with
  | zero => rfl
  | succ n =>
    have := I.zs ho (by omega)
    unfold ZInv at this
    rw [hp] at this
    exact (h2 this.2).elim

/-- the blocks but `prepWait`, `flush` and `wait`, branch by branch: where control goes, `OwedAt` and `ZAt` hold
again, or a callback is entered -/
theorem blk_ctl {s : St} {c : CSt} {m : TmoSt} (hI : MInv s) (I : Inv fb s c m) {b : Block} (hpc : s.pc = .run b)
    (hb : match b with | .prepWait | .flush .. | .wait .. => False | _ => True) :
    Post fb (internal s b).1 c m ((internal s b).2.map Ev.out) := by
  have hs := hI.step hpc
  generalize internal s b = x at hs
  have go : ∀ {s' : St} {q : Pc}, s'.pc = q → s'.time = s.time → s'.method = s.method → waitArgs q = none →
      (OwedAt s c (.run b) → OwedAt s' c q) → (ZAt fb s m (.run b) → ZAt fb s' m q) → Post fb s' c m [] :=
    fun hq ht hm hw ho hz => Post.inv (I.step hpc hq ht hm hw ho hz)
  cases hs with
  | mainTop_skip rt _ h =>
    refine go rfl rfl rfl rfl (fun ⟨hrt, _, d, _, hd⟩ => ?_) (fun z => ?_)
    · exact h.elim (fun e => by rw [e] at hrt; cases hrt) (num_pos_of_due hI.heap hd)
    · rcases h with rfl | h
      · exact (show s.tasks = [] ∧ _ from z).2.imp_right .inr
      · exact .inl h
  | mainTop_collect _ _ htv => exact go rfl rfl rfl rfl (fun h => by rw [h.2.1] at htv; cases htv) (fun _ => trivial)
  | mainTop_clock => exact go rfl rfl rfl rfl (fun h => h.2.2) (fun _ => trivial)
  | collect h' batch _ e =>
    obtain ⟨h2, b2, e2, _, _, _, hmem, hon, _, hexp, _⟩ := Ivy.Props.C05.collect_sorted s.heap s.time hI.heap
    cases e.symm.trans e2
    refine go rfl rfl rfl rfl (fun ⟨r, hr, hle⟩ => ?_) (fun _ _ => ⟨hI.time.tv (by rw [hpc]; rfl), fun t ht => ?_⟩)
    · exact List.ne_nil_of_mem
        ((hmem r).2 ⟨hr, (le_iff_ns (hI.time.expNN r (Or.inl hr)).nm hI.time.timeNN.nm).2 hle⟩)
    · exact (hexp t).symm ▸ ((hon t).1 ht).2
  | popTimer_done hst =>
    have hb : timerBatch s = [] := by unfold timerBatch; rw [hst]; rfl
    exact go rfl rfl rfl rfl (fun h => h hb) (fun z => .inr (.inl (z hb)))
  | popTimer_cb | popTask_cb | popEvent_cb | fd_cb => exact Post.cb _ rfl I.clock
  | startTasks => exact go rfl rfl rfl rfl False.elim (fun z => ⟨rfl, z⟩)
  | popTask_done => exact go rfl rfl rfl rfl False.elim id
  | popTask_events r => exact go rfl rfl rfl rfl False.elim (fun z => ⟨⟨_, _, rfl⟩, z⟩)
  | runEvents_none => exact go rfl rfl rfl rfl False.elim id
  | runEvents_some _ hp =>
    obtain ⟨e, r, hp⟩ := List.exists_cons_of_ne_nil hp
    exact go rfl rfl rfl rfl False.elim (fun _ => ⟨e, r, _, by rw [hp]⟩)
  | popEvent_done rest hst => exact go rfl rfl rfl rfl False.elim (fun ⟨e, r, rest', h⟩ => by rw [hst] at h; cases h)
  | resume_tasks => exact go rfl rfl rfl rfl False.elim (fun z => z.2)
  | resume_poll a rt hst | resume_fd _ _ a rt hst =>
    exact go rfl rfl rfl rfl False.elim (fun ⟨⟨b, rest, h⟩, _⟩ => by rw [hst] at h; cases h)
  | exit => exact Post.mainRet rfl I.clock
  | stay => exact go rfl rfl rfl rfl False.elim id
  | prepWait | flush_clock | flush_go | wait => exact hb.elim
  | dispatch_done rt hst =>
    refine go rfl rfl rfl rfl (fun ⟨⟨rest, h1⟩, h2⟩ => ?_) (fun ⟨rt', rest, h1, h2⟩ => ?_)
    · rw [hst] at h1; cases h1; exact ⟨rfl, h2⟩
    · rw [hst] at h1; cases h1; exact h2
  | dispatch_next f r rt hst =>
    exact go rfl rfl rfl rfl (fun ⟨⟨rest, h1⟩, _⟩ => by rw [hst] at h1; cases h1)
      (fun ⟨rt', rest, h1, _⟩ => by rw [hst] at h1; cases h1)
  | fd_done | fd_pass | fd_raw => exact go rfl rfl rfl rfl False.elim False.elim

theorem tc_km (s : St) (abs : Option TS) (h1 : s.lastAbsCount = 5) (h2 : tsCmp abs s.lastAbs ≥ 0) :
    timeoutCheck s abs = (s, true) := by
  rcases timeoutCheck_cases (s := s) (abs := abs) rfl with
    ⟨_, _, e⟩ | ⟨_, h4, _⟩ | ⟨_, h4, _⟩ | ⟨_, _, h5, _⟩ | ⟨_, hk, _⟩
  · exact e
  · omega
  · omega
  · exact absurd h1 h5
  · exact absurd ⟨h1, h2⟩ hk

theorem Inv.stepW {s s' : St} {c : CSt} {m : TmoSt} (I : Inv fb s c m) {p q : Pc}
    (hp : s.pc = p) (hq : s'.pc = q) (hnw : ∀ a k, q ≠ .waiting a k)
    (ht : s'.time = s.time) (ho : ¬ OwedAt s c p)
    (hz : m.owed = false → 1 ≤ m.zeros → (m.zeros ≤ 1 ∨ s.method ≠ .ppoll) → ZAt fb s m p →
      (m.zeros ≤ 1 ∨ s'.method ≠ .ppoll) ∧ ZAt fb s' m q) : Inv fb s' c m := by
  refine ⟨by rw [ht]; exact I.clock, I.zle, ?_, ?_, ?_⟩
  · intro a k h; rw [hq] at h; exact absurd h (hnw a k)
  · intro h1; exact (ho (hp ▸ I.owed h1)).elim
  · intro h1 h2
    have h3 := I.zs h1 h2
    unfold ZInv at h3 ⊢
    rw [hq]; rw [hp] at h3
    exact hz h1 h2 h3.1 h3.2

/-- kernel-timer mode with no task pending is kept: `iv_fd_timeout_check` answers that no timeout is needed -/
theorem prepWait_km {s : St} (hk : KM s) (ht : s.tasks = []) : internal s .prepWait = goto s (.flush none true) := by
  have hd : (if !s.tasks.isEmpty then some (⟨0, 0⟩ : TS) else soonest s.heap) = soonest s.heap := by simp [ht]
  rw [internal, if_pos (by rw [hk.1]; rfl), hd, tc_km s _ hk.2.1 hk.2.2]
  rfl

/-- the deadline is computed with no task pending, and is not zero: the heap is empty, or its head is not due at the
clock value read after the poll, or the kernel-timer mode is kept -/
theorem blk_prepWait {s : St} {c : CSt} {m : TmoSt} (hI' : MInv (internal s .prepWait).1) (I : Inv fb s c m)
    (hpc : s.pc = .run .prepWait) :
    Post fb (internal s .prepWait).1 c m ((internal s .prepWait).2.map Ev.out) := by
  obtain ⟨s1, abs, km, e, hf, hmeth, -⟩ := internal_prepWait_eq s
  have hkm : KM s → s.tasks = [] → km = true := fun hk ht => by
    have := congrArg (fun r : St × List Out => r.1.pc) (e.symm.trans (prepWait_km hk ht))
    injection this with this
    injection this
  rw [e] at hI' ⊢
  have h1 : s1.heap = s.heap := by rw [hf]
  have h2 : s1.time = s.time := by rw [hf]
  have h3 : s1.timeValid = s.timeValid := by rw [hf]
  have h4 : s1.tasks = s.tasks := by rw [hf]
  have hh : HeapInv s.heap := h1 ▸ hI'.heap
  refine Post.inv (I.stepW hpc rfl (by simp) h2 id (fun _ _ z1 h => ⟨z1.imp id fun hm => ?_, ?_⟩))
  · show s1.method ≠ .ppoll
    rcases hmeth with e | e <;> rw [e]
    · exact hm
    · nofun
  · simp only [ZAt] at h ⊢
    obtain ⟨ht, hn⟩ := h
    refine ⟨h4.trans ht, ?_⟩
    have hc := wait_calm hI' (abs := abs) (km := km) rfl (h4.trans ht)
    cases km with
    | true => exact Or.inl ⟨rfl, hc⟩
    | false =>
      have hc : abs = soonest s.heap := (show abs = soonest s1.heap from hc).trans (by rw [h1])
      refine Or.inr ⟨rfl, ?_⟩
      show (abs = none ∧ s1.heap.num = 0) ∨ ∃ a, abs = some a ∧ s1.timeValid = true ∧ a.gt s1.time = true
      rw [h1, h2, h3, hc]
      rcases hn with hn | ⟨htv, hnd⟩ | hk
      · exact Or.inl ⟨Proofs.soonest_zero hn, hn⟩
      · cases hs : soonest s.heap with
        | none => exact Or.inl ⟨rfl, Proofs.soonest_none hh hs⟩
        | some a =>
          obtain ⟨r, hr, hre⟩ := Proofs.soonest_some hh hs
          exact Or.inr ⟨a, rfl, htv, hre ▸ hnd r hr⟩
      · exact absurd (hkm hk ht) nofun

theorem blk_flush {s : St} {c : CSt} {m : TmoSt} (hI : MInv s) (I : Inv fb s c m)
    (abs : Option TS) (km : Bool) (hpc : s.pc = .run (.flush abs km)) :
    Post fb (internal s (.flush abs km)).1 c m ((internal s (.flush abs km)).2.map Ev.out) := by
  have hS : Same s (flushed s) := by rw [flushed_frame]; same_rfl
  have hT : (flushed s).tasks = s.tasks := by rw [flushed_frame]
  have hs := hI.step hpc
  generalize internal s (.flush abs km) = x at hs
  cases hs with
  | flush_clock _ _ _ ha htv =>
    -- the deadline of a wait prepared after an empty zero-timeout poll was compared with a valid clock
    refine Post.inv (I.stepW hpc rfl (fun _ _ h => Pc.noConfusion h) hS.time id (fun _ _ _ h => False.elim ?_))
    rcases (show s.tasks = [] ∧ WArgs s abs km from h).2 with ⟨_, e, _⟩ | ⟨_, ⟨e, _⟩ | ⟨a, _, htv', _⟩⟩
    · rw [e] at ha; cases ha
    · rw [e] at ha; cases ha
    · rw [htv] at htv'; cases htv'
  | flush_go =>
    exact Post.inv (I.stepW hpc rfl (fun _ _ h => Pc.noConfusion h) hS.time id fun _ _ hmm h =>
      ⟨by rw [hS.method]; exact hmm, .inl ⟨hT.trans h.1, (h.2.same hS : WArgs (flushed s) abs km)⟩⟩)

def toPos : Timeout → Bool
  | .inf => false
  | .ns v => decide (v > 0)
  | .ms v => decide (v > 0) && decide (v < 86400000)

def toZero : Timeout → Bool
  | .inf => false
  | .ns v => decide (v = 0)
  | .ms v => decide (v = 0)

theorem tmo_wait {m : TmoSt} (hm : m.owed = false) (p : String) (to : Timeout) (i : List (FdId × Bands))
    (k : Option (Option TS)) (kk : Option Bool) :
    tmoStepC m (.out (.wait p to i k kk)) = .ok { m with sleep := toPos to, zero := toZero to } := by
  cases to <;> simp [tmoStepC, tmoStep, hm, toPos, toZero]

theorem timeout_facts {s : St} {a : TS} (hn : NN s.time) (ha : Nm a) :
    (toPos (timeoutOf s (some a)) = true →
      a ≠ ⟨0, 0⟩ ∧ ∃ d, toDeadline (ns s.time) (timeoutOf s (some a)) = some d ∧ ns a ≤ d) ∧
    (a.gt s.time = true → toZero (timeoutOf s (some a)) = false) := by
  rcases timeoutOf_some s a with e | e
  · rw [e]
    simp only [toPos, toZero, toDeadline, decide_eq_true_eq, decide_eq_false_iff_not]
    refine ⟨fun hv => ?_, fun hg => ?_⟩
    · obtain ⟨h1, h2⟩ := ns_deadline hn hv
      exact ⟨h2, _, by rw [if_pos hv], h1⟩
    · have := (pos_of_gt hn.nm ha hg).1
      omega
  · rw [e]
    simp only [toPos, toZero, toDeadline, Bool.and_eq_true, decide_eq_true_eq, decide_eq_false_iff_not]
    refine ⟨fun hv => ?_, fun hg => ?_⟩
    · obtain ⟨h1, h2⟩ := ms_deadline hn ha hv.1 hv.2
      exact ⟨h2, _, by rw [if_pos hv.1], h1⟩
    · have := (pos_of_gt hn.nm ha hg).2
      omega

theorem blk_wait {s : St} {c : CSt} {m : TmoSt} (hI : MInv s) (I : Inv fb s c m)
    (abs : Option TS) (km : Bool) (hpc : s.pc = .run (.wait abs km)) :
    Post fb (internal s (.wait abs km)).1 c m ((internal s (.wait abs km)).2.map Ev.out) := by
  have hw : waitArgs s.pc = some (abs, km) := by rw [hpc]; rfl
  have hf := I.not_owed hpc id
  simp only [internal, List.map_cons, List.map_nil]
  intro c' hc'
  rw [foldlM_one] at hc'
  simp only [ctrStep, Except.ok.injEq] at hc'
  subst hc'
  refine ⟨{ m with sleep := toPos (timeoutOf s abs), zero := toZero (timeoutOf s abs) },
    by rw [foldlM_one]; exact tmo_wait hf _ _ _ _ _, I.zle, Or.inr ?_⟩
  have hfacts : ∀ a, abs = some a →
      (toPos (timeoutOf s abs) = true →
        a ≠ ⟨0, 0⟩ ∧ ∃ d, toDeadline (ns s.time) (timeoutOf s abs) = some d ∧ ns a ≤ d) ∧
      (a.gt s.time = true → toZero (timeoutOf s abs) = false) := by
    intro a ha
    subst ha
    exact timeout_facts hI.time.timeNN (wait_deadline hI hw rfl).1
  refine ⟨I.clock, I.zle, ?_, ?_, ?_⟩
  · intro abs' km' h
    simp only [Pc.waiting.injEq] at h
    obtain ⟨rfl, rfl⟩ := h
    simp only []
    cases habs : abs with
    | none => simp [timeoutOf, toPos, toZero]
    | some a =>
      refine ⟨fun hp => ⟨rfl, ?_⟩, fun _ => rfl⟩
      subst habs
      obtain ⟨hne, d, hd, hle⟩ := (hfacts a rfl).1 hp
      refine ⟨d, by rw [I.clock]; exact hd, ?_⟩
      rcases (wait_deadline hI hw rfl).2 with h0 | ⟨r, hr, hre⟩
      · exact absurd h0 hne
      · exact ⟨r, hr, by rw [hre]; exact hle⟩
  · intro h; rw [hf] at h; cases h
  · intro _ h1
    have hz := I.zs hf h1
    unfold ZInv at hz ⊢
    rw [hpc] at hz
    refine ⟨hz.1, ?_⟩
    simp only [ZAt] at hz ⊢
    rcases hz.2 with ⟨h2, h3⟩ | h2
    · refine Or.inl ⟨h2, h3, ?_⟩
      rcases h3 with ⟨_, e, _⟩ | ⟨_, ⟨e, _⟩ | ⟨a, e, _, hg⟩⟩
      · rw [e]; rfl
      · rw [e]; rfl
      · exact (hfacts a e).2 hg
    · exact Or.inr h2

theorem internal_post {s : St} {c : CSt} {m : TmoSt} (hI : MInv s) (I : Inv fb s c m) (b : Block)
    (hpc : s.pc = .run b) :
    Post fb (internal s b).1 c m ((internal s b).2.map Ev.out) := by
  cases b with
  | prepWait => exact blk_prepWait (hI.internal hpc) I hpc
  | flush abs km => exact blk_flush hI I abs km hpc
  | wait abs km => exact blk_wait hI I abs km hpc
  | _ => exact blk_ctl hI I hpc trivial

theorem Post.idle {s' : St} {c : CSt} {m : TmoSt} {i : Input} {outs : List Out} (hf : m.owed = false)
    (h0 : m.zeros = 0) (hmi : tmoStepC m (.inp i) = .ok m) (hci : ctrStep c (.inp i) = .ok c)
    (hc : c.last = ns s'.time) (hsh : Shape s' outs) : Post fb s' c m (Ev.inp i :: outs.map Ev.out) := by
  intro c' hc'
  rw [List.foldlM_cons, hci] at hc'
  rw [List.foldlM_cons, hmi]
  exact Post.shape hf h0 hc hsh c' hc'

theorem api_shape (s : St) (a : Api) (hpc : s.pc = .user) : Shape (api s a).1 (api s a).2 := by
  have hu : waitArgs s.pc = none := by rw [hpc]; rfl
  obtain ⟨-, -, hc⟩ := api_effect s a
  generalize api s a = x at hc
  cases hc with
  | dead o ho => exact .dead o rfl ho
  | ret s' v e => exact .ret v (e ▸ hu)
  | nil s' e => exact .nil (e ▸ hu)
  | validate => exact .nil rfl
  | main => exact .nil rfl

theorem api_time (s : St) (a : Api) : (api s a).1.time = s.time := by
  rw [api_frame]
  cases a.kind <;> rfl

theorem inp_time {s : St} {c : CSt} {m : TmoSt} (I : Inv fb s c m) (k : TimeK) (t : TS)
    (hpc : s.pc = .needTime k) :
    Post fb (afterTime s t k).1 c m (Ev.inp (.time t) :: (afterTime s t k).2.map Ev.out) := by
  rw [afterTime_eq]
  refine .inp fun c' hc' => ⟨m, rfl, I.zle, Or.inr ?_⟩
  have hcl : c'.last = ns t ∧ (∀ d, c.due = some d → d ≤ ns t) := by
    simp only [ctrStep] at hc'
    split at hc'
    · next d hd =>
      split at hc'
      · next hle => cases hc'; exact ⟨rfl, fun d' h => by rw [hd] at h; cases h; exact hle⟩
      · cases hc'
    · next hd => cases hc'; exact ⟨rfl, fun d h => by rw [hd] at h; cases h⟩
  cases k with
  | forTimers =>
    refine ⟨hcl.1, I.zle, fun _ _ h => Pc.noConfusion h, ?_, ?_⟩
    · intro ho
      have := I.owed ho
      rw [hpc] at this
      simp only [OwedAt] at this
      obtain ⟨d, hd, r, hr, hle⟩ := this
      show OwedAt _ c' (.run .collect)
      simp only [OwedAt]
      exact ⟨r, hr, Int.le_trans hle (hcl.2 d hd)⟩
    · intro hf h1
      have := I.zs hf h1
      unfold ZInv at this ⊢
      exact ⟨this.1, trivial⟩
  | forWait abs km =>
    refine ⟨hcl.1, I.zle, fun _ _ h => Pc.noConfusion h, ?_, ?_⟩
    · intro ho
      have := I.owed ho
      rw [hpc] at this
      simp only [OwedAt] at this
    · intro hf h1
      have := I.zs hf h1
      unfold ZInv at this ⊢
      rw [hpc] at this
      refine ⟨this.1, ?_⟩
      show ZAt fb _ m (.run (.wait abs km))
      simp only [ZAt] at this ⊢
      exact Or.inr this.2
  | forValidate =>
    obtain ⟨hf, h0⟩ := I.idle hpc (by simp [OwedAt]) (by simp [ZAt])
    exact Inv.normal rfl hcl.1 h0 hf

def wakeRt (s : St) (abs : Option TS) : Bool := if s.method == .epollTimerfd then abs.isSome else true

/-- the state after `EINTR` or an empty result -/
def wake (s : St) (abs : Option TS) (km : Bool) : St :=
  { s with timeValid := false, lastAbsCount := if km && wakeRt s abs then 0 else s.lastAbsCount,
           stack := .poll [] (wakeRt s abs) :: s.stack, pc := .run .dispatchNext }

theorem wake_eq (s : St) (abs : Option TS) (km : Bool) : afterWait s abs km .eintr = (wake s abs km, []) :=
  afterWait_eintr_eq s abs km

theorem wakeRt_some {s : St} {abs : Option TS} (h : abs.isSome = true) : wakeRt s abs = true := by
  unfold wakeRt; split <;> simp [h]

theorem zd_wake {s : St} {abs : Option TS} {km : Bool}
    (h : (s.tasks = [] ∧ WArgs s abs km) ∨ abs.isSome = true) : ZD (wake s abs km) (wakeRt s abs) := by
  have hsome : abs.isSome = true → ZD (wake s abs km) (wakeRt s abs) := by
    intro ha
    rw [wakeRt_some ha]
    unfold ZD
    rw [if_pos rfl]
    rfl
  rcases h with ⟨ht, ⟨rfl, rfl, hK⟩ | ⟨rfl, ⟨rfl, hn⟩ | ⟨a, rfl, _, _⟩⟩⟩ | ha
  · have hr : wakeRt s none = false := by simp [wakeRt, hK.1]
    rw [hr]
    unfold ZD
    rw [if_neg (by simp)]
    refine ⟨ht, Or.inr ⟨hK.1, ?_, hK.2.2⟩⟩
    show (if (true && wakeRt s none) = true then 0 else s.lastAbsCount) = 5
    rw [hr]
    exact hK.2.1
  · unfold ZD
    split
    · rfl
    · exact ⟨ht, Or.inl hn⟩
  · exact hsome rfl
  · exact hsome ha

theorem afterWait_events_shape (s : St) (abs : Option TS) (km : Bool) (l : List WItem) :
    waitArgs (afterWait s abs km (.events l)).1.pc = none ∧ (afterWait s abs km (.events l)).1.time = s.time := by
  obtain ⟨fds, ka, kt, a, rt, re, b, w⟩ := afterWait_wake s abs km (r := .events l) nofun
  rw [w.eq]
  rcases w.next with ⟨_, rfl⟩ | ⟨_, rfl⟩ <;> exact ⟨rfl, rfl⟩

theorem not_owed_waiting {s : St} {c : CSt} {m : TmoSt} (I : Inv fb s c m) {abs : Option TS} {km : Bool}
    (hpc : s.pc = .waiting abs km) : m.owed = false := I.not_owed hpc id

theorem zat_waiting {s : St} {c : CSt} {m : TmoSt} (I : Inv fb s c m) {abs : Option TS} {km : Bool}
    (hpc : s.pc = .waiting abs km) (h1 : 1 ≤ m.zeros) :
    (m.zeros ≤ 1 ∨ s.method ≠ .ppoll) ∧
    ((s.tasks = [] ∧ WArgs s abs km ∧ m.zero = false) ∨
      (fb = true ∧ s.method = .poll ∧ m.zeros ≤ 1 ∧ abs.isSome = true)) := by
  have := I.zs (not_owed_waiting I hpc) h1
  unfold ZInv at this
  rw [hpc] at this
  simpa only [ZAt] using this

/-- `EINTR`, or an empty result of a wait that was neither a sleep nor a zero-timeout poll: the oracle does not move -/
theorem wake_plain {s : St} {c c' : CSt} {m : TmoSt} (I : Inv fb s c m) {abs : Option TS} {km : Bool}
    (hpc : s.pc = .waiting abs km) (hc : c'.last = c.last) : Inv fb (wake s abs km) c' m := by
  have hf := not_owed_waiting I hpc
  refine ⟨by rw [hc]; exact I.clock, I.zle, ?_, ?_, ?_⟩
  · intro a k h; simp [wake] at h
  · intro h; rw [hf] at h; cases h
  · intro _ h1
    obtain ⟨z1, z2⟩ := zat_waiting I hpc h1
    refine ⟨z1, ?_⟩
    show ZAt fb _ m (.run .dispatchNext)
    simp only [ZAt]
    refine ⟨wakeRt s abs, s.stack, rfl, zd_wake ?_⟩
    rcases z2 with ⟨a, b, _⟩ | ⟨_, _, _, a⟩
    · exact Or.inl ⟨a, b⟩
    · exact Or.inr a

theorem inp_wret {s : St} {c : CSt} {m : TmoSt} (I : Inv fb s c m) (abs : Option TS) (km : Bool)
    (r : WRes) (hpc : s.pc = .waiting abs km) (hfb : fb = true ∨ r ≠ .enosys) :
    Post fb (afterWait s abs km r).1 c m (Ev.inp (.wret r) :: (afterWait s abs km r).2.map Ev.out) := by
  have hf := not_owed_waiting I hpc
  cases r with
  | eintr =>
    rw [wake_eq]
    exact .inp1 rfl rfl I.zle (wake_plain I hpc rfl)
  | events l =>
    cases l with
    | cons x l' =>
      obtain ⟨hw, ht⟩ := afterWait_events_shape s abs km (x :: l')
      rw [afterWait_wake_outs s abs km (r := .events (x :: l')) nofun]
      exact .inp1 (m1 := { m with owed := false, zeros := 0 }) rfl rfl Zb.zero
        (Inv.normal hw (by rw [ht]; exact I.clock) rfl rfl)
    | nil =>
      rw [show afterWait s abs km (.events []) = _ from wake_eq s abs km]
      refine .inp fun c' hc' => ?_
      simp only [ctrStep, Except.ok.injEq, List.isEmpty_nil, if_true] at hc'
      subst hc'
      obtain ⟨lk1, lk2⟩ := I.link abs km hpc
      cases hs : m.sleep with
      | true =>
        -- the timeout of a sleep ran out: a timer is due at the next clock reading
        obtain ⟨habs, d, hd, hdue⟩ := lk1 hs
        refine ⟨{ m with owed := true }, by simp [tmoStepC, tmoStep, hs], I.zle, Or.inr ?_⟩
        refine ⟨I.clock, I.zle, ?_, ?_, ?_⟩
        · intro a k h; simp [wake] at h
        · intro _
          show OwedAt _ _ (.run .dispatchNext)
          simp only [OwedAt]
          refine ⟨⟨s.stack, ?_⟩, rfl, d, hd, hdue⟩
          show Frame.poll [] (wakeRt s abs) :: s.stack = _
          rw [wakeRt_some habs]
        · intro h; cases h
      | false =>
        cases hz : m.zero with
        | false =>
          refine ⟨m, by simp [tmoStepC, tmoStep, hs, hz], I.zle, Or.inr (wake_plain I hpc rfl)⟩
        | true =>
          have habs := lk2 hz
          have hle : m.zeros ≤ 1 ∧ (m.zeros = 1 → s.method ≠ .ppoll ∧ fb = true) := by
            by_cases h1 : 1 ≤ m.zeros
            · obtain ⟨_, z2⟩ := zat_waiting I hpc h1
              rcases z2 with ⟨_, _, hz0⟩ | ⟨hfb', hm, hle, _⟩
              · rw [hz] at hz0; cases hz0
              · exact ⟨hle, fun _ => ⟨by rw [hm]; simp, hfb'⟩⟩
            · exact ⟨by omega, fun h => by omega⟩
          have hng : ¬ m.zeros ≥ 2 := by omega
          have hzb : Zb fb (m.zeros + 1) := by
            refine ⟨by omega, fun hfalse => ?_⟩
            by_cases h0 : m.zeros = 0
            · omega
            · have := (hle.2 (by omega)).2
              rw [hfalse] at this; cases this
          refine ⟨{ m with zeros := m.zeros + 1 }, by simp [tmoStepC, tmoStep, hs, hz, hng], hzb, Or.inr ?_⟩
          refine ⟨I.clock, hzb, ?_, ?_, ?_⟩
          · intro a k h; simp [wake] at h
          · intro h; rw [hf] at h; cases h
          · intro _ _
            refine ⟨?_, ?_⟩
            · by_cases h0 : m.zeros = 0
              · left; simp [h0]
              · right; exact (hle.2 (by omega)).1
            · show ZAt fb _ _ (.run .dispatchNext)
              simp only [ZAt]
              exact ⟨wakeRt s abs, s.stack, rfl, zd_wake (Or.inr habs)⟩
  | enosys =>
    have hfb : fb = true := hfb.resolve_right (by simp)
    -- the wait is tried again with the same arguments, or the clock is read for it first
    have fin : ∀ (s' : St) (q : Pc), s'.pc = q → (∀ a k, q ≠ .waiting a k) → s'.time = s.time →
        (1 ≤ m.zeros → (m.zeros ≤ 1 ∨ s'.method ≠ .ppoll) ∧ ZAt fb s' m q) →
        Post fb s' c m [Ev.inp (.wret .enosys)] := fun s' q hq hnw h1 h4 =>
      .inp1 rfl rfl I.zle ⟨by rw [h1]; exact I.clock, I.zle, fun a k h => absurd (hq ▸ h) (hnw a k),
        fun h => (by rw [hf] at h; cases h), fun _ hz1 => by unfold ZInv; rw [hq]; exact h4 hz1⟩
    have he := afterWait_enosys_cases s abs km
    generalize afterWait s abs km .enosys = x at he ⊢
    cases he with
    | fatal msg => exact fun c' _ => ⟨m, rfl, I.zle, Or.inl rfl⟩
    | retry =>
      refine fin _ _ rfl (fun _ _ => Pc.noConfusion) rfl (fun h1 => ?_)
      obtain ⟨z1, z2⟩ := zat_waiting I hpc h1
      exact ⟨z1, z2.imp (fun ⟨a, b, _⟩ => ⟨a, b⟩) id⟩
    | pollTime hm habs =>
      -- `ppoll` falls back to `poll` and reads the clock again
      refine fin _ _ rfl (fun _ _ => Pc.noConfusion) rfl (fun h1 => ?_)
      obtain ⟨z1, -⟩ := zat_waiting I hpc h1
      exact ⟨Or.inr nofun, hfb, rfl, z1.resolve_right (absurd hm), habs⟩
    | pollWait hm habs =>
      refine fin _ _ rfl (fun _ _ => Pc.noConfusion) rfl (fun h1 => ?_)
      obtain ⟨-, z2⟩ := zat_waiting I hpc h1
      refine ⟨Or.inr nofun, ?_⟩
      rcases z2 with ⟨a, b, _⟩ | ⟨_, _, _, z2⟩
      · refine Or.inl ⟨a, ?_⟩
        rcases b with ⟨_, _, hK⟩ | ⟨hk, ⟨ha, hn⟩ | ⟨a', ha, _⟩⟩
        · rw [hK.1] at hm; cases hm
        · exact Or.inr ⟨hk, Or.inl ⟨ha, hn⟩⟩
        · rw [ha] at habs; cases habs
      · rw [habs] at z2; cases z2

/-- a step inside the wait that changes nothing the invariant reads (a foreign thread posts an event) -/
theorem inv_waiting_same {s s' : St} {c : CSt} {m : TmoSt} (I : Inv fb s c m) {abs : Option TS} {km : Bool}
    (hpc : s.pc = .waiting abs km) (hS : Same s s') (hT : s'.tasks = s.tasks) : Inv fb s' c m := by
  have hf := not_owed_waiting I hpc
  have hpc' : s'.pc = .waiting abs km := by rw [hS.pc]; exact hpc
  refine ⟨by rw [hS.time]; exact I.clock, I.zle, ?_, ?_, ?_⟩
  · intro a k h
    rw [hS.heap]
    exact I.link a k (by rw [← hS.pc]; exact h)
  · intro h; rw [hf] at h; cases h
  · intro _ h1
    obtain ⟨z1, z2⟩ := zat_waiting I hpc h1
    unfold ZInv
    rw [hpc', hS.method]
    refine ⟨z1, ?_⟩
    simp only [ZAt]
    rw [hT]
    rcases z2 with ⟨a, b, d⟩ | z2
    · exact Or.inl ⟨a, b.same hS, d⟩
    · exact Or.inr (by rw [hS.method]; exact z2)

theorem input_post {s : St} {r : St × List Out} {c : CSt} {m : TmoSt} (I : Inv fb s c m)
    (i : Input) (hin : input s i = some r) (hfb : fb = true ∨ i ≠ .wret .enosys) :
    Post fb r.1 c m (Ev.inp i :: r.2.map Ev.out) := by
  rcases input_cases hin with ⟨a, rfl, hpc, rfl⟩ | ⟨k, t, rfl, hpc, rfl⟩ | ⟨abs, km, w, rfl, hpc, rfl⟩ |
    ⟨abs, km, e, rfl, hpc, hS, hT, ho⟩ | ⟨hpc, h1, h2, h3, hp⟩
  · obtain ⟨hf, h0⟩ := I.idle hpc (by simp [OwedAt]) (by simp [ZAt])
    exact Post.idle hf h0 rfl rfl (by rw [api_time s a]; exact I.clock) (api_shape s a hpc)
  · exact inp_time I k t hpc
  · exact inp_wret I abs km w hpc (hfb.imp id (fun h hr => h (by rw [hr])))
  · rw [ho]
    exact .inp1 rfl rfl I.zle (inv_waiting_same I hpc hS hT)
  · obtain ⟨hf, h0⟩ : m.owed = false ∧ m.zeros = 0 := by
      rcases hpc with hpc | ⟨q, hpc⟩
      · exact I.idle hpc (by simp [OwedAt]) (by simp [ZAt])
      · exact I.idle hpc (by simp [OwedAt]) (by simp [ZAt])
    have hmi : tmoStepC m (.inp i) = .ok m ∧ ctrStep c (.inp i) = .ok c := by
      cases i <;> first | exact ⟨rfl, rfl⟩ | exact absurd rfl (h2 _) | exact absurd rfl (h3 _)
    exact Post.idle hf h0 hmi.1 hmi.2 (by rw [hp.time]; exact I.clock) (.of_plain hp)

theorem ctr_append {l1 l2 : List Ev} {c c' : CSt} (h : (l1 ++ l2).foldlM ctrStep c = .ok c') :
    ∃ c1, l1.foldlM ctrStep c = .ok c1 ∧ l2.foldlM ctrStep c1 = .ok c' := by
  rw [List.foldlM_append] at h
  cases h1 : l1.foldlM ctrStep c with
  | error x => rw [h1] at h; cases h
  | ok c1 => rw [h1] at h; exact ⟨c1, rfl, h⟩

theorem tmo_append {l1 l2 : List Ev} {m m1 m2 : TmoSt} (h1 : l1.foldlM tmoStepC m = .ok m1)
    (h2 : l2.foldlM tmoStepC m1 = .ok m2) : (l1 ++ l2).foldlM tmoStepC m = .ok m2 := by
  rw [List.foldlM_append, h1]; exact h2

def noEnosysEv : Ev → Bool
  | .inp (.wret .enosys) => false
  | _ => true

def noEnosys (evs : List Ev) : Bool := evs.all noEnosysEv

theorem noEnosys_tail {l1 l2 : List Ev} (h : fb = true ∨ noEnosys (l1 ++ l2) = true) :
    fb = true ∨ noEnosys l2 = true :=
  h.imp id fun h => by
    unfold noEnosys at h ⊢
    rw [List.all_append, Bool.and_eq_true] at h
    exact h.2

/-- the oracle accepts every continuation from a state related to it, as long as the environment keeps the
timeout contract; `fb = false` additionally assumes that no wait is answered with `ENOSYS` and gives the bound 1 -/
theorem tmo_run {s s' : St} {evs : List Ev} (h : Exec s evs s') :
    ∀ (c c' : CSt) (m : TmoSt), Zb fb m.zeros → MInv s → (s.pc = .dead ∨ Inv fb s c m) →
      evs.foldlM ctrStep c = .ok c' → (fb = true ∨ noEnosys evs = true) →
      ∃ m', evs.foldlM tmoStepC m = .ok m' ∧ Zb fb m'.zeros := by
  induction h with
  | nil s => intro c c' m hz _ _ _ _; exact ⟨m, rfl, hz⟩
  | @internal s s1 s2 b outs evs hpc hi hrest ih =>
    intro c c' m hz hI hR hc hfb
    rcases hR with hd | I
    · rw [hd] at hpc; cases hpc
    obtain ⟨c1, hc1, hc2⟩ := ctr_append hc
    have hp := internal_post hI I b hpc
    have hI1 := hI.internal hpc
    rw [hi] at hp hI1
    obtain ⟨m1, hm1, hz1, hR1⟩ := hp c1 hc1
    obtain ⟨m2, hm2, hz2⟩ := ih c1 c' m1 hz1 hI1 hR1 hc2 (noEnosys_tail hfb)
    exact ⟨m2, tmo_append hm1 hm2, hz2⟩
  | @input s s1 s2 i outs evs henv hi hrest ih =>
    intro c c' m hz hI hR hc hfb
    rcases hR with hd | I
    · simp [input, hd] at hi
    have hc' : ((Ev.inp i :: outs.map Ev.out) ++ evs).foldlM ctrStep c = .ok c' := by simpa using hc
    obtain ⟨c1, hc1, hc2⟩ := ctr_append hc'
    have hfbi : fb = true ∨ i ≠ .wret .enosys := by
      rcases hfb with h | h
      · exact Or.inl h
      · right
        rintro rfl
        simp [noEnosys, noEnosysEv] at h
    obtain ⟨m1, hm1, hz1, hR1⟩ := input_post I i hi hfbi c1 hc1
    obtain ⟨m2, hm2, hz2⟩ := ih c1 c' m1 hz1 (hI.input henv hi) hR1 hc2
      (noEnosys_tail (l1 := Ev.inp i :: outs.map Ev.out) hfb)
    refine ⟨m2, ?_, hz2⟩
    have := tmo_append hm1 hm2
    simpa using this

theorem contract_ok {evs : List Ev} (hc : tmoContract evs = true) : ∃ c', evs.foldlM ctrStep {} = .ok c' := by
  unfold tmoContract monOk runMon at hc
  cases h : evs.foldlM ctrStep {} with
  | ok c' => exact ⟨c', rfl⟩
  | error x => rw [h] at hc; cases hc

theorem tmo_cap_bound (mt : Method) (ntimers : Nat) (timerfdAvail pwait2 : Bool) (evs : List Ev) (s' : St)
    (h : Exec (St.init mt ntimers timerfdAvail pwait2) evs s') (hc : tmoContract evs = true) :
    ∃ m', runMon tmoStepC {} evs = .ok m' ∧ m'.zeros ≤ 2 := by
  obtain ⟨c', hc'⟩ := contract_ok hc
  obtain ⟨m', hm, hz⟩ := tmo_run (fb := true) h {} c' {} Zb.zero
    (MInv.init ..) (Or.inr (inv_init mt ntimers timerfdAvail pwait2)) hc' (Or.inl rfl)
  exact ⟨m', hm, hz.1⟩

theorem tmo_cap_bound_one (mt : Method) (ntimers : Nat) (timerfdAvail pwait2 : Bool) (evs : List Ev) (s' : St)
    (h : Exec (St.init mt ntimers timerfdAvail pwait2) evs s') (hc : tmoContract evs = true)
    (hne : noEnosys evs = true) : ∃ m', runMon tmoStepC {} evs = .ok m' ∧ m'.zeros ≤ 1 := by
  obtain ⟨c', hc'⟩ := contract_ok hc
  obtain ⟨m', hm, hz⟩ := tmo_run (fb := false) h {} c' {} Zb.zero
    (MInv.init ..) (Or.inr (inv_init mt ntimers timerfdAvail pwait2)) hc' (Or.inr hne)
  exact ⟨m', hm, hz.2 rfl⟩

theorem tmo_cap_accepts (mt : Method) (ntimers : Nat) (timerfdAvail pwait2 : Bool) (evs : List Ev) (s' : St)
    (h : Exec (St.init mt ntimers timerfdAvail pwait2) evs s') (hc : tmoContract evs = true) :
    tmoCapVerdict evs = none := by
  obtain ⟨m', hm, _⟩ := tmo_cap_bound mt ntimers timerfdAvail pwait2 evs s' h hc
  unfold tmoCapVerdict
  rw [hm]

theorem tmo_bound (mt : Method) (ntimers : Nat) (timerfdAvail pwait2 : Bool) (evs : List Ev) (s' : St)
    (h : Exec (St.init mt ntimers timerfdAvail pwait2) evs s') (hc : tmoContract evs = true)
    (hcap : noDayCap evs = true) : ∃ m', runMon tmoStep {} evs = .ok m' ∧ m'.zeros ≤ 2 := by
  obtain ⟨m', hm, hz⟩ := tmo_cap_bound mt ntimers timerfdAvail pwait2 evs s' h hc
  refine ⟨m', ?_, hz⟩
  unfold runMon at hm ⊢
  rw [← tmoFold_eq evs {} hcap]
  exact hm

theorem tmo_bound_one (mt : Method) (ntimers : Nat) (timerfdAvail pwait2 : Bool) (evs : List Ev) (s' : St)
    (h : Exec (St.init mt ntimers timerfdAvail pwait2) evs s') (hc : tmoContract evs = true)
    (hcap : noDayCap evs = true) (hne : noEnosys evs = true) :
    ∃ m', runMon tmoStep {} evs = .ok m' ∧ m'.zeros ≤ 1 := by
  obtain ⟨m', hm, hz⟩ := tmo_cap_bound_one mt ntimers timerfdAvail pwait2 evs s' h hc hne
  refine ⟨m', ?_, hz⟩
  unfold runMon at hm ⊢
  rw [← tmoFold_eq evs {} hcap]
  exact hm

theorem tmo_accepts (mt : Method) (ntimers : Nat) (timerfdAvail pwait2 : Bool) (evs : List Ev) (s' : St)
    (h : Exec (St.init mt ntimers timerfdAvail pwait2) evs s') (hc : tmoContract evs = true)
    (hcap : noDayCap evs = true) : tmoVerdict evs = none := by
  obtain ⟨m', hm, _⟩ := tmo_bound mt ntimers timerfdAvail pwait2 evs s' h hc hcap
  unfold tmoVerdict
  rw [hm]

/-! Two facts the argument above does not use: an empty heap holds no timer, and a wait without a deadline has no
timeout. -/

theorem no_onHeap_of_num {h : Store} (hi : HeapInv h) (hn : h.num = 0) (t : Nat) : ¬ onHeap h t := by
  intro ht
  have := Ivy.Heap.Proofs.num_pos_of_onHeap hi ht
  omega

theorem timeoutOf_none (s : St) : timeoutOf s none = .inf := rfl

end Ivy.L1.ProofsC07tmo
