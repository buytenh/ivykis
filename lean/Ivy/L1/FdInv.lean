import Ivy.L1.StepFrames
import Ivy.L1.Step
/-!
# Descriptors and the event count: what the loop machine keeps true of them, without any monitor

Under the epoll methods `EInv`: the notify list holds exactly the registered descriptors whose `regBands` differ from
`wanted`, `kint` mirrors `regBands`, an unregistered descriptor is flushed.  Under the poll methods `PInv`: `index` and
the pollfd array are inverse to each other and a registered descriptor has a slot iff it wants some band.  Each helper
of `iv_fd.c` (`notifyFd`, `fdRegisterCore`, `fdUnregisterCore`, the two outcomes of `iv_fd_register_try`, the flush)
re-establishes them (the `_E` and `_P` lemmas; what those helpers write is in `MachineLemmas`).  `interest_E` and
`interest_P` read off what the kernel is asked to watch at a wait, `InterestOk`, which is what `Mon.C02` checks there.
These definitions and lemmas stand in the namespace `Ivy.L1.ProofsC02`, whose theorems speak of them.

`FdInv s` (namespace `Ivy.L1`) bundles this with "user descriptors are below 64", "nothing is queued once control is
past the flush" and "`eventCount` counts the registered events"; `FdInv.init`, `FdInv.internal`, `FdInv.input` carry it
along every step (a dying step included).  Of the raw events the steps need to know only that a raw event is registered
iff its embedded descriptor is, and that the kick event is registered only while some event is.
-/
namespace Ivy.L1.ProofsC02
open Ivy.L1
open Ivy.Heap (TS)

theorem isZero_iff (b : Bands) : b.isZero = true ↔ b = {} := by
  cases b with | mk i o e => cases i <;> cases o <;> cases e <;> simp [Bands.isZero]

structure EInv (fds : FdId → FdObj) (notify : List FdId) (kint : FdId → Option Bands) : Prop where
  nodup : notify.Nodup
  kint : ∀ f, kint f = if (fds f).regBands.isZero then none else some (epollMask (fds f).regBands)
  mem : ∀ f, (fds f).registered = true → (f ∈ notify ↔ (fds f).regBands ≠ (fds f).wanted)
  unreg : ∀ f, (fds f).registered = false → f ∉ notify ∧ (fds f).regBands = {}
  want : ∀ f, (fds f).registered = true → (fds f).wanted = ⟨(fds f).hin, (fds f).hout, (fds f).herr⟩

theorem EInv.update {fds : FdId → FdObj} {notify : List FdId} {kint : FdId → Option Bands}
    (hI : EInv fds notify kint) (f : FdId) (o' : FdObj) {notify' : List FdId} {kint' : FdId → Option Bands}
    (hn : notify'.Nodup) (hm : ∀ g, g ≠ f → (g ∈ notify' ↔ g ∈ notify)) (hk : ∀ g, g ≠ f → kint' g = kint g)
    (hk0 : kint' f = if o'.regBands.isZero then none else some (epollMask o'.regBands))
    (hr : o'.registered = true → (f ∈ notify' ↔ o'.regBands ≠ o'.wanted) ∧ o'.wanted = ⟨o'.hin, o'.hout, o'.herr⟩)
    (hu : o'.registered = false → f ∉ notify' ∧ o'.regBands = {}) :
    EInv (upd fds f o') notify' kint' := by
  refine ⟨hn, fun g => ?_, fun g => ?_, fun g => ?_, fun g => ?_⟩
  all_goals by_cases e : g = f
  all_goals first | (subst e; rw [upd_same]) | rw [upd_ne _ _ e]
  · exact hk0
  · rw [hk g e]; exact hI.kint g
  · exact fun h => (hr h).1
  · rw [hm g e]; exact hI.mem g
  · exact hu
  · rw [hm g e]; exact hI.unreg g
  · exact fun h => (hr h).2
  · exact hI.want g

theorem requeue_props {l : List FdId} (h : l.Nodup) (f : FdId) (c : Bool) :
    (if c then l.erase f ++ [f] else l.erase f).Nodup ∧
    (∀ g, g ≠ f → (g ∈ (if c then l.erase f ++ [f] else l.erase f) ↔ g ∈ l)) ∧
    (f ∈ (if c then l.erase f ++ [f] else l.erase f) ↔ c = true) := by
  have h1 : f ∉ l.erase f := fun hm => (h.mem_erase_iff.1 hm).1 rfl
  cases c <;> simp only [Bool.false_eq_true, if_true, if_false]
  · exact ⟨h.erase f, fun g hg => List.mem_erase_of_ne hg, by simpa using h1⟩
  · refine ⟨?_, fun g hg => ?_, by simp⟩
    · rw [List.nodup_append]
      exact ⟨h.erase f, by simp, fun a ha b hb e => by simp at hb; subst hb; subst e; exact h1 ha⟩
    · simp [List.mem_erase_of_ne hg, hg]

theorem notifyFd_E (s : St) (f : FdId) (o' : FdObj) (hE : s.method.isEpoll = true)
    (hI : EInv s.fds s.notify s.kint) (hb : o'.regBands = (s.fds f).regBands) (hr : o'.registered = true) :
    let s' := notifyFd { s with fds := upd s.fds f o' } f
    EInv s'.fds s'.notify s'.kint := by
  simp only [notifyFd, epollNotify, hE, if_true, upd_same, upd_upd]
  obtain ⟨p1, p2, p3⟩ := requeue_props hI.nodup f (o'.regBands != wantedOf o')
  refine hI.update f _ p1 p2 (fun _ _ => rfl) (by rw [hb]; exact hI.kint f) (fun _ => ⟨?_, ?_⟩) (fun h => ?_)
  · rw [p3]; simp
  · simp [wantedOf, hr]
  · rw [hr] at h; cases h

theorem fdRegisterCore_E (s : St) (f : FdId) (i o e : Bool) (hE : s.method.isEpoll = true)
    (hI : EInv s.fds s.notify s.kint) (hu : (s.fds f).registered = false) :
    EInv (fdRegisterCore s f i o e).fds (fdRegisterCore s f i o e).notify (fdRegisterCore s f i o e).kint := by
  have hn : s.notify.erase f = s.notify := List.erase_of_not_mem (hI.unreg f hu).1
  simp only [fdRegisterCore, hn]
  exact notifyFd_E s f _ hE hI (hI.unreg f hu).2.symm rfl

theorem fdUnregisterCore_E (s : St) (f : FdId) (hE : s.method.isEpoll = true)
    (hI : EInv s.fds s.notify s.kint) :
    EInv (fdUnregisterCore s f).fds (fdUnregisterCore s f).notify (fdUnregisterCore s f).kint := by
  have h1 : f ∉ s.notify.erase f := fun hm => (hI.nodup.mem_erase_iff.1 hm).1 rfl
  by_cases hz : (s.fds f).regBands = {}
  · simp only [fdUnregisterCore, notifyFd, epollNotify, epollFlushOne, hE, wantedOf, upd_same, upd_upd, hz,
      Bool.false_eq_true, if_false, if_true, bne_self_eq_false, Bool.true_and, List.contains_eq_mem, h1, decide_false]
    exact hI.update f _ (hI.nodup.erase f) (fun g hg => List.mem_erase_of_ne hg) (fun _ _ => rfl)
      (by rw [hI.kint f, hz]) (fun h => by simp at h) (fun _ => ⟨h1, rfl⟩)
  · have hz' : ((s.fds f).regBands != {}) = true := by simpa using hz
    have hz'' : ((s.fds f).regBands == {}) = false := by simpa using hz
    have h2 : (s.notify.erase f ++ [f]).erase f = s.notify.erase f := by
      rw [List.erase_append_right _ h1]; simp
    simp only [fdUnregisterCore, notifyFd, epollNotify, epollFlushOne, hE, wantedOf, upd_same, upd_upd, hz', hz'',
      Bool.false_eq_true, if_false, if_true, Bool.true_and, List.contains_eq_mem, List.mem_append,
      List.mem_singleton, or_true, decide_true, h2]
    exact hI.update f _ (hI.nodup.erase f) (fun g hg => List.mem_erase_of_ne hg) (fun g hg => upd_ne _ _ hg)
      (upd_same _ _ _) (fun h => by simp at h) (fun _ => ⟨h1, rfl⟩)

theorem trySucc_E (s : St) (f : FdId) (i o e : Bool) (hE : s.method.isEpoll = true)
    (hI : EInv s.fds s.notify s.kint) (hu : (s.fds f).registered = false) :
    EInv (trySucc s f i o e).fds (trySucc s f i o e).notify (trySucc s f i o e).kint := by
  have hn : s.notify.erase f = s.notify := List.erase_of_not_mem (hI.unreg f hu).1
  have h1 : f ∉ s.notify := (hI.unreg f hu).1
  have hb : ∀ w : Bands, w.isZero = false → ((({} : Bands) == w) = false ∧ (w != {}) = true) := by
    intro w hw
    have : w ≠ {} := fun e => by rw [e] at hw; cases hw
    exact ⟨by simpa using fun e => this e.symm, by simpa using this⟩
  by_cases hz : (Bands.isZero ⟨i, o, e⟩) = true
  · simp only [trySucc, epollNotify, epollFlushOne, hE, wantedOf, upd_same, upd_upd, hz, hn, hb _ (rfl : Bands.isZero ⟨true, true, false⟩ = false),
      Bool.false_eq_true, if_false, if_true]
    refine hI.update f _ ?_ (fun g hg => by simp [hg]) (fun g hg => upd_ne _ _ hg) (upd_same _ _ _)
      (fun _ => ⟨by simp, ((isZero_iff _).1 hz).symm⟩) (fun h => by simp at h)
    rw [List.nodup_append]
    exact ⟨hI.nodup, by simp, fun a ha b hb e => by simp at hb; subst hb; subst e; exact h1 ha⟩
  · have hz : (Bands.isZero ⟨i, o, e⟩) = false := by simpa using hz
    simp only [trySucc, epollNotify, epollFlushOne, hE, wantedOf, upd_same, upd_upd, hz, hn, hb _ hz,
      Bool.false_eq_true, if_false, if_true]
    exact hI.update f _ hI.nodup (fun _ _ => Iff.rfl) (fun g hg => upd_ne _ _ hg) (by simp [hz])
      (fun _ => ⟨by simp [h1], rfl⟩) (fun h => by simp at h)

theorem flushOne_E (s : St) (f : FdId)
    (hI : EInv s.fds s.notify s.kint) (hu : (s.fds f).registered = true) :
    EInv (epollFlushOne s f).fds (epollFlushOne s f).notify (epollFlushOne s f).kint := by
  have h1 : f ∉ s.notify.erase f := fun hm => (hI.nodup.mem_erase_iff.1 hm).1 rfl
  unfold epollFlushOne
  dsimp only
  split
  · next h =>
    have := hI.update f (s.fds f) (hI.nodup.erase f) (fun g hg => List.mem_erase_of_ne hg) (fun _ _ => rfl)
      (hI.kint f) (fun _ => ⟨by simpa [h1] using h, hI.want f hu⟩) (fun h' => by rw [hu] at h'; cases h')
    rwa [upd_self] at this
  · exact hI.update f _ (hI.nodup.erase f) (fun g hg => List.mem_erase_of_ne hg) (fun g hg => upd_ne _ _ hg)
      (upd_same _ _ _) (fun _ => ⟨by simp [h1], hI.want f hu⟩) (fun h' => by rw [hu] at h'; cases h')

/-- everything but `ready`, `live` agrees -/
def coreEq (o o' : FdObj) : Prop :=
  o'.hin = o.hin ∧ o'.hout = o.hout ∧ o'.herr = o.herr ∧ o'.registered = o.registered ∧
  o'.wanted = o.wanted ∧ o'.regBands = o.regBands ∧ o'.index = o.index

theorem coreEq_refl (o : FdObj) : coreEq o o := ⟨rfl, rfl, rfl, rfl, rfl, rfl, rfl⟩

theorem coreEq_of_ready {o o' : FdObj} (h : o' = { o with ready := o'.ready }) : coreEq o o' := by
  rw [h]
  exact ⟨rfl, rfl, rfl, rfl, rfl, rfl, rfl⟩

theorem EInv.congr {fds fds' : FdId → FdObj} {notify : List FdId} {kint : FdId → Option Bands}
    (hI : EInv fds notify kint) (h : ∀ g, coreEq (fds g) (fds' g)) : EInv fds' notify kint := by
  refine ⟨hI.nodup, fun f => ?_, fun f => ?_, fun f => ?_, fun f => ?_⟩
  all_goals obtain ⟨e1, e2, e3, e4, e5, e6, -⟩ := h f
  · rw [e6]; exact hI.kint f
  · rw [e4, e5, e6]; exact hI.mem f
  · rw [e4, e6]; exact hI.unreg f
  · rw [e1, e2, e3, e4, e5]; exact hI.want f

theorem EInv.reset {fds : FdId → FdObj} {notify : List FdId} {kint : FdId → Option Bands}
    (hI : EInv fds notify kint) (f : FdId) (hu : (fds f).registered = false) (o : FdObj)
    (h1 : o.registered = false) (h2 : o.regBands = {}) : EInv (upd fds f o) notify kint :=
  hI.update f o hI.nodup (fun _ _ => Iff.rfl) (fun _ _ => rfl) (by rw [h2, hI.kint f, (hI.unreg f hu).2])
    (fun h => by rw [h1] at h; cases h) (fun _ => ⟨(hI.unreg f hu).1, h2⟩)

theorem tryFail_E (s : St) (f : FdId) (i o e : Bool)
    (hI : EInv s.fds s.notify s.kint) (hu : (s.fds f).registered = false) :
    EInv (tryFail s f i o e).fds (tryFail s f i o e).notify (tryFail s f i o e).kint := by
  have hn : s.notify.erase f = s.notify := List.erase_of_not_mem (hI.unreg f hu).1
  simp only [tryFail, hn]
  exact hI.reset f hu _ rfl rfl

theorem flush_fold (l : List FdId) : ∀ (s : St), s.notify = l → EInv s.fds s.notify s.kint →
    EInv (l.foldl epollFlushOne s).fds (l.foldl epollFlushOne s).notify (l.foldl epollFlushOne s).kint ∧
    (l.foldl epollFlushOne s).notify = [] := by
  induction l with
  | nil => intro s hn hI; exact ⟨hI, hn⟩
  | cons f r ih =>
    intro s hn hI
    have hreg : (s.fds f).registered = true := by
      cases h : (s.fds f).registered with
      | true => rfl
      | false => exact absurd (by rw [hn]; simp) (hI.unreg f h).1
    have hI' := flushOne_E s f hI hreg
    have hn' : (epollFlushOne s f).notify = r := by
      rw [epollFlushOne_frame, hn]
      exact List.erase_cons_head ..
    exact ih (epollFlushOne s f) hn' hI'

structure PInv (fds : FdId → FdObj) (pfds : List (FdId × Bands)) : Prop where
  idx : ∀ f i, (fds f).index = some i → pfds[i]? = some (f, (fds f).wanted)
  back : ∀ i f b, pfds[i]? = some (f, b) → (fds f).index = some i
  zero : ∀ f, (fds f).registered = true → ((fds f).index = none ↔ (fds f).wanted.isZero = true)
  unreg : ∀ f, (fds f).registered = false → (fds f).index = none
  want : ∀ f, (fds f).registered = true → (fds f).wanted = ⟨(fds f).hin, (fds f).hout, (fds f).herr⟩

/-- weak form: the entry of `f0` may carry stale bands, and nothing is known about `f0` otherwise -/
structure PInvW (f0 : FdId) (fds : FdId → FdObj) (pfds : List (FdId × Bands)) : Prop where
  idx : ∀ f i, (fds f).index = some i → ∃ b, pfds[i]? = some (f, b) ∧ (f ≠ f0 → b = (fds f).wanted)
  back : ∀ i f b, pfds[i]? = some (f, b) → (fds f).index = some i
  zero : ∀ f, f ≠ f0 → (fds f).registered = true → ((fds f).index = none ↔ (fds f).wanted.isZero = true)
  unreg : ∀ f, f ≠ f0 → (fds f).registered = false → (fds f).index = none
  want : ∀ f, f ≠ f0 → (fds f).registered = true → (fds f).wanted = ⟨(fds f).hin, (fds f).hout, (fds f).herr⟩

/-- what `pollNotify` re-establishes -/
structure PInvR (f0 : FdId) (fds : FdId → FdObj) (pfds : List (FdId × Bands)) : Prop where
  idx : ∀ f i, (fds f).index = some i → pfds[i]? = some (f, (fds f).wanted)
  back : ∀ i f b, pfds[i]? = some (f, b) → (fds f).index = some i
  zero : ∀ f, f ≠ f0 → (fds f).registered = true → ((fds f).index = none ↔ (fds f).wanted.isZero = true)
  unreg : ∀ f, f ≠ f0 → (fds f).registered = false → (fds f).index = none
  want : ∀ f, f ≠ f0 → (fds f).registered = true → (fds f).wanted = ⟨(fds f).hin, (fds f).hout, (fds f).herr⟩
  zero0 : (fds f0).index = none ↔ (fds f0).wanted.isZero = true

theorem pollNotify_R (s : St) (f : FdId) (h : PInvW f s.fds s.pfds) :
    PInvR f (pollNotify s f).fds (pollNotify s f).pfds := by
  have key : (∀ g i, ((pollNotify s f).fds g).index = some i → (pollNotify s f).pfds[i]? = some (g, (s.fds g).wanted)) ∧
      (∀ i g b, (pollNotify s f).pfds[i]? = some (g, b) → ((pollNotify s f).fds g).index = some i) ∧
      (∀ g, g ≠ f → (((pollNotify s f).fds g).index = none ↔ (s.fds g).index = none)) ∧
      (((pollNotify s f).fds f).index = none ↔ (s.fds f).wanted.isZero = true) := by
    obtain ⟨h1, h2, -, -, -⟩ := h
    unfold pollNotify
    simp only
    split
    · next hidx =>
      split
      · refine ⟨?_, ?_, ?_, ?_⟩
        · intro g j hg
          have := h1 g j
          simp only [List.getElem?_append, List.getElem?_singleton, upd_apply] at hg ⊢
          grind
        · intro j g b hg
          have := h2 j g b
          simp only [List.getElem?_append, List.getElem?_singleton, upd_apply] at hg ⊢
          grind
        · intro g hg; simp only [upd_ne _ _ hg]
        · simp only [upd_same]; simpa using ‹(!(s.fds f).wanted.isZero) = true›
      · refine ⟨?_, h2, fun _ _ => Iff.rfl, ?_⟩
        · intro g j hg
          obtain ⟨b, hb, hw⟩ := h1 g j hg
          rw [hb, hw (fun e => by rw [e, hidx] at hg; cases hg)]
        · simpa [hidx] using ‹¬(!(s.fds f).wanted.isZero) = true›
    · next i hidx =>
      obtain ⟨b0, hb0, -⟩ := h1 f i hidx
      have hlt : i < s.pfds.length := (List.getElem?_eq_some_iff.1 hb0).1
      split
      · split
        · next hne =>
          have hne : i ≠ s.pfds.length - 1 := by simpa using hne
          split
          · next lf lb hl =>
            have hlf := h2 _ _ _ hl
            obtain ⟨b1, hb1, hw1⟩ := h1 lf _ hlf
            have hfl : lf ≠ f := fun e => by rw [e, hidx] at hlf; exact hne (Option.some.inj hlf)
            have hlb : lb = (s.fds lf).wanted := by rw [hl] at hb1; cases hb1; exact hw1 hfl
            refine ⟨?_, ?_, ?_, ?_⟩
            · intro g j hg
              have := h1 g j
              have := h2 j g
              simp only [List.getElem?_dropLast, List.getElem?_set, List.length_set, upd_apply] at hg ⊢
              grind
            · intro j g b hg
              have := h2 j g b
              simp only [List.getElem?_dropLast, List.getElem?_set, List.length_set, upd_apply] at hg ⊢
              grind
            · intro g hg
              simp only [upd_apply, if_neg hg]
              split
              · next e => subst e; simp [hlf]
              · rfl
            · simp only [upd_same]; simp [*]
          · next hn =>
            exfalso
            have : s.pfds.length - 1 < s.pfds.length := by omega
            simp at hn
            omega
        · next hne =>
          have hne : i = s.pfds.length - 1 := by simpa using hne
          refine ⟨?_, ?_, ?_, ?_⟩
          · intro g j hg
            have := h1 g j
            have := h2 j g
            simp only [List.getElem?_dropLast, upd_apply] at hg ⊢
            grind
          · intro j g b hg
            have := h2 j g b
            simp only [List.getElem?_dropLast, upd_apply] at hg ⊢
            grind
          · intro g hg; simp only [upd_ne _ _ hg]
          · simp only [upd_same]; simp [*]
      · refine ⟨?_, ?_, fun _ _ => Iff.rfl, ?_⟩
        · intro g j hg
          have := h1 g j
          have := h2 j g
          simp only [List.getElem?_set]
          grind
        · intro j g b hg
          have := h2 j g b
          simp only [List.getElem?_set] at hg
          grind
        · simp [*]
  obtain ⟨k1, k2, k3, k4⟩ := key
  have ho := pollNotify_obj s f
  refine ⟨?_, k2, ?_, ?_, ?_, ?_⟩
  · intro g i hg; rw [ho g]; exact k1 g i hg
  · intro g hg hr
    rw [ho g] at hr ⊢
    rw [k3 g hg]; exact h.zero g hg hr
  · intro g hg hr
    rw [ho g] at hr
    rw [k3 g hg]; exact h.unreg g hg hr
  · intro g hg hr
    rw [ho g] at hr ⊢
    exact h.want g hg hr
  · rw [ho f]; exact k4

theorem PInvW.mod {f : FdId} {fds : FdId → FdObj} {pfds : List (FdId × Bands)} (h : PInvW f fds pfds)
    (fds' : FdId → FdObj) (hne : ∀ g, g ≠ f → fds' g = fds g) (hidx : (fds' f).index = (fds f).index) :
    PInvW f fds' pfds := by
  obtain ⟨h1, h2, h3, h4, h5⟩ := h
  constructor
  · intro g i hg
    by_cases e : g = f
    · subst e; rw [hidx] at hg
      obtain ⟨b, hb, _⟩ := h1 _ _ hg
      exact ⟨b, hb, fun h => absurd rfl h⟩
    · rw [hne g e] at hg ⊢; exact h1 _ _ hg
  · intro i g b hg
    by_cases e : g = f
    · subst e; rw [hidx]; exact h2 _ _ _ hg
    · rw [hne g e]; exact h2 _ _ _ hg
  · intro g e; rw [hne g e]; exact h3 g e
  · intro g e; rw [hne g e]; exact h4 g e
  · intro g e; rw [hne g e]; exact h5 g e

theorem PInv.toW {fds : FdId → FdObj} {pfds : List (FdId × Bands)} (h : PInv fds pfds) (f : FdId)
    (fds' : FdId → FdObj) (hne : ∀ g, g ≠ f → fds' g = fds g) (hidx : (fds' f).index = (fds f).index) :
    PInvW f fds' pfds :=
  PInvW.mod ⟨fun g i hg => ⟨_, h.idx g i hg, fun _ => rfl⟩, h.back, fun g _ => h.zero g, fun g _ => h.unreg g,
    fun g _ => h.want g⟩ fds' hne hidx

theorem PInvR.toInv {f : FdId} {fds : FdId → FdObj} {pfds : List (FdId × Bands)} (h : PInvR f fds pfds)
    (hw : (fds f).registered = true → (fds f).wanted = ⟨(fds f).hin, (fds f).hout, (fds f).herr⟩)
    (hu : (fds f).registered = false → (fds f).wanted = {}) : PInv fds pfds := by
  obtain ⟨h1, h2, h3, h4, h5, h6⟩ := h
  constructor
  · exact h1
  · exact h2
  · intro g hg
    by_cases e : g = f
    · subst e; exact h6
    · exact h3 g e hg
  · intro g hg
    by_cases e : g = f
    · subst e; rw [h6, hu hg]; rfl
    · exact h4 g e hg
  · intro g hg
    by_cases e : g = f
    · subst e; exact hw hg
    · exact h5 g e hg

theorem PInv.congr {fds fds' : FdId → FdObj} {pfds : List (FdId × Bands)}
    (hI : PInv fds pfds) (h : ∀ g, coreEq (fds g) (fds' g)) : PInv fds' pfds := by
  refine ⟨fun f i => ?_, fun i f b hb => ?_, fun f => ?_, fun f => ?_, fun f => ?_⟩
  all_goals obtain ⟨e1, e2, e3, e4, e5, -, e7⟩ := h f
  · rw [e7, e5]; exact hI.idx f i
  · rw [e7]; exact hI.back i f b hb
  · rw [e4, e7, e5]; exact hI.zero f
  · rw [e4, e7]; exact hI.unreg f
  · rw [e1, e2, e3, e4, e5]; exact hI.want f

theorem PInv.reset {fds : FdId → FdObj} {pfds : List (FdId × Bands)}
    (hI : PInv fds pfds) (f : FdId) (hu : (fds f).registered = false) (o : FdObj)
    (h1 : o.registered = false) (h2 : o.index = none) : PInv (upd fds f o) pfds := by
  have hf := hI.unreg f hu
  refine ⟨fun g i => ?_, fun i g b hb => ?_, fun g => ?_, fun g => ?_, fun g => ?_⟩
  all_goals by_cases e : g = f
  all_goals first | (subst e; rw [upd_same]) | rw [upd_ne _ _ e]
  · intro h; rw [h2] at h; cases h
  · exact hI.idx g i
  · have := hI.back i g b hb; rw [hf] at this; cases this
  · exact hI.back i g b hb
  · intro h; rw [h1] at h; cases h
  · exact hI.zero g
  · exact fun _ => h2
  · exact hI.unreg g
  · intro h; rw [h1] at h; cases h
  · exact hI.want g

theorem pollNotify_same (s : St) (f g : FdId) :
    ((pollNotify s f).fds g).hin = (s.fds g).hin ∧ ((pollNotify s f).fds g).hout = (s.fds g).hout ∧
    ((pollNotify s f).fds g).herr = (s.fds g).herr ∧ ((pollNotify s f).fds g).registered = (s.fds g).registered ∧
    ((pollNotify s f).fds g).wanted = (s.fds g).wanted := by
  rw [pollNotify_obj]
  exact ⟨rfl, rfl, rfl, rfl, rfl⟩

theorem notifyFd_P (s : St) (f : FdId) (hP : s.method.isEpoll = false) (hW : PInvW f s.fds s.pfds) :
    PInv (notifyFd s f).fds (notifyFd s f).pfds := by
  unfold notifyFd
  simp only [hP, Bool.false_eq_true, if_false]
  have hW' := hW.mod (upd s.fds f { (s.fds f) with wanted := wantedOf (s.fds f) })
    (fun g hg => upd_ne _ _ hg) (by simp)
  have hR := pollNotify_R { s with fds := upd s.fds f { (s.fds f) with wanted := wantedOf (s.fds f) } } f hW'
  have hf := pollNotify_same { s with fds := upd s.fds f { (s.fds f) with wanted := wantedOf (s.fds f) } } f f
  simp only [upd_same] at hf
  apply hR.toInv
  · intro hr
    rw [hf.2.2.2.1] at hr
    rw [hf.2.2.2.2, hf.1, hf.2.1, hf.2.2.1]
    simp [wantedOf, hr]
  · intro hr
    rw [hf.2.2.2.1] at hr
    rw [hf.2.2.2.2]
    simp [wantedOf, hr]

theorem fdRegisterCore_P (s : St) (f : FdId) (i o e : Bool) (hP : s.method.isEpoll = false)
    (hI : PInv s.fds s.pfds) (hu : (s.fds f).registered = false) :
    PInv (fdRegisterCore s f i o e).fds (fdRegisterCore s f i o e).pfds := by
  simp only [fdRegisterCore]
  apply notifyFd_P
  · exact hP
  · exact hI.toW f _ (fun g hg => upd_ne _ _ hg) (by simp [hI.unreg f hu])

theorem fdUnregisterCore_P (s : St) (f : FdId) (hP : s.method.isEpoll = false)
    (hI : PInv s.fds s.pfds) :
    PInv (fdUnregisterCore s f).fds (fdUnregisterCore s f).pfds := by
  have hm : (notifyFd { s with fds := upd s.fds f { (s.fds f) with registered := false }, stack := s.stack.map (eraseActive · f) } f).method = s.method := by
    rw [notifyFd_frame]
  simp only [fdUnregisterCore, hm, hP, Bool.false_and, Bool.false_eq_true, if_false]
  apply notifyFd_P
  · exact hP
  · exact hI.toW f _ (fun g hg => upd_ne _ _ hg) (by simp)

theorem tryFail_P (s : St) (f : FdId) (i o e : Bool)
    (hI : PInv s.fds s.pfds) (hu : (s.fds f).registered = false) :
    PInv (tryFail s f i o e).fds (tryFail s f i o e).pfds := by
  simp only [tryFail]
  exact hI.reset f hu _ rfl rfl

theorem trySucc_P (s : St) (f : FdId) (i o e : Bool) (hP : s.method.isEpoll = false)
    (hI : PInv s.fds s.pfds) (hu : (s.fds f).registered = false) :
    PInv (trySucc s f i o e).fds (trySucc s f i o e).pfds := by
  have hidx := hI.unreg f hu
  simp only [trySucc, hP, Bool.false_eq_true, if_false]
  generalize hs1 : ({ s with fds := upd s.fds f _, notify := s.notify.erase f } : St) = s1
  have hW1 : PInvW f s1.fds s1.pfds := by
    subst hs1
    exact hI.toW f _ (fun g hg => upd_ne _ _ hg) (by simp [hidx])
  have hR := pollNotify_R s1 f hW1
  have hm : (pollNotify s1 f).method.isEpoll = false := by
    rw [pollNotify_frame]; subst hs1; exact hP
  have hf := pollNotify_same s1 f f
  have e1 : (s1.fds f).hin = i := by subst hs1; simp
  have e2 : (s1.fds f).hout = o := by subst hs1; simp
  have e3 : (s1.fds f).herr = e := by subst hs1; simp
  have e4 : (s1.fds f).registered = true := by subst hs1; simp
  rw [e1, e2, e3, e4] at hf
  split
  · next hz =>
    have hz' : (i = false ∧ o = false) ∧ e = false := by
      simpa [wantedOf, Bands.isZero] using hz
    simp only [hm, Bool.false_eq_true, if_false]
    have hW2 := PInvW.mod ⟨fun g i hg => ⟨_, hR.idx g i hg, fun _ => rfl⟩, hR.back, hR.zero, hR.unreg, hR.want⟩
      (upd (pollNotify s1 f).fds f { ((pollNotify s1 f).fds f) with wanted := {} }) (fun g hg => upd_ne _ _ hg) (by simp)
    have hR2 := pollNotify_R { pollNotify s1 f with fds := upd (pollNotify s1 f).fds f { ((pollNotify s1 f).fds f) with wanted := {} } } f hW2
    have hf2 := pollNotify_same { pollNotify s1 f with fds := upd (pollNotify s1 f).fds f { ((pollNotify s1 f).fds f) with wanted := {} } } f f
    simp only [upd_same] at hf2
    apply hR2.toInv
    · intro _
      rw [hf2.2.2.2.2, hf2.1, hf2.2.1, hf2.2.2.1, hf.1, hf.2.1, hf.2.2.1]
      simp [hz'.1.1, hz'.1.2, hz'.2]
    · intro hr
      rw [hf2.2.2.2.1, hf.2.2.2.1] at hr
      simp at hr
  · next hz =>
    have e5 : (s1.fds f).wanted = ⟨i, o, e⟩ := by
      subst hs1
      simp only [upd_same]
      rw [if_neg hz]
      simp [wantedOf]
    apply hR.toInv
    · intro _
      rw [hf.2.2.2.2, hf.1, hf.2.1, hf.2.2.1, e5]
    · intro hr
      rw [hf.2.2.2.1] at hr
      simp at hr

def pcFlushed : Pc → Bool
  | .run (.wait _ _) | .needTime (.forWait _ _) | .waiting _ _ => true
  | _ => false

/-- what `Mon.C02` checks of the interest set at a wait: user entries belong to registered descriptors with a
handler and ask for exactly in/out as set; every such descriptor has an entry; no descriptor twice -/
abbrev InterestOk (fds : FdId → FdObj) (interest : List (FdId × Bands)) : Prop :=
  (∀ p ∈ interest, p.1 < 1000 → (fds p.1).registered = true ∧
    ((fds p.1).hin || (fds p.1).hout || (fds p.1).herr) = true ∧ p.2.i = (fds p.1).hin ∧ p.2.o = (fds p.1).hout) ∧
  (∀ f, f < 1000 → (fds f).registered = true → ((fds f).hin || (fds f).hout || (fds f).herr) = true →
    ∃ b, (f, b) ∈ interest) ∧
  (interest.map (·.1)).Nodup

theorem univ_nodup : (List.range 64 ++ (List.range 16).map rawFd).Nodup := by
  rw [List.nodup_append]
  refine ⟨List.nodup_range, List.Pairwise.map _ (fun _ _ h => rawFd_ne_rawFd h) List.nodup_range, ?_⟩
  intro a ha b hb e
  obtain ⟨r, -, rfl⟩ := List.mem_map.1 hb
  exact ne_rawFd (Nat.lt_trans (List.mem_range.1 ha) (by decide)) r e

theorem keys_filterMap (k : FdId → Option Bands) (U : List FdId) :
    (U.filterMap (fun f => (k f).map fun b => (f, b))).map (·.1) = U.filter (fun f => (k f).isSome) := by
  induction U with
  | nil => rfl
  | cons a r ih =>
    cases h : k a with
    | none => simp [h, ih]
    | some b => simp [h, ih]

theorem isZero_mk (i o e : Bool) : Bands.isZero ⟨i, o, e⟩ = !(i || o || e) := by
  cases i <;> cases o <;> cases e <;> rfl

theorem or_of_not_isZero (i o e : Bool) (h : ¬ Bands.isZero ⟨i, o, e⟩ = true) : (i || o || e) = true := by
  cases i <;> cases o <;> cases e <;> simp_all [Bands.isZero]

theorem PInv.registered {fds : FdId → FdObj} {pfds : List (FdId × Bands)} (h : PInv fds pfds) {f : FdId} {i : Nat}
    (hi : (fds f).index = some i) : (fds f).registered = true := by
  cases hr : (fds f).registered with
  | true => rfl
  | false => rw [h.unreg f hr] at hi; cases hi

theorem PInv.index_lt {fds : FdId → FdObj} {pfds : List (FdId × Bands)} (h : PInv fds pfds) {f : FdId} {i : Nat}
    (hi : (fds f).index = some i) : i < pfds.length ∧ ∃ b, pfds[i]? = some (f, b) :=
  ⟨(List.getElem?_eq_some_iff.1 (h.idx f i hi)).1, _, h.idx f i hi⟩

/-- no stale kernel registration: the interest set holds registered descriptors only -/
theorem EInv.kint_registered {fds : FdId → FdObj} {notify : List FdId} {kint : FdId → Option Bands}
    (h : EInv fds notify kint) {f : FdId} (hk : (kint f).isSome = true) : (fds f).registered = true := by
  cases hr : (fds f).registered with
  | true => rfl
  | false => rw [h.kint f, (h.unreg f hr).2] at hk; cases hk

/-- with nothing queued the kernel has been told what the handlers say -/
theorem EInv.regBands_eq {fds : FdId → FdObj} {kint : FdId → Option Bands} (h : EInv fds [] kint) {f : FdId}
    (hf : (fds f).registered = true) : (fds f).regBands = ⟨(fds f).hin, (fds f).hout, (fds f).herr⟩ := by
  have := h.mem f hf
  simp only [List.not_mem_nil, ne_eq, false_iff, Decidable.not_not] at this
  rw [this]; exact h.want f hf

theorem mask_E {fds : FdId → FdObj} {kint : FdId → Option Bands} (hI : EInv fds [] kint)
    (g : FdId) (mask : Bands) (hk : kint g = some mask) :
    (fds g).registered = true ∧ mask.i = (fds g).hin ∧ mask.o = (fds g).hout ∧ ((fds g).hin || (fds g).hout || (fds g).herr) = true := by
  have hr : (fds g).registered = true := hI.kint_registered (by rw [hk]; rfl)
  have hk2 := hI.kint g
  rw [hk, hI.regBands_eq hr] at hk2
  split at hk2
  · simp at hk2
  · next hz =>
    simp only [Option.some.injEq] at hk2
    subst hk2
    exact ⟨hr, rfl, rfl, or_of_not_isZero _ _ _ hz⟩

theorem mask_P {fds : FdId → FdObj} {pfds : List (FdId × Bands)} (hI : PInv fds pfds)
    (p : FdId × Bands) (hp : p ∈ pfds) :
    (fds p.1).registered = true ∧ p.2.i = (fds p.1).hin ∧ p.2.o = (fds p.1).hout ∧ ((fds p.1).hin || (fds p.1).hout || (fds p.1).herr) = true := by
  obtain ⟨h1, h2, h3, h4, h5⟩ := hI
  obtain ⟨i, hi⟩ := List.mem_iff_getElem?.1 hp
  have hidx := h2 i p.1 p.2 hi
  have hw := h1 _ _ hidx
  rw [hi] at hw
  have hr : (fds p.1).registered = true := PInv.registered ⟨h1, h2, h3, h4, h5⟩ hidx
  have hz := h3 _ hr
  have hwant := h5 _ hr
  have hp2 : p.2 = (fds p.1).wanted := by
    simp only [Option.some.injEq] at hw
    have := congrArg Prod.snd hw
    simpa using this
  rw [hp2, hwant]
  refine ⟨hr, rfl, rfl, ?_⟩
  rw [hidx, hwant] at hz
  exact or_of_not_isZero _ _ _ (fun h => by simpa using hz.2 h)

theorem interest_E {fds : FdId → FdObj} {kint : FdId → Option Bands}
    (hI : EInv fds [] kint) (hU : ∀ f, (fds f).registered = true → f < 1000 → f < 64) :
    InterestOk fds ((((List.range 64) ++ (List.range 16).map rawFd).filter fun f => (kint f).isSome).filterMap
      fun f => (kint f).map fun b => (f, b)) := by
  refine ⟨?_, ?_, ?_⟩
  · intro p hp _
    simp only [List.mem_filterMap, List.mem_filter, Option.map_eq_some_iff] at hp
    obtain ⟨a, _, b, hb, rfl⟩ := hp
    obtain ⟨m1, m2, m3, m4⟩ := mask_E hI a b hb
    exact ⟨m1, m4, m2, m3⟩
  · intro f hf hr hh
    have hk := hI.kint f
    rw [hI.regBands_eq hr] at hk
    have hz : (Bands.isZero ⟨(fds f).hin, (fds f).hout, (fds f).herr⟩) = false := by
      rw [isZero_mk, hh]; rfl
    rw [hz] at hk
    simp only [Bool.false_eq_true, if_false] at hk
    refine ⟨epollMask ⟨(fds f).hin, (fds f).hout, (fds f).herr⟩, ?_⟩
    simp only [List.mem_filterMap, List.mem_filter, Option.map_eq_some_iff]
    refine ⟨f, ⟨?_, by simp [hk]⟩, _, hk, rfl⟩
    simp only [List.mem_append, List.mem_range]
    left; exact hU f hr hf
  · rw [keys_filterMap]
    exact List.Sublist.nodup (List.filter_sublist.trans List.filter_sublist) univ_nodup

theorem interest_P {fds : FdId → FdObj} {pfds : List (FdId × Bands)} (hI : PInv fds pfds) : InterestOk fds pfds := by
  obtain ⟨h1, h2, h3, h4, h5⟩ := hI
  refine ⟨?_, ?_, ?_⟩
  · intro p hp _
    obtain ⟨m1, m2, m3, m4⟩ := mask_P ⟨h1, h2, h3, h4, h5⟩ p hp
    exact ⟨m1, m4, m2, m3⟩
  · intro f hf hr hh
    have hz := h3 _ hr
    have hwant := h5 _ hr
    cases hidx : (fds f).index with
    | none =>
      exfalso
      rw [hidx, hwant, isZero_mk, hh] at hz
      simp at hz
    | some i =>
      exact ⟨_, List.mem_iff_getElem?.2 ⟨i, h1 f i hidx⟩⟩
  · rw [List.Nodup, List.pairwise_map, List.pairwise_iff_getElem]
    intro i j hi hj hij heq
    have a := h2 i (pfds[i]).1 (pfds[i]).2 (by simp [List.getElem?_eq_getElem hi])
    have b := h2 j (pfds[j]).1 (pfds[j]).2 (by simp [List.getElem?_eq_getElem hj])
    rw [heq] at a
    rw [a] at b
    simp at b
    omega

theorem PInv.dense {fds : FdId → FdObj} {pfds : List (FdId × Bands)} (h : PInv fds pfds) :
    (pfds.map (·.1)).Nodup ∧
    ∀ i f b, pfds[i]? = some (f, b) → (fds f).registered = true ∧ (fds f).index = some i ∧ b = (fds f).wanted := by
  refine ⟨(interest_P h).2.2, fun i f b hb => ?_⟩
  have hidx := h.back i f b hb
  have hw := h.idx f i hidx
  rw [hb] at hw
  exact ⟨h.registered hidx, hidx, (Prod.mk.inj (Option.some.inj hw)).2⟩

theorem fin_of {s : St} (hE : s.method.isEpoll = true → EInv s.fds s.notify s.kint)
    (hP : s.method.isEpoll = false → PInv s.fds s.pfds) :
    if s.method.isEpoll = true then EInv s.fds s.notify s.kint else PInv s.fds s.pfds := by
  split
  · next h => exact hE h
  · next h => exact hP (by simpa using h)

/-- `n` is the number of indices with flag `p` -/
def _root_.Ivy.L1.Counted (p : Nat → Bool) (n : Int) : Prop :=
  ∃ l : List Nat, l.Nodup ∧ (∀ i, p i = true ↔ i ∈ l) ∧ n = (l.length : Int)

theorem _root_.Ivy.L1.Counted.congr {p p' : Nat → Bool} {n : Int} (h : Counted p n) (hp : ∀ i, p' i = p i) :
    Counted p' n := by
  obtain ⟨l, a, b, c⟩ := h
  exact ⟨l, a, fun i => by rw [hp]; exact b i, c⟩

theorem _root_.Ivy.L1.Counted.add {p p' : Nat → Bool} {n : Int} {k : Nat} (h : Counted p n) (hk : p k = false)
    (hp : ∀ i, p' i = if i = k then true else p i) : Counted p' (n + 1) := by
  obtain ⟨l, h1, h2, h3⟩ := h
  have hnot : k ∉ l := fun hm => by rw [← h2 k, hk] at hm; cases hm
  refine ⟨k :: l, List.nodup_cons.2 ⟨hnot, h1⟩, fun i => ?_, by rw [h3]; simp⟩
  rw [hp i, List.mem_cons]
  split
  · next e => simp [e]
  · next e => rw [h2 i]; simp [e]

theorem _root_.Ivy.L1.Counted.del {p p' : Nat → Bool} {n : Int} {k : Nat} (h : Counted p n) (hk : p k = true)
    (hp : ∀ i, p' i = if i = k then false else p i) : Counted p' (n - 1) := by
  obtain ⟨l, h1, h2, h3⟩ := h
  have hin : k ∈ l := (h2 k).1 hk
  refine ⟨l.erase k, h1.erase k, fun i => ?_, ?_⟩
  · rw [hp i, h1.mem_erase_iff]
    split
    · next e => simp [e]
    · next e => rw [h2 i]; simp [e]
  · rw [h3, List.length_erase_of_mem hin]
    have := List.length_pos_of_mem hin
    omega

theorem _root_.Ivy.L1.Counted.nonneg {p : Nat → Bool} {n : Int} (h : Counted p n) : 0 ≤ n := by
  obtain ⟨l, _, _, h3⟩ := h
  rw [h3]; exact Int.natCast_nonneg _

abbrev EvCount (evs : EvId → EvObj) (n : Int) : Prop := Counted (fun e => (evs e).registered) n

theorem evc_reg {evs : EvId → EvObj} {n : Int} (h : EvCount evs n) (e : EvId) (he : (evs e).registered = false)
    (o : EvObj) (ho : o.registered = true) : EvCount (upd evs e o) (n + 1) :=
  h.add he fun i => by rw [upd_apply, apply_ite EvObj.registered, ho]

theorem evc_unreg {evs : EvId → EvObj} {n : Int} (h : EvCount evs n) (e : EvId) (he : (evs e).registered = true)
    (o : EvObj) (ho : o.registered = false) : EvCount (upd evs e o) (n - 1) :=
  h.del he fun i => by rw [upd_apply, apply_ite EvObj.registered, ho]

theorem evc_nonneg {evs : EvId → EvObj} {n : Int} (h : EvCount evs n) : 0 ≤ n := h.nonneg

end Ivy.L1.ProofsC02

namespace Ivy.L1
open Ivy.Heap (TS)
open ProofsC02

/-- the clauses about descriptors; they read no event.  `iv_event_register` moves `eventCount` before it registers the
kick descriptor and marks the event object only afterwards: in between these clauses hold alone. -/
structure DescInv (s : St) : Prop where
  fin : if s.method.isEpoll = true then EInv s.fds s.notify s.kint else PInv s.fds s.pfds
  univ : ∀ f, (s.fds f).registered = true → f < 1000 → f < 64
  flushed : s.method.isEpoll = true → pcFlushed s.pc = true → s.notify = []

structure FdInv (s : St) : Prop extends DescInv s where
  evcount : EvCount s.evs s.eventCount

theorem DescInv.finE {s : St} (h : DescInv s) (hE : s.method.isEpoll = true) : EInv s.fds s.notify s.kint := by
  have := h.fin; rwa [if_pos hE] at this

theorem DescInv.finP {s : St} (h : DescInv s) (hE : s.method.isEpoll = false) : PInv s.fds s.pfds := by
  have := h.fin; rwa [if_neg (by simp [hE])] at this

/-- `DescInv` reads: which kind of back end, the descriptor objects up to `ready` and `live`, the notify list, the
kernel mirror, the pollfd array, and whether control is past the flush -/
theorem DescInv.congr {s s' : St} (h : DescInv s)
    (hf : ∀ g, coreEq (s.fds g) (s'.fds g) := by exact fun _ => coreEq_refl _)
    (hpc : pcFlushed s'.pc = true → s.method.isEpoll = true → pcFlushed s.pc = true := by exact fun h _ => h)
    (hm : s'.method.isEpoll = s.method.isEpoll := by rfl) (hn : s'.notify = s.notify := by rfl)
    (hk : s'.kint = s.kint := by rfl) (hp : s'.pfds = s.pfds := by rfl) : DescInv s' := by
  refine ⟨?_, fun f => ?_, fun a b => ?_⟩
  · rw [hm, hn, hk, hp]
    split
    · next hE => exact (h.finE hE).congr hf
    · next hE => exact (h.finP (by simpa using hE)).congr hf
  · rw [(hf f).2.2.2.1]; exact h.univ f
  · rw [hn]; rw [hm] at a; exact h.flushed a (hpc b a)

theorem FdInv.congr {s s' : St} (h : FdInv s)
    (hf : ∀ g, coreEq (s.fds g) (s'.fds g) := by exact fun _ => coreEq_refl _)
    (he : ∀ e, (s'.evs e).registered = (s.evs e).registered := by exact fun _ => rfl)
    (hpc : pcFlushed s'.pc = true → s.method.isEpoll = true → pcFlushed s.pc = true := by exact fun h _ => h)
    (hm : s'.method.isEpoll = s.method.isEpoll := by rfl) (hn : s'.notify = s.notify := by rfl)
    (hk : s'.kint = s.kint := by rfl) (hp : s'.pfds = s.pfds := by rfl)
    (hc : s'.eventCount = s.eventCount := by rfl) : FdInv s' :=
  ⟨h.toDescInv.congr hf hpc hm hn hk hp, by rw [hc]; exact h.evcount.congr he⟩

/-- user code calls the library on descriptor `f` (one of its own, or the one embedded in a raw event): the other
descriptors stay registered or not as they were -/
theorem DescInv.call {s s' : St} (h : DescInv s) (hpc : s'.pc = .user) {f : FdId} (hf : f < 64 ∨ 1000 ≤ f)
    (hne : ∀ g, g ≠ f → (s'.fds g).registered = (s.fds g).registered)
    (hE : s'.method.isEpoll = true → EInv s'.fds s'.notify s'.kint)
    (hP : s'.method.isEpoll = false → PInv s'.fds s'.pfds) : DescInv s' := by
  refine ⟨fin_of hE hP, fun g hg hlt => ?_, fun _ hp => ?_⟩
  · by_cases e : g = f
    · subst e; exact hf.elim id (fun h => absurd hlt (Nat.not_lt.mpr h))
    · rw [hne g e] at hg; exact h.univ g hg hlt
  · rw [hpc] at hp; cases hp

theorem DescInv.fdRegister {s : St} (h : DescInv s) (hpc : s.pc = .user) {f : FdId} (hf : f < 64 ∨ 1000 ≤ f)
    (hu : (s.fds f).registered = false) (i o e : Bool) : DescInv (fdRegisterCore s f i o e) := by
  have hm : (fdRegisterCore s f i o e).method = s.method := by rw [fdRegisterCore_frame]
  refine h.call (by rw [fdRegisterCore_frame]; exact hpc) hf
    (fun g hg => by rw [fdRegisterCore_obj_ne _ _ _ _ _ hg]) (fun hE => ?_) (fun hP => ?_)
  · rw [hm] at hE; exact fdRegisterCore_E s f i o e hE (h.finE hE) hu
  · rw [hm] at hP; exact fdRegisterCore_P s f i o e hP (h.finP hP) hu

theorem DescInv.rawRegister {s : St} (h : DescInv s) (hpc : s.pc = .user) (r : RawId)
    (hu : (s.fds (rawFd r)).registered = false) : DescInv (rawRegisterCore s r) :=
  (h.fdRegister hpc (Or.inr (rawFd_ge r)) hu true false false).congr

theorem FdInv.dead {s : St} (h : FdInv s) : FdInv { s with pc := .dead } := h.congr (hpc := nofun)

theorem FdInv.call {s s' : St} (h : FdInv s) (hpc : s'.pc = .user) {f : FdId} (hf : f < 64 ∨ 1000 ≤ f)
    (hne : ∀ g, g ≠ f → (s'.fds g).registered = (s.fds g).registered)
    (hE : s'.method.isEpoll = true → EInv s'.fds s'.notify s'.kint)
    (hP : s'.method.isEpoll = false → PInv s'.fds s'.pfds)
    (he : s'.evs = s.evs) (hc : s'.eventCount = s.eventCount) : FdInv s' :=
  ⟨h.toDescInv.call hpc hf hne hE hP, by rw [he, hc]; exact h.evcount⟩

theorem FdInv.fdRegister {s : St} (h : FdInv s) (hpc : s.pc = .user) {f : FdId} (hf : f < 64 ∨ 1000 ≤ f)
    (hu : (s.fds f).registered = false) (i o e : Bool) : FdInv (fdRegisterCore s f i o e) :=
  ⟨h.toDescInv.fdRegister hpc hf hu i o e, by rw [fdRegisterCore_frame]; exact h.evcount⟩

theorem FdInv.fdUnregister {s : St} (h : FdInv s) (hpc : s.pc = .user) {f : FdId} (hf : f < 64 ∨ 1000 ≤ f) :
    FdInv (fdUnregisterCore s f) := by
  have hm : (fdUnregisterCore s f).method = s.method := by rw [fdUnregisterCore_frame]
  refine h.call (by rw [fdUnregisterCore_frame]; exact hpc) hf
    (fun g hg => by rw [fdUnregisterCore_obj_ne _ _ hg]) (fun hE => ?_) (fun hP => ?_)
    (by rw [fdUnregisterCore_frame]) (by rw [fdUnregisterCore_frame])
  · rw [hm] at hE; exact fdUnregisterCore_E s f hE (h.finE hE)
  · rw [hm] at hP; exact fdUnregisterCore_P s f hP (h.finP hP)

/-- `iv_fd_set_handler_*`: the object of `f` is replaced by one with the same registration and back-end fields, then
`notify_fd` -/
theorem FdInv.setHandler {s : St} (h : FdInv s) (hpc : s.pc = .user) {f : FdId} (hf : f < 64) (o' : FdObj)
    (hr : o'.registered = true) (hb : o'.regBands = (s.fds f).regBands) (hi : o'.index = (s.fds f).index) :
    FdInv (notifyFd { s with fds := upd s.fds f o' } f) := by
  have hm : (notifyFd { s with fds := upd s.fds f o' } f).method = s.method := by rw [notifyFd_frame]
  refine h.call (by rw [notifyFd_frame]; exact hpc) (Or.inl hf) (fun g hg => ?_) (fun hE => ?_) (fun hP => ?_)
    (by rw [notifyFd_frame]) (by rw [notifyFd_frame])
  · rw [notifyFd_obj]
    show ((upd s.fds f o') g).registered = _
    rw [upd_ne _ _ hg]
  · rw [hm] at hE; exact notifyFd_E s f o' hE (h.finE hE) hb hr
  · rw [hm] at hP
    exact notifyFd_P _ f hP ((h.finP hP).toW f _ (fun g hg => upd_ne _ _ hg)
      ((congrArg FdObj.index (upd_same s.fds f o')).trans hi))

theorem FdInv.tryFail {s : St} (h : FdInv s) (hpc : s.pc = .user) {f : FdId} (hf : f < 64)
    (hu : (s.fds f).registered = false) (i o e : Bool) : FdInv (ProofsC02.tryFail s f i o e) :=
  h.call hpc (Or.inl hf) (fun g hg => by show ((upd s.fds f _) g).registered = _; rw [upd_ne _ _ hg])
    (fun hE => tryFail_E s f i o e (h.finE hE) hu) (fun hP => tryFail_P s f i o e (h.finP hP) hu) rfl rfl

theorem FdInv.trySucc {s : St} (h : FdInv s) (hpc : s.pc = .user) {f : FdId} (hf : f < 64)
    (hu : (s.fds f).registered = false) (i o e : Bool) : FdInv (ProofsC02.trySucc s f i o e) := by
  have hm : (ProofsC02.trySucc s f i o e).method = s.method := by rw [trySucc_frame]
  refine h.call (by rw [trySucc_frame]; exact hpc) (Or.inl hf) (fun g hg => ?_) (fun hE => ?_) (fun hP => ?_)
    (by rw [trySucc_frame]) (by rw [trySucc_frame])
  · rw [trySucc_obj]
    show ((upd s.fds f _) g).registered = _
    rw [upd_ne _ _ hg]
  · rw [hm] at hE; exact trySucc_E s f i o e hE (h.finE hE) hu
  · rw [hm] at hP; exact trySucc_P s f i o e hP (h.finP hP) hu

theorem FdInv.rawRegister {s : St} (h : FdInv s) (hpc : s.pc = .user) (r : RawId)
    (hu : (s.fds (rawFd r)).registered = false) : FdInv (rawRegisterCore s r) :=
  (h.fdRegister hpc (Or.inr (rawFd_ge r)) hu true false false).congr

theorem FdInv.rawUnregister {s : St} (h : FdInv s) (hpc : s.pc = .user) (r : RawId) :
    FdInv (rawUnregisterCore s r) :=
  (h.fdUnregister hpc (Or.inr (rawFd_ge r))).congr

theorem FdInv.init (m : Method) (n : Nat) (a b : Bool) : FdInv (St.init m n a b) := by
  refine ⟨⟨?_, nofun, fun _ _ => rfl⟩, [], List.nodup_nil, fun e => ⟨nofun, nofun⟩, rfl⟩
  split
  · exact ⟨List.nodup_nil, fun _ => rfl, nofun, fun _ _ => ⟨nofun, rfl⟩, nofun⟩
  · exact ⟨nofun, nofun, nofun, fun _ _ => rfl, nofun⟩

theorem FdInv.flush {s : St} (h : FdInv s) :
    FdInv (flushed s) ∧ ((flushed s).method.isEpoll = true → (flushed s).notify = []) := by
  unfold Ivy.L1.flushed
  split
  · next hE =>
    obtain ⟨hI, hn⟩ := flush_fold s.notify s rfl (h.finE hE)
    refine ⟨?_, fun _ => hn⟩
    have hr : ∀ g, ((s.notify.foldl epollFlushOne s).fds g).registered = (s.fds g).registered :=
      fun g => by rw [flushAll_obj]
    have hfr := flushAll_frame s.notify s
    generalize s.notify.foldl epollFlushOne s = X at hI hn hr hfr
    rw [hfr]
    exact ⟨⟨fin_of (fun _ => hI) (fun hP => nomatch hE.symm.trans hP), fun g hg => h.univ g ((hr g).symm.trans hg),
      fun _ _ => hn⟩, h.evcount⟩
  · next hE => exact ⟨h, fun hE' => absurd hE' hE⟩

/-- a block, by the branch it takes: only `flush` leads past the flush, only `prepWait` writes the method (epoll stays
epoll), and `wait` is past the flush already -/
theorem FdInv.internal {s : St} {b : Block} {x : St × List Out} (h : FdInv s) (hs : Step s b x) (hpc : s.pc = .run b) :
    FdInv x.1 := by
  cases hs with
  | prepWait s1 abs km _ e hep =>
    rw [e] at hep ⊢
    exact h.congr (hpc := nofun) (hm := hep)
  | flush_clock | flush_go =>
    obtain ⟨h1, hn⟩ := h.flush
    exact ⟨⟨h1.fin, h1.univ, fun hE _ => hn hE⟩, h1.evcount⟩
  | wait => exact h.congr (hpc := fun _ _ => by rw [hpc]; rfl)
  | _ => exact h.congr (hpc := nofun)

theorem FdInv.freeObj {s : St} (h : FdInv s) (k id : Nat) : FdInv (freeObj s k id) := by
  unfold Ivy.L1.freeObj
  split
  · exact h.congr (hf := upd_rel coreEq_refl ⟨rfl, rfl, rfl, rfl, rfl, rfl, rfl⟩)
  · exact h.congr
  · exact h.congr
  · exact h.congr (he := upd_rel (R := fun a b : EvObj => b.registered = a.registered) (fun _ => rfl) rfl)
  · exact h.congr

theorem FdInv.initObj {s : St} (h : FdInv s) (k id : Nat) (henv : unregisteredObj s k id = true) :
    FdInv (initObj s k id) := by
  unfold unregisteredObj at henv
  unfold Ivy.L1.initObj
  split
  · -- fresh descriptor memory in place of an unregistered descriptor
    have hu : (s.fds id).registered = false := (by simpa using henv : id < 1000 ∧ _).2
    refine ⟨⟨fin_of (fun hE => (h.finE hE).reset id hu _ rfl rfl) (fun hP => (h.finP hP).reset id hu _ rfl rfl),
      fun g hg hlt => ?_, h.flushed⟩, h.evcount⟩
    have hg' : (upd s.fds id _ g).registered = true := hg
    by_cases e : g = id
    · rw [e, upd_same] at hg'; cases hg'
    · rw [upd_ne _ _ e] at hg'; exact h.univ g hg' hlt
  · exact h.congr
  · exact h.congr
  · have hu : (s.evs id).registered = false := by simpa using henv
    exact h.congr (he := upd_rel (R := fun a b : EvObj => b.registered = a.registered) (fun _ => rfl) hu.symm)
  · exact h.congr

/-- the wait returned: readiness is recorded in `ready` bits only; after `ENOSYS` the wait is entered again, with
`poll` in place of `ppoll` -/
theorem FdInv.afterWait {s : St} (h : FdInv s) {abs : Option TS} {km : Bool} (hpc : s.pc = .waiting abs km)
    (r : WRes) : FdInv (afterWait s abs km r).1 := by
  obtain ⟨hf, ho, hm⟩ := afterWait_effect s abs km r
  rw [hf]
  exact h.congr (hf := fun g => coreEq_of_ready (ho g)) (hpc := fun _ _ => by rw [hpc]; rfl) (hm := hm)

/-- an API call returns to user code, or starts the loop at its top, or asks for the time: never past the flush -/
theorem ApiCtl.notFlushed {s : St} {a : Api} {x : St × List Out} (hc : ApiCtl s a x) (hpc : s.pc = .user) :
    pcFlushed x.1.pc = false := by
  cases hc with
  | dead | validate | main => rfl
  | ret s' v e => exact congrArg pcFlushed (e.trans hpc)
  | nil s' e => exact congrArg pcFlushed (e.trans hpc)

/-- the calls on timers and tasks, `iv_quit`, `iv_validate_now`, `iv_main` write nothing the invariant reads but `pc` -/
theorem FdInv.api_plain {s : St} (h : FdInv s) (hpc : s.pc = .user) (a : Api)
    (hk : match a.kind with | .timer | .task | .loop => True | _ => False) : FdInv (api s a).1 := by
  obtain ⟨hf, -, hc⟩ := api_effect s a
  have hw : ∀ s', a.kind.writes s s' =
      { a.kind.writes s s' with method := s.method, fds := s.fds, notify := s.notify, kint := s.kint, pfds := s.pfds,
                                evs := s.evs, eventCount := s.eventCount, pc := s'.pc } := by
    generalize a.kind = k at hk
    cases k with
    | timer | task | loop => exact fun _ => rfl
    | _ => cases hk
  rw [hf, hw]
  exact h.congr (hpc := fun hp _ => Bool.noConfusion (hp.symm.trans (hc.notFlushed hpc)))

theorem FdInv.api {s : St} (h : FdInv s)
    (hsync : ∀ r, (s.fds (rawFd r)).registered = (s.raws r).registered)
    (hraw0 : (s.raws 0).registered = true → 1 ≤ s.eventCount ∧ s.useRaw = true)
    (hpc : s.pc = .user) (a : Api) (hok : apiOk s a = true) : FdInv (api s a).1 := by
  have d := h.toDescInv
  cases a with
  | fdRegister f i o e =>
    rw [Ivy.L1.api]
    split
    · exact h.dead
    · next hu => exact h.fdRegister hpc (Or.inl (of_decide_eq_true hok)) (by simpa using hu) i o e
  | fdRegisterTry f i o e k =>
    have hf : f < 64 := of_decide_eq_true hok
    cases hu : (s.fds f).registered with
    | true => rw [Ivy.L1.api, if_pos hu]; exact h.dead
    | false =>
      cases k with
      | false => rw [api_tryFail s f i o e hu]; exact h.tryFail hpc hf hu i o e
      | true => rw [api_trySucc s f i o e hu]; exact h.trySucc hpc hf hu i o e
  | fdUnregister f =>
    rw [Ivy.L1.api]
    split
    · exact h.dead
    · exact h.fdUnregister hpc (Or.inl (of_decide_eq_true hok))
  | fdSetIn f v =>
    rw [Ivy.L1.api]
    split
    · exact h.dead
    · next hr => exact h.setHandler hpc (of_decide_eq_true hok) _ (by simpa using hr) rfl rfl
  | fdSetOut f v =>
    rw [Ivy.L1.api]
    split
    · exact h.dead
    · next hr => exact h.setHandler hpc (of_decide_eq_true hok) _ (by simpa using hr) rfl rfl
  | fdSetErr f v =>
    rw [Ivy.L1.api]
    split
    · exact h.dead
    · next hr => exact h.setHandler hpc (of_decide_eq_true hok) _ (by simpa using hr) rfl rfl
  | evRegister e rawOk =>
    have he : (s.evs e).registered = false := by simpa [apiOk] using hok
    have hevc := evc_reg h.evcount e he { (s.evs e) with registered := true } rfl
    rcases api_evRegister_cases s e rawOk with ⟨-, e'⟩ | ⟨-, -, -, e'⟩ | ⟨h0, -, -, e'⟩ | ⟨-, -, -, e'⟩ <;> rw [e']
    · exact ⟨d.congr, hevc⟩
    · exact ⟨d.congr, hevc⟩
    · -- the counters move first: when the kick descriptor is registered only the descriptor clauses hold; it is
      -- registered with the first event only
      have hu : (s.fds (rawFd 0)).registered = false := by
        rw [hsync 0]
        cases hr : (s.raws 0).registered with
        | false => rfl
        | true => have := (hraw0 hr).1; omega
      have d3 := (d.congr (s' := { s with numobjs := s.numobjs + 1, eventCount := s.eventCount + 1, useRaw := true })
        ).rawRegister hpc 0 hu
      exact ⟨d3.congr, by rw [ok, rawRegisterCore_frame]; exact hevc⟩
    · exact h.congr
  | evUnregister e =>
    have he : (s.evs e).registered = true := by simpa [apiOk] using hok
    rw [api_evUnregister_eq]
    have h1 : FdInv (evUnregMid s e) := ⟨d.congr, evc_unreg h.evcount e he _ rfl⟩
    have h2 : FdInv (evUnregEnd (evUnregMid s e)) := by
      unfold evUnregEnd
      split
      · split
        · exact h1.rawUnregister hpc 0
        · exact h1.congr
      · exact h1
    exact h2.congr
  | evPost e =>
    rw [Ivy.L1.api]
    split
    · exact h
    · extract_lets post s1
      split
      · rw [taskRegisterCore_frame]; exact h.congr
      · exact h.congr
  | rawRegister r okk =>
    have hu : (s.fds (rawFd r)).registered = false := by
      rw [hsync r]; exact (by simpa [apiOk] using hok : _ ∧ (s.raws r).registered = false).2
    rw [Ivy.L1.api]
    split
    · exact h
    · exact h.rawRegister hpc r hu
  | rawUnregister r => exact h.rawUnregister hpc r
  | invalidateNow => exact h.congr
  | taskInit k => exact h.congr
  | _ => exact h.api_plain hpc _ trivial

theorem FdInv.input {s : St} {i : Input} {r : St × List Out} (h : FdInv s)
    (hsync : ∀ r, (s.fds (rawFd r)).registered = (s.raws r).registered)
    (hraw0 : (s.raws 0).registered = true → 1 ≤ s.eventCount ∧ s.useRaw = true)
    (henv : envOk s i = true) (hi : input s i = some r) : FdInv r.1 := by
  cases input_inv hi with
  | api a hpc => exact h.api hsync hraw0 hpc a (Bool.and_eq_true _ _ ▸ henv).1
  | handlerEnd b hpc hb => rcases hb with rfl | rfl | rfl | rfl <;> exact h.congr (hpc := nofun)
  | free k id hpc => exact h.freeObj k id
  | init k id hpc => exact h.initObj k id henv
  | time t k hpc =>
    cases k with
    | forWait abs km => exact h.congr (hpc := fun _ _ => by rw [hpc]; rfl)
    | _ => exact h.congr (hpc := nofun)
  | wret abs km r hpc => exact h.afterWait hpc r
  | xpostNop abs km e hpc => exact h
  | xpost abs km e ka hpc => exact h.congr
  | rawGoto r okk b hpc hb => rcases hb with rfl | rfl <;> exact h.congr (hpc := nofun)
  | rawFault r okk msg hpc => exact h.dead
  | rawCb r okk hpc => exact h.congr (hpc := nofun)

theorem FdInv.interestOk {s : St} (h : FdInv s) (hp : pcFlushed s.pc = true) :
    InterestOk s.fds (interestOf s (universeOf s)) := by
  cases hE : s.method.isEpoll with
  | true =>
    have hfin := h.finE hE
    rw [h.flushed hE hp] at hfin
    simp only [interestOf, universeOf, hE, if_true]
    exact interest_E hfin h.univ
  | false =>
    simp only [interestOf, hE, Bool.false_eq_true, if_false]
    exact interest_P (h.finP hE)

/-- the kernel can only report registered descriptors (the descriptor clause of `wretOk`): `ReportsRegistered s` of
`Invariant.lean`, which this module does not import, written out -/
theorem FdInv.kernel_registered {s : St} (h : FdInv s) (f : FdId)
    (hk : (if s.method.isEpoll then (s.kint f).isSome else s.pfds.any (·.1 == f)) = true) :
    (s.fds f).registered = true := by
  cases hE : s.method.isEpoll with
  | true =>
    rw [hE, if_pos rfl] at hk
    exact (h.finE hE).kint_registered hk
  | false =>
    rw [hE, if_neg Bool.false_ne_true] at hk
    obtain ⟨p, hp, e⟩ := List.any_eq_true.1 hk
    rw [← beq_iff_eq.1 e]
    exact (mask_P (h.finP hE) p hp).1

end Ivy.L1
