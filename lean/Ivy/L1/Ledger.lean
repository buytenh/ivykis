import Ivy.L1.Machine
/-!
# Resource ledger of one loop instance (C18)

What `iv_init` / the poll methods / `iv_deinit` acquire and release for one thread, as a small
bookkeeping machine: descriptors (epoll instance, kernel timer, the event kick pair), the poll
method's two arrays, the timer radix levels, the per-thread state block.  `deinit` is only legal once
every user object is unregistered (then `eventCount = 0`, no raw event pair is open and the heap is
empty), which is what the documented API requires.
-/
namespace Ivy.L1.Ledger

structure Res where
  fds : Int := 0            -- descriptors held by this loop instance
  blocks : Int := 0         -- heap blocks held by this loop instance
deriving DecidableEq, Repr

structure St where
  inited : Bool := false
  epoll : Bool := false
  timerfd : Bool := false
  ratDepth : Nat := 0
  rawPairs : Nat := 0       -- raw events registered (each: 1 eventfd, or 2 pipe ends)
  pipeMode : Bool := false
  res : Res := {}
deriving Repr

inductive Op
  | init (epoll : Bool)
  | timerfdCreate          -- first `set_poll_timeout` of the epoll-timerfd method
  | ratGrow                -- heap population crosses 128^k upward
  | ratShrink
  | rawRegister
  | rawUnregister
  | deinit
deriving Repr

def fdsPerRaw (s : St) : Int := if s.pipeMode then 2 else 1

/-- `none` = the operation is not legal in this state -/
def step (s : St) : Op → Option St
  | .init ep =>
    if s.inited then none else
    -- state block; epoll instance | two poll arrays
    some { s with inited := true, epoll := ep, timerfd := false, ratDepth := 0,
                  res := ⟨s.res.fds + (if ep then 1 else 0), s.res.blocks + 1 + (if ep then 0 else 2)⟩ }
  | .timerfdCreate =>
    if !s.inited || !s.epoll || s.timerfd then none else
    some { s with timerfd := true, res := { s.res with fds := s.res.fds + 1 } }
  | .ratGrow =>
    if !s.inited then none else some { s with ratDepth := s.ratDepth + 1, res := { s.res with blocks := s.res.blocks + 1 } }
  | .ratShrink =>
    if !s.inited || s.ratDepth = 0 then none else
    some { s with ratDepth := s.ratDepth - 1, res := { s.res with blocks := s.res.blocks - 1 } }
  | .rawRegister =>
    if !s.inited then none else
    some { s with rawPairs := s.rawPairs + 1, res := { s.res with fds := s.res.fds + fdsPerRaw s } }
  | .rawUnregister =>
    if !s.inited || s.rawPairs = 0 then none else
    some { s with rawPairs := s.rawPairs - 1, res := { s.res with fds := s.res.fds - fdsPerRaw s } }
  | .deinit =>
    -- legal only with nothing registered; iv_timer_deinit frees every radix level, the method's deinit closes its descriptors
    if !s.inited || s.rawPairs ≠ 0 then none else
    some { s with inited := false, timerfd := false, ratDepth := 0, epoll := false,
                  res := ⟨s.res.fds - (if s.epoll then 1 else 0) - (if s.timerfd then 1 else 0),
                          s.res.blocks - 1 - (if s.epoll then 0 else 2) - (s.ratDepth : Int)⟩ }

def run (s : St) : List Op → Option St
  | [] => some s
  | o :: os => (step s o).bind (run · os)

/-- bookkeeping invariant: what is held is exactly what the flags say -/
def Inv (base : Res) (s : St) : Prop :=
  s.res.fds = base.fds + (if s.inited && s.epoll then 1 else 0) + (if s.inited && s.timerfd then 1 else 0) + (s.rawPairs : Int) * fdsPerRaw s ∧
  s.res.blocks = base.blocks + (if s.inited then 1 + (if s.epoll then 0 else 2) + (s.ratDepth : Int) else 0) ∧
  (s.inited = false → s.rawPairs = 0 ∧ s.timerfd = false)

theorem step_inv (base : Res) (s s' : St) (o : Op) (h : Inv base s) (hs : step s o = some s') : Inv base s' := by
  obtain ⟨inited, epoll, timerfd, ratDepth, rawPairs, pipeMode, fds, blocks⟩ := s
  -- `hg`: the guard under which `o` is legal; it settles the flags the invariant branches on
  cases o <;> simp [step] at hs <;> obtain ⟨hg, rfl⟩ := hs
  -- `rawPairs * fdsPerRaw` is linear only once `pipeMode` is known
  case rawRegister | rawUnregister => cases pipeMode <;> simp [Inv, fdsPerRaw, hg] at h ⊢ <;> omega
  all_goals simp [Inv, fdsPerRaw, hg] at h ⊢ <;> omega

theorem run_inv (base : Res) (s s' : St) (ops : List Op) (h : Inv base s) (hr : run s ops = some s') : Inv base s' := by
  induction ops generalizing s with
  | nil => simp [run] at hr; subst hr; exact h
  | cons o os ih =>
    simp only [run] at hr
    cases hs : step s o with
    | none => simp [hs] at hr
    | some s1 => simp [hs] at hr; exact ih s1 (step_inv base s s1 o h hs) hr

/-- C18 ledger: whenever the loop instance is de-initialised, everything it acquired since `base` has
been released — for every history of init / timerfd creation / radix growth and shrink / raw-event
(un)registration, any number of init–use–deinit cycles. -/
theorem deinit_releases (s' : St) (ops : List Op) (hr : run {} ops = some s') (hd : s'.inited = false) :
    s'.res = ({} : Res) := by
  have hinv : Inv {} ({} : St) := by simp [Inv, fdsPerRaw]
  have h := run_inv {} {} s' ops hinv hr
  obtain ⟨h1, h2, h3⟩ := h
  have ⟨hr0, ht0⟩ := h3 hd
  cases hres : s'.res with
  | mk f b =>
    simp_all [fdsPerRaw]

end Ivy.L1.Ledger
