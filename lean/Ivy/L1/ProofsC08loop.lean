import Ivy.L1.ProofsC06
import Ivy.Mon.C08

/-!
# C08 (owner's side) — proof that every trace of the L1 machine is accepted by the monitor `Ivy.Mon.C08`

The relation is `InvK s ∧ InvE μ s`.  `InvE` ties the monitor's registered and posted events to the event objects and
to the pending list and the batch being delivered, and carries `Kick`: a non-empty pending list has a wake-up source.
`InvK` says where that source lives once an event is registered (the one-shot kick under epoll, the kick raw event with
its input handler under the poll methods).  The rest is `MInv`: the blocks branch by branch without a fault (`Step`),
pending and batch events are registered and without duplicates, the event count, the `pollfd` array, the kick raw event
is registered iff `useRaw` and an event is, and a pending task makes the wait non-blocking
(`ProofsC06.wait_nonBlocking`).
-/
namespace Ivy.L1.ProofsC08loop
open Ivy.L1 Ivy.Heap Ivy.L1.ProofsC06

/-! ## the frame stack: the batch of events being delivered -/

def fev : Frame → List EvId
  | .events b => b | _ => []

/-- the events of the batch being run by `__iv_event_run_pending_events` -/
def evb : List Frame → List EvId
  | [] => []
  | fr :: l => fev fr ++ evb l

@[simp] theorem evb_nil : evb [] = [] := rfl
@[simp] theorem evb_cons (fr l) : evb (fr :: l) = fev fr ++ evb l := rfl
@[simp] theorem fev_timers (r) : fev (.timers r) = [] := rfl
@[simp] theorem fev_tasks (r) : fev (.tasks r) = [] := rfl
@[simp] theorem fev_poll (a r) : fev (.poll a r) = [] := rfl
@[simp] theorem fev_fd (a r) : fev (.fd a r) = [] := rfl
@[simp] theorem fev_events (r) : fev (.events r) = r := rfl

theorem evb_eq_allEvents (st : List Frame) : evb st = ProofsC01.allEvents st := by
  induction st with
  | nil => rfl
  | cons fr st ih => rw [evb_cons, ProofsC01.allEvents_cons, ih]; cases fr <;> rfl

@[simp] theorem evb_map (g : Frame → Frame) (hg : ∀ fr, fev (g fr) = fev fr) (l : List Frame) :
    evb (l.map g) = evb l := by
  induction l <;> simp_all

@[simp] theorem fev_eraseActive (fr f) : fev (eraseActive fr f) = fev fr := by cases fr <;> rfl
@[simp] theorem fev_setTimerBatch (fr f) : fev (setTimerBatch fr f) = fev fr := by cases fr <;> rfl
@[simp] theorem fev_appendTaskBatch (fr f) : fev (appendTaskBatch fr f) = fev fr := by cases fr <;> rfl
@[simp] theorem fev_eraseTask (fr f) : fev (eraseTask fr f) = fev fr := by cases fr <;> rfl
@[simp] theorem fev_eraseEvent (fr : Frame) (e : EvId) : fev (eraseEvent fr e) = (fev fr).erase e := by
  cases fr <;> simp [eraseEvent]

theorem mem_evb_eraseEvent {l : List Frame} (h : (evb l).Nodup) (e x : EvId) :
    x ∈ evb (l.map (eraseEvent · e)) ↔ x ≠ e ∧ x ∈ evb l := by
  simp only [evb_eq_allEvents] at h ⊢
  exact flat_erase_mem fev eraseEvent fev_eraseEvent l e h x

theorem evOnList_iff (s : St) (e : EvId) : evOnList s e = true ↔ e ∈ s.pending ∨ e ∈ evb s.stack := by
  rw [evb_eq_allEvents, ← List.mem_append]
  exact ProofsC01.evOnList_iff s e

/-! ## from `MInv`: pending and batch events are registered and distinct; a registered event is counted; under the
poll methods the kick raw event, registered while an event is, is in the `pollfd` array -/

theorem events_registered {s : St} (hI : MInv s) {e : EvId} (h : e ∈ s.pending ∨ e ∈ evb s.stack) :
    (s.evs e).registered = true :=
  hI.core.ev.2.1 e (by rw [← evb_eq_allEvents]; exact List.mem_append.2 h)

theorem count_pos {s : St} (hI : MInv s) {e : EvId} (he : (s.evs e).registered = true) : 1 ≤ s.eventCount := by
  obtain ⟨l, _, h2, h3⟩ := hI.fd.evcount
  have := List.length_pos_of_mem ((h2 e).1 he)
  omega

theorem pending_nil_of_count {s : St} (hI : MInv s) (h0 : s.eventCount = 0) : s.pending = [] :=
  List.eq_nil_iff_forall_not_mem.2 fun x hx => by
    have := count_pos hI (events_registered hI (Or.inl hx))
    omega

theorem kick_watched {s : St} (hI : MInv s) (hP : s.method.isEpoll = false) (hu : s.useRaw = true)
    (hc : 1 ≤ s.eventCount) (hh : (s.fds (rawFd 0)).hin = true) : Ivy.Mon.C08.kickFdWatched s.pfds = true := by
  have hp := hI.fd.finP hP
  have hreg : (s.fds (rawFd 0)).registered = true := (hI.core.raw.1 0).trans (hI.core.raw.kick_iff.2 ⟨hc, hu⟩)
  have hw := hp.want _ hreg
  have hnz : ¬ (s.fds (rawFd 0)).wanted.isZero = true := by
    rw [hw, hh]; simp [Bands.isZero]
  cases hidx : (s.fds (rawFd 0)).index with
  | none => exact absurd ((hp.zero _ hreg).1 hidx) hnz
  | some i =>
    have hm := List.mem_of_getElem? (hp.idx _ i hidx)
    unfold Ivy.Mon.C08.kickFdWatched
    rw [List.any_eq_true]
    exact ⟨_, hm, by simp [hw, hh]⟩

/-! ## steps that leave the event bookkeeping and the wake-up sources alone -/

structure FrE (s s' : St) : Prop where
  pending : s'.pending = s.pending
  useRaw : s'.useRaw = s.useRaw
  kickArmed : s'.kickArmed = s.kickArmed
  kickReg : s'.kickReg = s.kickReg
  eventCount : s'.eventCount = s.eventCount
  evs : s'.evs = s.evs
  ep : s'.method.isEpoll = s.method.isEpoll
  tasks : s'.tasks = s.tasks
  hin0 : (s'.fds (rawFd 0)).hin = (s.fds (rawFd 0)).hin
  batch : batchOf s'.stack = batchOf s.stack
  evb : evb s'.stack = evb s.stack

theorem FrE.of_eq_fd {s s' : St} {timerfdAvail pwait2 quit numobjs fds numfds handled lastAbs lastAbsCount notify pfds
    kint timerfd ktimer taskEpoch tobjs heap time timeValid tlive raws pc stack}
    (e : s' = { s with timerfdAvail, pwait2, quit, numobjs, fds, numfds, handled, lastAbs, lastAbsCount, notify, pfds,
                       kint, timerfd, ktimer, taskEpoch, tobjs, heap, time, timeValid, tlive, raws, pc, stack })
    (hh : (fds (rawFd 0)).hin = (s.fds (rawFd 0)).hin)
    (hb : batchOf stack = batchOf s.stack) (he : ProofsC08loop.evb stack = ProofsC08loop.evb s.stack) : FrE s s' := by
  subst e
  exact ⟨rfl, rfl, rfl, rfl, rfl, rfl, rfl, rfl, hh, hb, he⟩

theorem FrE.of_eq {s s' : St} {timerfdAvail pwait2 quit numobjs numfds handled lastAbs lastAbsCount notify pfds
    kint timerfd ktimer taskEpoch tobjs heap time timeValid tlive raws pc stack}
    (e : s' = { s with timerfdAvail, pwait2, quit, numobjs, numfds, handled, lastAbs, lastAbsCount, notify, pfds,
                       kint, timerfd, ktimer, taskEpoch, tobjs, heap, time, timeValid, tlive, raws, pc, stack })
    (hb : batchOf stack = batchOf s.stack) (he : ProofsC08loop.evb stack = ProofsC08loop.evb s.stack) : FrE s s' :=
  FrE.of_eq_fd e rfl hb he

def harmless : Out → Bool
  | .ret _ | .fatal _ | .fault _ | .mainRet => true
  | .cb (.event _) => false
  | .cb _ => true
  | _ => false

def Quiet (s : St) (r : St × List Out) : Prop := FrE s r.1 ∧ r.2.all harmless = true

theorem Quiet.ite {s : St} {c : Prop} [Decidable c] {x y : St × List Out} (hx : Quiet s x) (hy : Quiet s y) :
    Quiet s (if c then x else y) := by
  split <;> assumption

def frEApi : Api → Bool
  | .taskRegister _ | .taskUnregister _ | .evRegister .. | .evUnregister _ | .evPost _ => false
  | _ => true

theorem api_frE {s : St} {a : Api} (ha : frEApi a = true) (henv : apiOk s a = true) : Quiet s (api s a) := by
  have same : ∀ {pc}, FrE s { s with pc := pc } := FrE.of_eq rfl rfl rfl
  have fatal : ∀ m, Quiet s (fatal s m) := fun m => ⟨same, rfl⟩
  -- user objects are neither the kick raw event nor its descriptor
  have user : ∀ {f : FdId}, f < 64 → rawFd 0 ≠ f := fun hf => rawFd_ne (Nat.lt_trans hf (by decide))
  have hupd : ∀ {f : FdId} (o : FdObj), rawFd 0 ≠ f → ((upd s.fds f o) (rawFd 0)).hin = (s.fds (rawFd 0)).hin :=
    fun o hne => by rw [upd_ne _ _ hne]
  cases a with
  | taskRegister k | taskUnregister k | evRegister e k | evUnregister e | evPost e => cases ha
  | fdRegister f i o e =>
    have hne := user (of_decide_eq_true henv)
    exact .ite (fatal _)
      ⟨FrE.of_eq_fd (fdRegisterCore_frame ..) (by rw [fdRegisterCore_obj_ne _ _ _ _ _ hne]) rfl rfl, rfl⟩
  | fdRegisterTry f i o e k =>
    have hne := user (of_decide_eq_true henv)
    exact .ite (fatal _) (.ite ⟨FrE.of_eq_fd rfl (hupd _ hne) rfl rfl, rfl⟩
      ⟨FrE.of_eq_fd (ProofsC02.trySucc_frame s f i o e) (by rw [ProofsC02.trySucc_obj]; exact hupd _ hne) rfl rfl,
        rfl⟩)
  | fdUnregister f =>
    have hne := user (of_decide_eq_true henv)
    exact .ite (fatal _) ⟨FrE.of_eq_fd (fdUnregisterCore_frame ..) (by rw [fdUnregisterCore_obj_ne _ _ hne])
      (batchOf_map _ (by simp) _) (evb_map _ (by simp) _), rfl⟩
  | fdSetIn f v | fdSetOut f v | fdSetErr f v =>
    have hne := user (of_decide_eq_true henv)
    exact .ite (fatal _) ⟨FrE.of_eq_fd (notifyFd_frame ..) (by rw [notifyFd_obj]; exact hupd _ hne) rfl rfl, rfl⟩
  | rawRegister r k =>
    simp only [apiOk, Bool.and_eq_true, decide_eq_true_eq] at henv
    exact .ite ⟨same, rfl⟩ ⟨FrE.of_eq_fd (rawRegisterCore_frame ..)
      (by rw [rawRegisterCore, fdRegisterCore_obj_ne _ _ _ _ _ (rawFd_ne_rawFd (Nat.ne_of_lt henv.1.1))]) rfl rfl, rfl⟩
  | rawUnregister r =>
    simp only [apiOk, Bool.and_eq_true, decide_eq_true_eq] at henv
    exact ⟨FrE.of_eq_fd (rawUnregisterCore_frame ..)
      (by rw [rawUnregisterCore, fdUnregisterCore_obj_ne _ _ (rawFd_ne_rawFd (Nat.ne_of_lt henv.1.1))])
      (batchOf_map _ (by simp) _) (evb_map _ (by simp) _), rfl⟩
  | timerRegister t e =>
    rw [api]
    split <;> exact ⟨FrE.of_eq rfl rfl rfl, rfl⟩
  | timerUnregister t =>
    rw [api]
    split
    · exact ⟨FrE.of_eq rfl (batchOf_map _ (by simp) _) (evb_map _ (by simp) _), rfl⟩
    · exact fatal _
    · exact ⟨same, rfl⟩
  | main =>
    rw [api]
    split <;> exact ⟨FrE.of_eq rfl rfl rfl, rfl⟩
  | validateNow => exact .ite ⟨FrE.of_eq rfl rfl rfl, rfl⟩ ⟨same, rfl⟩
  | taskInit k | quit | invalidateNow => exact ⟨FrE.of_eq rfl rfl rfl, rfl⟩

/-! ## where the wake-up source of a foreign post lives -/

/-- `useRaw` only under the poll methods; with a registered event the one-shot kick is registered (epoll) or
the descriptor of the kick raw event has its input handler (poll) -/
structure InvK (s : St) : Prop where
  ur_ep : s.useRaw = true → s.method.isEpoll = false
  kreg : s.useRaw = false → 1 ≤ s.eventCount → s.kickReg = true
  hin0 : s.useRaw = true → 1 ≤ s.eventCount → (s.fds (rawFd 0)).hin = true

/-- steps that write nothing of what `InvK` reads -/
structure KF (s s' : St) : Prop where
  useRaw : s'.useRaw = s.useRaw
  ep : s'.method.isEpoll = s.method.isEpoll
  ec : s'.eventCount = s.eventCount
  kreg : s'.kickReg = s.kickReg
  hin0 : (s'.fds (rawFd 0)).hin = (s.fds (rawFd 0)).hin

theorem InvK.frame {s s' : St} (h : InvK s) (q : KF s s') : InvK s' := by
  refine ⟨?_, ?_, ?_⟩
  · rw [q.useRaw, q.ep]; exact h.ur_ep
  · rw [q.useRaw, q.ec, q.kreg]; exact h.kreg
  · rw [q.useRaw, q.ec, q.hin0]; exact h.hin0

theorem KF.of_eq {s s' : St} {timerfdAvail pwait2 quit numobjs numfds handled lastAbs lastAbsCount notify pfds kint
    kickArmed timerfd ktimer taskEpoch tasks tobjs heap time timeValid tlive pending evs raws pc stack}
    (e : s' = { s with timerfdAvail, pwait2, quit, numobjs, numfds, handled, lastAbs, lastAbsCount, notify, pfds, kint,
                       kickArmed, timerfd, ktimer, taskEpoch, tasks, tobjs, heap, time, timeValid, tlive, pending,
                       evs, raws, pc, stack }) : KF s s' := by
  subst e
  exact ⟨rfl, rfl, rfl, rfl, rfl⟩

theorem KF.of_frE {s s' : St} (fr : FrE s s') : KF s s' :=
  ⟨fr.useRaw, fr.ep, fr.eventCount, fr.kickReg, fr.hin0⟩

theorem rawRegisterCore_hin0 (s : St) : ((rawRegisterCore s 0).fds (rawFd 0)).hin = true := by
  rw [rawRegisterCore, fdRegisterCore, notifyFd_obj]
  exact congrArg FdObj.hin (upd_same ..)

/-- the first event of a thread brings the one-shot kick (epoll), or the kick raw event with its input handler
(poll); if that cannot be registered the count is zero again -/
theorem InvK.evRegister {s : St} (hK : InvK s) (h0 : 0 ≤ s.eventCount) (e : EvId) (k : Bool) :
    InvK (api s (.evRegister e k)).1 := by
  rcases api_evRegister_cases s e k with ⟨hc, he⟩ | ⟨hc, hu, -, he⟩ | ⟨hc, hu, -, he⟩ | ⟨hc, hu, -, he⟩ <;>
    rw [he]
  · exact ⟨hK.ur_ep, fun hu _ => hK.kreg hu (by omega), fun hu _ => hK.hin0 hu (by omega)⟩
  · exact ⟨fun h => absurd (hu.symm.trans h) nofun, fun _ _ => rfl, fun h => absurd (hu.symm.trans h) nofun⟩
  · have hh := rawRegisterCore_hin0 { s with numobjs := s.numobjs + 1, eventCount := s.eventCount + 1, useRaw := true }
    rw [rawRegisterCore_frame] at hh ⊢
    exact ⟨fun _ => hu.elim hK.ur_ep id, nofun, fun _ _ => hh⟩
  · exact ⟨fun _ => hu.elim hK.ur_ep id, nofun, fun _ (h : 1 ≤ s.eventCount) => by omega⟩

/-! ## the monitor's bookkeeping against the machine's pending list and the running batch -/

open Ivy.Mon.C08 (M)

/-- a non-empty pending list has a wake-up source: under the poll methods the (level-triggered) kick raw event;
else the deferred task `events_local` is on a task list, or the one-shot kick is armed, or the loop is just about
to run the pending events -/
def Kick (s : St) : Prop :=
  s.pending = [] ∨ s.useRaw = true ∨ 0 ∈ s.tasks ∨ 0 ∈ batchOf s.stack ∨ s.kickArmed = true ∨ s.pc = .run .runEvents

theorem Kick.pending_nil {s : St} (h : s.pending = []) : Kick s := .inl h
theorem Kick.useRaw {s : St} (h : s.useRaw = true) : Kick s := .inr (.inl h)
theorem Kick.onTasks {s : St} (h : 0 ∈ s.tasks) : Kick s := .inr (.inr (.inl h))
theorem Kick.inBatch {s : St} (h : 0 ∈ batchOf s.stack) : Kick s := .inr (.inr (.inr (.inl h)))
theorem Kick.armed {s : St} (h : s.kickArmed = true) : Kick s := .inr (.inr (.inr (.inr (.inl h))))
theorem Kick.running {s : St} (h : s.pc = .run .runEvents) : Kick s := .inr (.inr (.inr (.inr (.inr h))))

/-- the wake-up source is kept, or the loop goes on to run the pending events -/
theorem Kick.keep {s s' : St} (h : Kick s) (hp : s.pending = [] → s'.pending = [])
    (hu : s.useRaw = true → s'.useRaw = true)
    (h0 : 0 ∈ s.tasks ∨ 0 ∈ batchOf s.stack → (0 ∈ s'.tasks ∨ 0 ∈ batchOf s'.stack) ∨ s'.pc = .run .runEvents)
    (hk : s.kickArmed = true → s'.kickArmed = true ∨ s'.pc = .run .runEvents)
    (hr : s.pc ≠ .run .runEvents) : Kick s' := by
  rcases h with h | h | h | h | h | h
  · exact .pending_nil (hp h)
  · exact .useRaw (hu h)
  · exact (h0 (.inl h)).elim (·.elim .onTasks .inBatch) .running
  · exact (h0 (.inr h)).elim (·.elim .onTasks .inBatch) .running
  · exact (hk h).elim .armed .running
  · exact absurd h hr

structure InvE (μ : M) (s : St) : Prop where
  alive : μ.dead = false
  pend : μ.pendingReg = none
  reg_mem : ∀ e, e ∈ μ.reg ↔ (s.evs e).registered = true
  reg_nodup : μ.reg.Nodup
  posted_nodup : μ.posted.Nodup
  posted_mem : ∀ e, e ∈ μ.posted ↔ (e ∈ s.pending ∨ e ∈ evb s.stack)
  kick : Kick s

structure QE (s s' : St) : Prop where
  pending : s'.pending = s.pending
  evb : evb s'.stack = evb s.stack
  evs : ∀ e, (s'.evs e).registered = (s.evs e).registered
  kick : Kick s → Kick s'

theorem InvE.quiet {μ : M} {s s' : St} (h : InvE μ s) (q : QE s s') : InvE μ s' := by
  obtain ⟨alive, pend, reg_mem, reg_nodup, posted_nodup, posted_mem, kick⟩ := h
  refine ⟨alive, pend, fun e => ?_, reg_nodup, posted_nodup, ?_, q.kick kick⟩
  · rw [q.evs]; exact reg_mem e
  · rw [q.pending, q.evb]; exact posted_mem

theorem QE.of_frE {s s' : St} (fr : FrE s s') (hp : s.pc ≠ .run .runEvents) : QE s s' :=
  ⟨fr.pending, fr.evb, fun e => by rw [fr.evs], fun h => h.keep (fun h => fr.pending.trans h)
    (fun h => fr.useRaw.trans h) (by rw [fr.tasks, fr.batch]; exact Or.inl) (by rw [fr.kickArmed]; exact Or.inl) hp⟩

theorem QE.of_eq {s s' : St} {method timerfdAvail pwait2 quit numobjs fds numfds handled lastAbs lastAbsCount notify
    pfds kint kickReg timerfd ktimer taskEpoch tobjs heap time timeValid tlive eventCount evs raws pc}
    (e : s' = { s with method, timerfdAvail, pwait2, quit, numobjs, fds, numfds, handled, lastAbs, lastAbsCount, notify,
                       pfds, kint, kickReg, timerfd, ktimer, taskEpoch, tobjs, heap, time, timeValid, tlive, eventCount,
                       evs, raws, pc })
    (he : ∀ x, (evs x).registered = (s.evs x).registered) (hp : s.pc ≠ .run .runEvents) : QE s s' := by
  subst e
  exact ⟨rfl, rfl, he, fun h => h.keep id id Or.inl Or.inl hp⟩

theorem step_dead (μ : M) (hd : μ.dead = true) (e : Ev) : Ivy.Mon.C08.step μ e = .ok μ := by
  simp [Ivy.Mon.C08.step, hd]

theorem step_harmless (μ : M) (hd : μ.dead = false) (hp : μ.pendingReg = none) (o : Out) (hh : harmless o = true) :
    ∃ μ', Ivy.Mon.C08.step μ (.out o) = .ok μ' ∧ (μ'.dead = true ∨ μ' = μ) := by
  cases o with
  | cb c => cases c <;> simp_all [Ivy.Mon.C08.step, harmless] <;> (cases μ; simp_all)
  | ret v => simp_all [Ivy.Mon.C08.step]
  | fatal m => simp_all [Ivy.Mon.C08.step]
  | fault m => simp_all [Ivy.Mon.C08.step]
  | mainRet => simp_all [Ivy.Mon.C08.step]; (cases μ; simp_all)
  | _ => simp [harmless] at hh

def posting : Input → Bool
  | .api (.evRegister _ _) | .api (.evUnregister _) | .api (.evPost _) | .xpost _ => true
  | _ => false

theorem step_inp_other (μ : M) (i : Input) (hd : μ.dead = false) (hp : μ.pendingReg = none)
    (h : posting i = false) : Ivy.Mon.C08.step μ (.inp i) = .ok μ := by
  cases i with
  | api a => cases a <;> simp_all [Ivy.Mon.C08.step, posting] <;> (cases μ; simp_all)
  | _ => simp_all [Ivy.Mon.C08.step, posting] <;> (cases μ; simp_all)

theorem withK {μ : M} {s' : St} {evs : List Ev} (hK : InvK s')
    (h : ∃ μ', evs.foldlM Ivy.Mon.C08.step μ = .ok μ' ∧ (μ'.dead = true ∨ InvE μ' s')) :
    ∃ μ', evs.foldlM Ivy.Mon.C08.step μ = .ok μ' ∧ (μ'.dead = true ∨ InvK s' ∧ InvE μ' s') :=
  h.imp fun _ h => ⟨h.1, h.2.imp_right (⟨hK, ·⟩)⟩

/-- a calm step keeps both halves of the relation by its frame alone: `KF` for `InvK`, `QE` for `InvE` -/
def Calm (s s' : St) : Prop := KF s s' ∧ QE s s'

theorem calm_of_frE {s s' : St} (fr : FrE s s') (hp : s.pc ≠ .run .runEvents) : Calm s s' :=
  ⟨KF.of_frE fr, QE.of_frE fr hp⟩

/-- a calm step whose records the monitor passes over, after records `pre` that leave the monitor state as it is -/
theorem Calm.pass {μ : M} {s s' : St} {outs : List Out} {pre : List Ev} (c : Calm s s') (hK : InvK s) (hE : InvE μ s)
    (hh : outs.all harmless = true) (hpre : ∀ e ∈ pre, Ivy.Mon.C08.step μ e = .ok μ) :
    ∃ μ', (pre ++ outs.map Ev.out).foldlM Ivy.Mon.C08.step μ = .ok μ' ∧
      (μ'.dead = true ∨ InvK s' ∧ InvE μ' s') :=
  fold_quiet step_dead (step_harmless μ hE.alive hE.pend) hpre hh (I := fun μ' => InvK s' ∧ InvE μ' s')
    ⟨hK.frame c.1, hE.quiet c.2⟩

/-- with a posted, undelivered event the loop never enters a blocking wait without a wake-up source in place -/
theorem wait_covered {μ : M} {s : St} {abs : Option TS} {km : Bool} (hI : MInv s) (hK : InvK s) (hE : InvE μ s)
    (hpc : s.pc = .run (.wait abs km)) (hst : s.stack = []) :
    μ.posted = [] ∨
      Ivy.Mon.C06.nonBlocking (timeoutOf s abs) (if s.timerfd then some s.ktimer else none) = true ∨
      (if s.kickReg then some s.kickArmed else none) = some true ∨
      Ivy.Mon.C08.kickFdWatched (interestOf s (universeOf s)) = true := by
  cases hp : μ.posted with
  | nil => exact Or.inl rfl
  | cons x l =>
    right
    have hx : x ∈ s.pending := by simpa [hst] using (hE.posted_mem x).1 (by simp [hp])
    have hcnt := count_pos hI (events_registered hI (Or.inl hx))
    cases hur : s.useRaw with
    | true =>
      have hP := hK.ur_ep hur
      have := kick_watched hI hP hur hcnt (hK.hin0 hur hcnt)
      exact Or.inr (Or.inr (by simp [interestOf, hP, this]))
    | false =>
      have hkr := hK.kreg hur hcnt
      rcases hE.kick with e | e | e | e | e | e
      · exact absurd e (List.ne_nil_of_mem hx)
      · rw [hur] at e; cases e
      · exact Or.inl (wait_nonBlocking hI hpc (List.ne_nil_of_mem e))
      · simp [hst] at e
      · exact Or.inr (Or.inl (by simp [hkr, e]))
      · rw [hpc] at e; cases e

/-- the handler of the first event of the batch is entered: the event is registered and posted, and nowhere else on the
lists -/
theorem InvE.deliver {μ : M} {s s' : St} {e : EvId} {r : List EvId} {rest : List Frame} (hI : MInv s) (hE : InvE μ s)
    (hst : s.stack = .events (e :: r) :: rest) (e1 : s'.pending = s.pending) (e2 : s'.evs = s.evs)
    (e3 : s'.stack = .events r :: rest) (hk : Kick s') :
    e ∈ μ.reg ∧ e ∈ μ.posted ∧ InvE { μ with posted := μ.posted.erase e } s' := by
  have hnd : (s.pending ++ evb s.stack).Nodup := evb_eq_allEvents _ ▸ hI.core.ev.1
  have hreg := @events_registered _ hI
  obtain ⟨alive, pend, reg_mem, reg_nodup, posted_nodup, posted_mem, -⟩ := hE
  rw [hst] at posted_mem hnd hreg
  simp only [evb_cons, fev_events] at posted_mem hnd hreg
  refine ⟨(reg_mem e).2 (hreg (Or.inr (by simp))), (posted_mem e).2 (Or.inr (by simp)), alive, pend,
    fun x => by rw [e2]; exact reg_mem x,
    reg_nodup, posted_nodup.erase e, fun x => ?_, hk⟩
  show x ∈ μ.posted.erase e ↔ _
  rw [posted_nodup.mem_erase_iff, posted_mem, e1, e3]
  have := (List.nodup_cons.1 (List.perm_middle.nodup_iff.1 hnd)).1
  simp only [evb_cons, fev_events, List.cons_append, List.mem_cons, List.mem_append] at this ⊢
  grind

/-- the blocks, branch by branch (`MInv.step`): most write nothing of what the relation reads and no task or event
frame -/
theorem step_internal {μ : M} {s : St} {b : Block} (hI : MInv s) (hK : InvK s) (hE : InvE μ s) (hpc : s.pc = .run b) :
    ∃ μ', ((internal s b).2.map Ev.out).foldlM Ivy.Mon.C08.step μ = .ok μ' ∧
      (μ'.dead = true ∨ InvK (internal s b).1 ∧ InvE μ' (internal s b).1) := by
  have hs := hI.step hpc
  generalize internal s b = x at hs
  have hp : b ≠ .runEvents → s.pc ≠ .run .runEvents := fun h e => h (Pc.run.inj (hpc.symm.trans e))
  have calm : ∀ {s' : St} {outs : List Out}, Calm s s' → outs.all harmless = true →
      ∃ μ', (outs.map Ev.out).foldlM Ivy.Mon.C08.step μ = .ok μ' ∧
        (μ'.dead = true ∨ InvK s' ∧ InvE μ' s') :=
    fun c hh => c.pass hK hE hh (pre := []) fun _ h => nomatch h
  cases hs with
  | mainTop_skip | mainTop_collect | mainTop_clock | resume_tasks | resume_poll | resume_fd | exit | stay =>
    exact calm (calm_of_frE (FrE.of_eq rfl rfl rfl) (hp nofun)) rfl
  | collect _ _ hst | popTimer_done hst | popTimer_cb _ _ hst | popTask_done hst | popEvent_done _ hst
  | dispatch_done _ hst | dispatch_next _ _ _ hst | fd_done _ _ _ _ hst | fd_pass _ _ _ _ hst | fd_raw _ _ _ hst
  | fd_cb _ _ _ _ hst =>
    exact calm (calm_of_frE (FrE.of_eq rfl (by simp [hst]) (by simp [hst])) (hp nofun)) rfl
  | prepWait s1 abs km _ e hep =>
    -- `iv_fd_timeout_check` may fall back from `epollTimerfd` to `epoll`
    rw [e] at hep ⊢
    exact calm ⟨⟨rfl, hep, rfl, rfl, rfl⟩, QE.of_eq rfl (fun _ => rfl) (hp nofun)⟩ rfl
  | flush_clock | flush_go =>
    have hh := flushed_obj s (rawFd 0)
    rw [flushed_frame] at hh ⊢
    exact calm (calm_of_frE (FrE.of_eq_fd rfl (by rw [hh]) rfl rfl) (hp nofun)) rfl
  | startTasks hst =>
    -- the deferred task `events_local` moves from the task list into the batch with all the others
    exact calm ⟨KF.of_eq rfl, rfl, by simp [hst], fun _ => rfl, fun h => h.keep id id
      (fun h0 => .inl (.inr (by simpa [hst] using h0))) .inl (hp nofun)⟩ rfl
  | popTask_events r hst =>
    -- `events_local` leaves the batch when it is run, and the loop goes on to run the events
    exact calm ⟨KF.of_eq rfl, rfl, by simp [hst], fun _ => rfl, fun _ => .running rfl⟩ rfl
  | popTask_cb k r hk hst =>
    exact calm ⟨KF.of_eq rfl, rfl, by simp [hst], fun _ => rfl, fun h => h.keep id id
      (fun h0 => .inl (h0.imp_right fun h => by simpa [hst, Ne.symm hk] using h)) .inl (hp nofun)⟩ rfl
  | runEvents_none _ hn => exact calm ⟨KF.of_eq rfl, rfl, rfl, fun _ => rfl, fun _ => .pending_nil hn⟩ rfl
  | runEvents_some =>
    -- the pending list becomes the batch
    exact withK (hK.frame (KF.of_eq rfl)) ⟨μ, rfl, Or.inr ⟨hE.alive, hE.pend, hE.reg_mem, hE.reg_nodup,
      hE.posted_nodup, fun e => (hE.posted_mem e).trans (by simp), .pending_nil rfl⟩⟩
  | popEvent_cb e r rest hst =>
    obtain ⟨hreg, hpost, h⟩ := hE.deliver (s' := { s with stack := .events r :: rest, pc := .user }) hI hst rfl rfl
      rfl (hE.kick.keep id id (by simp [hst]) .inl (hp nofun))
    exact withK (hK.frame (KF.of_eq rfl))
      ⟨_, by simp [Ivy.Mon.C08.step, hE.alive, hreg, hpost], Or.inr h⟩
  | wait abs km hst =>
    refine withK (hK.frame (KF.of_eq rfl)) ⟨μ, ?_, Or.inr (hE.quiet ⟨rfl, rfl, fun _ => rfl,
      fun h => h.keep id id .inl .inl (hp nofun)⟩)⟩
    rcases wait_covered hI hK hE hpc hst with e | e | e | e <;> simp [Ivy.Mon.C08.step, hE.alive, e]

/-- the deferred task `events_local` stays on its list when a user task is added or removed -/
theorem taskRegisterCore_calm (s : St) (k : TaskId) (hp : s.pc ≠ .run .runEvents) :
    Calm s (taskRegisterCore s k) := by
  refine ⟨KF.of_eq (taskRegisterCore_frame ..), ?_⟩
  rcases taskRegisterCore_cases s k with e | ⟨-, -, e⟩ <;> rw [e]
  · exact ⟨rfl, rfl, fun _ => rfl, fun h => h.keep id id
      (fun h0 => Or.inl (h0.imp_left fun h => List.mem_append_left _ h)) Or.inl hp⟩
  · exact ⟨rfl, evb_map _ (by simp) _, fun _ => rfl, fun h => h.keep id id
      (fun h0 => Or.inl (h0.imp_right fun h => (mem_batchOf_appendTask _ _ _).2 (Or.inl h))) Or.inl hp⟩

theorem taskUnregisterCore_calm {s : St} (hI : MInv s) {k : TaskId} (hk : 1 ≤ k) (hp : s.pc ≠ .run .runEvents) :
    Calm s (taskUnregisterCore s k) := by
  have hk0 : 0 ≠ k := Nat.ne_of_lt hk
  refine ⟨KF.of_eq rfl, rfl, evb_map _ (by simp) _, fun _ => rfl,
    fun h => h.keep id id (fun h0 => Or.inl ?_) Or.inl hp⟩
  exact h0.imp (List.mem_erase_of_ne hk0).2
    fun h => (mem_batchOf_eraseTask (batchOf_eq_allTasks _ ▸ (List.nodup_append.1 hI.core.tk.1).2.1) k 0).2
      ⟨hk0, h⟩

def quietApi : Api → Bool
  | .evRegister _ _ | .evUnregister _ | .evPost _ => false
  | _ => true

theorem calm_api {s : St} {a : Api} (hI : MInv s) (hq : quietApi a = true) (hpc : s.pc = .user)
    (henv : apiOk s a = true) : Calm s (api s a).1 ∧ (api s a).2.all harmless = true := by
  have hp : s.pc ≠ .run .runEvents := by rw [hpc]; nofun
  by_cases ha : frEApi a = true
  · exact ⟨calm_of_frE (api_frE ha henv).1 hp, (api_frE ha henv).2⟩
  · cases a with
    | taskRegister k =>
      rw [api]
      split
      · exact ⟨calm_of_frE (FrE.of_eq rfl rfl rfl) hp, rfl⟩
      · exact ⟨taskRegisterCore_calm s k hp, rfl⟩
    | taskUnregister k =>
      rw [api]
      split
      · exact ⟨calm_of_frE (FrE.of_eq rfl rfl rfl) hp, rfl⟩
      · exact ⟨taskUnregisterCore_calm hI (of_decide_eq_true henv) hp, rfl⟩
    | evRegister e k | evUnregister e | evPost e => cases hq
    | _ => exact absurd rfl ha

/-- `iv_event_register`: the monitor appends the event if the call returns 0; whatever happens to the one-shot kick
happens with the first event, hence with nothing pending -/
theorem stepE_evRegister {μ : M} {s : St} {e : EvId} (k : Bool) (hI : MInv s) (hE : InvE μ s)
    (hpc : s.pc = .user) (hnr : (s.evs e).registered = false) :
    ∃ μ', (Ev.inp (.api (.evRegister e k)) :: (api s (.evRegister e k)).2.map Ev.out).foldlM Ivy.Mon.C08.step μ = .ok μ' ∧
      (μ'.dead = true ∨ InvE μ' (api s (.evRegister e k)).1) := by
  obtain ⟨alive, pend, reg_mem, reg_nodup, posted_nodup, posted_mem, kick⟩ := hE
  have hk : ∀ {s' : St}, s.eventCount = 0 → s'.pending = s.pending → Kick s' :=
    fun hc e1 => .pending_nil (e1.trans (pending_nil_of_count hI hc))
  have reg : ∀ {s' : St}, s'.pending = s.pending → evb s'.stack = evb s.stack →
      s'.evs = upd s.evs e { (s.evs e) with registered := true } → Kick s' →
      InvE { μ with reg := μ.reg ++ [e], pendingReg := none } s' := fun e1 e2 e3 hk' => by
    have hne : e ∉ μ.reg := fun h => by rw [(reg_mem e).1 h] at hnr; cases hnr
    refine ⟨alive, rfl, fun x => ?_, ?_, posted_nodup, by rw [e1, e2]; exact posted_mem, hk'⟩
    · rw [e3, upd_apply, List.mem_append, List.mem_singleton, reg_mem]
      split <;> simp [*]
    · exact List.nodup_append.2 ⟨reg_nodup, by simp, fun a ha b hb => by
        rw [List.mem_singleton.1 hb]; rintro rfl; exact hne ha⟩
  have step0 : (Ev.inp (.api (.evRegister e k)) :: [Out.ret 0].map Ev.out).foldlM Ivy.Mon.C08.step μ =
      .ok { μ with reg := μ.reg ++ [e], pendingReg := none } := by
    simp [Ivy.Mon.C08.step, alive, bind, Except.bind, pure, Except.pure]
  rcases api_evRegister_cases s e k with ⟨hc, he⟩ | ⟨hc, -, -, he⟩ | ⟨hc, -, -, he⟩ | ⟨hc, -, -, he⟩ <;>
    rw [he]
  · exact ⟨_, step0, Or.inr (reg rfl rfl rfl (kick.keep id id Or.inl Or.inl (by rw [hpc]; nofun)))⟩
  · exact ⟨_, step0, Or.inr (reg rfl rfl rfl (hk hc rfl))⟩
  · refine ⟨_, step0, Or.inr ?_⟩
    rw [rawRegisterCore_frame]
    exact reg rfl rfl rfl (hk hc rfl)
  · exact ⟨{ μ with pendingReg := none }, by simp [Ivy.Mon.C08.step, alive, bind, Except.bind, pure, Except.pure],
      Or.inr ⟨alive, rfl, reg_mem, reg_nodup, posted_nodup, posted_mem, hk hc rfl⟩⟩

/-- what `iv_event_unregister` leaves, in the views of this file: of the pending list, the two batches and the fields
`InvK` and `Kick` read; the kick goes with the last event only -/
structure EvUnreg (s : St) (e : EvId) (s' : St) : Prop where
  pending : s'.pending = s.pending.erase e
  evb : evb s'.stack = evb (s.stack.map (eraseEvent · e))
  batch : batchOf s'.stack = batchOf s.stack
  evs : s'.evs = upd s.evs e { (s.evs e) with registered := false }
  tasks : s'.tasks = s.tasks
  useRaw : s'.useRaw = s.useRaw
  method : s'.method = s.method
  eventCount : s'.eventCount = s.eventCount - 1
  notLast : s.eventCount - 1 ≠ 0 → s'.kickArmed = s.kickArmed ∧ s'.kickReg = s.kickReg ∧ s'.fds = s.fds

/-- `api_evUnregister_cases` seen that way -/
theorem evUnregister_view (s : St) (e : EvId) :
    ∃ s', api s (.evUnregister e) = (s', [Out.ret 0]) ∧ EvUnreg s e s' := by
  rcases api_evUnregister_cases s e with ⟨h0, he⟩ | ⟨h0, -, he⟩ | ⟨h0, -, he⟩ <;> rw [he]
  · exact ⟨_, rfl, rfl, rfl, batchOf_map _ (by simp) _, rfl, rfl, rfl, rfl, rfl, fun _ => ⟨rfl, rfl, rfl⟩⟩
  · exact ⟨_, rfl, rfl, rfl, batchOf_map _ (by simp) _, rfl, rfl, rfl, rfl, rfl, fun h => absurd h0 h⟩
  · rw [rawUnregisterCore_frame]
    exact ⟨_, rfl, rfl, evb_map _ (by simp) _, (batchOf_map _ (by simp) _).trans (batchOf_map _ (by simp) _), rfl,
      rfl, rfl, rfl, rfl, fun h => absurd h0 h⟩

theorem InvK.evUnregister {s : St} (hK : InvK s) (e : EvId) : InvK (api s (.evUnregister e)).1 := by
  obtain ⟨s', he, v⟩ := evUnregister_view s e
  rw [he]
  refine ⟨by rw [v.useRaw, v.method]; exact hK.ur_ep, fun hu h1 => ?_, fun hu h1 => ?_⟩ <;>
    obtain ⟨-, b2, b3⟩ := v.notLast (by rw [v.eventCount] at h1; omega)
  · rw [b2]; exact hK.kreg (v.useRaw ▸ hu) (by rw [v.eventCount] at h1; omega)
  · rw [b3]; exact hK.hin0 (v.useRaw ▸ hu) (by rw [v.eventCount] at h1; omega)

/-- `iv_event_unregister`: the event leaves the monitor's sets and the machine's lists; what is still pending keeps
its wake-up source, because the kick goes away only with the last registered event -/
theorem stepE_evUnregister {μ : M} {s : St} (e : EvId) (hI : MInv s) (hI' : MInv (api s (.evUnregister e)).1)
    (hE : InvE μ s) (hpc : s.pc = .user) :
    ∃ μ', (Ev.inp (.api (.evUnregister e)) :: (api s (.evUnregister e)).2.map Ev.out).foldlM Ivy.Mon.C08.step μ = .ok μ' ∧
      (μ'.dead = true ∨ InvE μ' (api s (.evUnregister e)).1) := by
  obtain ⟨alive, pend, reg_mem, reg_nodup, posted_nodup, posted_mem, kick⟩ := hE
  obtain ⟨hnp, hnb, -⟩ := List.nodup_append.1
    (show (s.pending ++ evb s.stack).Nodup from evb_eq_allEvents _ ▸ hI.core.ev.1)
  obtain ⟨s', he, v⟩ := evUnregister_view s e
  rw [he] at hI' ⊢
  refine ⟨{ μ with reg := μ.reg.erase e, posted := μ.posted.erase e, pendingReg := none },
      by simp [Ivy.Mon.C08.step, alive, bind, Except.bind, pure, Except.pure],
      Or.inr ⟨alive, rfl, fun x => ?_, reg_nodup.erase e, posted_nodup.erase e, fun x => ?_, ?_⟩⟩
  · show x ∈ μ.reg.erase e ↔ _
    rw [reg_nodup.mem_erase_iff, reg_mem, v.evs, upd_apply]
    split <;> simp_all
  · show x ∈ μ.posted.erase e ↔ _
    rw [posted_nodup.mem_erase_iff, posted_mem, v.pending, v.evb, hnp.mem_erase_iff, mem_evb_eraseEvent hnb,
      and_or_left]
  · cases hp : s'.pending with
    | nil => exact .pending_nil hp
    | cons x l =>
      have : 1 ≤ s'.eventCount :=
        count_pos hI' (events_registered hI' (Or.inl (by rw [hp]; exact List.mem_cons_self)))
      have := v.eventCount
      exact kick.keep (fun h => by rw [v.pending, h]; rfl) (fun h => v.useRaw.trans h)
        (by rw [v.tasks, v.batch]; exact Or.inl) (by rw [(v.notLast (by omega)).1]; exact Or.inl) (by rw [hpc]; nofun)

theorem InvE.post {μ : M} {s s' : St} (hE : InvE μ s) (e : EvId) (hnot : ¬ (e ∈ s.pending ∨ e ∈ evb s.stack))
    (hp : s'.pending = s.pending ++ [e]) (hevb : evb s'.stack = evb s.stack) (hevs : s'.evs = s.evs)
    (hk : Kick s') : InvE { μ with posted := μ.posted ++ [e], pendingReg := none } s' := by
  obtain ⟨alive, pend, reg_mem, reg_nodup, posted_nodup, posted_mem, -⟩ := hE
  refine ⟨alive, rfl, fun x => by rw [hevs]; exact reg_mem x, reg_nodup, ?_, fun x => ?_, hk⟩
  · exact List.nodup_append.2 ⟨posted_nodup, by simp, fun a ha b hb => by
      rw [List.mem_singleton.1 hb]; rintro rfl; exact hnot ((posted_mem a).1 ha)⟩
  · show x ∈ μ.posted ++ [e] ↔ _
    rw [hp, hevb, List.mem_append, List.mem_append, posted_mem, or_right_comm]

theorem stepE_evPost {μ : M} {s : St} (e : EvId) (hE : InvE μ s) (hpc : s.pc = .user)
    (hreg : (s.evs e).registered = true) :
    ∃ μ', (Ev.inp (.api (.evPost e)) :: (api s (.evPost e)).2.map Ev.out).foldlM Ivy.Mon.C08.step μ = .ok μ' ∧
      (μ'.dead = true ∨ InvE μ' (api s (.evPost e)).1) := by
  have h1 := hE.alive
  have h2 := hE.pend
  have hr : e ∈ μ.reg := (hE.reg_mem e).2 hreg
  have hp : s.pc ≠ .run .runEvents := by rw [hpc]; nofun
  have hstep : evOnList s e = false → ∀ s' : St,
      InvE { μ with posted := μ.posted ++ [e], pendingReg := none } s' →
      ∃ μ', (Ev.inp (.api (.evPost e)) :: ([] : List Out).map Ev.out).foldlM Ivy.Mon.C08.step μ = .ok μ' ∧
        (μ'.dead = true ∨ InvE μ' s') := fun hon s' h =>
    have hnp : e ∉ μ.posted := fun h =>
      Bool.noConfusion (hon.symm.trans ((evOnList_iff s e).2 ((hE.posted_mem e).1 h)))
    ⟨_, by simp [Ivy.Mon.C08.step, h1, hr, hnp, pure, Except.pure, bind, Except.bind], Or.inr h⟩
  have hnot : evOnList s e = false → ¬ (e ∈ s.pending ∨ e ∈ evb s.stack) := fun hon h =>
    Bool.noConfusion (hon.symm.trans ((evOnList_iff s e).2 h))
  rcases api_evPost_cases s e with ⟨hon, eq⟩ | ⟨hon, -, -, eq⟩ | ⟨hon, hc, eq⟩ <;> rw [eq]
  · have hp : e ∈ μ.posted := (hE.posted_mem e).2 ((evOnList_iff s e).1 hon)
    refine ⟨μ, ?_, Or.inr hE⟩
    simp [Ivy.Mon.C08.step, h1, hr, hp, pure, Except.pure, bind, Except.bind]
    cases μ; simp_all
  · -- the deferred task is registered now
    have q := (taskRegisterCore_calm { s with pending := s.pending ++ [e] } 0 hp).2
    refine hstep hon _ (hE.post e (hnot hon) q.pending q.evb (by rw [taskRegisterCore_frame]) ?_)
    rcases taskRegisterCore_cases { s with pending := s.pending ++ [e] } 0 with e' | ⟨hin, -, e'⟩ <;> rw [e']
    · exact .onTasks (by simp)
    · exact .inBatch ((mem_batchOf_appendTask _ _ _).2 (.inr ⟨rfl, hin⟩))
  · -- it is on a list already, or the pending list was not empty and keeps its wake-up source
    refine hstep hon _ (hE.post e (hnot hon) rfl rfl rfl ?_)
    rcases hc with hpe | ht
    · exact hE.kick.keep (fun h => absurd h hpe) id Or.inl Or.inl hp
    · exact (List.mem_append.1 ((ProofsC01.taskOnList_iff { s with pending := s.pending ++ [e] } 0).1 ht)).elim .onTasks
        fun h => .inBatch (batchOf_eq_allTasks _ ▸ h)

theorem stepE_xpost {μ : M} {s : St} {e : EvId} {r : St × List Out} {abs : Option TS} {km : Bool} (hE : InvE μ s)
    (hpc : s.pc = .waiting abs km) (hreg : (s.evs e).registered = true) (hi : input s (.xpost e) = some r) :
    ∃ μ', (Ev.inp (.xpost e) :: r.2.map Ev.out).foldlM Ivy.Mon.C08.step μ = .ok μ' ∧
      (μ'.dead = true ∨ InvE μ' r.1) := by
  have h1 := hE.alive
  have h2 := hE.pend
  have hr : e ∈ μ.reg := (hE.reg_mem e).2 hreg
  simp only [input, hpc] at hi
  split at hi
  · next hon =>
    cases hi
    have hp : e ∈ μ.posted := (hE.posted_mem e).2 ((evOnList_iff s e).1 hon)
    exact ⟨μ, by simp [Ivy.Mon.C08.step, h1, hr, hp, pure, Except.pure, bind, Except.bind], Or.inr hE⟩
  · next hon =>
    cases hi
    have hnot := fun h => hon ((evOnList_iff s e).2 h)
    have hnp : e ∉ μ.posted := fun h => hnot ((hE.posted_mem e).1 h)
    refine ⟨{ μ with posted := μ.posted ++ [e], pendingReg := none }, ?_, Or.inr ?_⟩
    · simp [Ivy.Mon.C08.step, h1, hr, hnp, pure, Except.pure, bind, Except.bind]
      cases μ; simp_all
    · dsimp only
      split
      · -- the first post arms the one-shot kick
        exact hE.post e hnot rfl rfl rfl (.armed rfl)
      · next hc =>
        refine hE.post e hnot rfl rfl rfl ?_
        simp only [Bool.and_eq_true, Bool.not_eq_true', not_and, Bool.not_eq_false, List.isEmpty_iff] at hc
        by_cases hpe : s.pending = []
        · exact .useRaw (hc hpe)
        · exact hE.kick.keep (fun h => absurd h hpe) id Or.inl Or.inl (by rw [hpc]; nofun)

/-- the one-shot kick is disarmed only by a reported kick, which also makes the loop run the pending events -/
theorem afterWait_calm {s : St} {abs : Option TS} {km : Bool} (r : WRes) (hpc : s.pc = .waiting abs km) :
    Calm s (afterWait s abs km r).1 ∧ (afterWait s abs km r).2.all harmless = true := by
  have hp : s.pc ≠ .run .runEvents := by rw [hpc]; nofun
  by_cases hr : r = .enosys
  · have h := afterWait_enosys_cases s abs km
    rw [hr]
    generalize afterWait s abs km .enosys = x at h ⊢
    cases h with
    | retry | fatal => exact ⟨calm_of_frE (FrE.of_eq rfl rfl rfl) hp, rfl⟩
    | pollTime hm | pollWait hm =>
      -- `ppoll` falls back to `poll`: both are poll methods
      exact ⟨⟨⟨rfl, by rw [hm]; rfl, rfl, rfl, rfl⟩, QE.of_eq rfl (fun _ => rfl) hp⟩, rfl⟩
  · obtain ⟨fds, ka, kt, active, rt, runEv, b, w⟩ := afterWait_wake s abs km hr
    rw [w.eq]
    have h0 : (fds (rawFd 0)).hin = (s.fds (rawFd 0)).hin := by rw [w.obj]
    refine ⟨⟨⟨rfl, rfl, rfl, rfl, h0⟩, rfl, rfl, fun _ => rfl, fun h => h.keep id id Or.inl (fun hk => ?_) hp⟩,
      rfl⟩
    rcases w.next with ⟨-, rfl⟩ | ⟨hr', rfl⟩
    · exact Or.inr rfl
    · exact Or.inl ((w.kick hr').trans hk)

/-- the user frees or initialises the memory of an object that is not registered: not the descriptor of the kick raw
event, and no registered event -/
theorem memObj_calm {s : St} {k id : Nat} (hun : unregisteredObj s k id = true) (hpc : s.pc = .user) :
    Calm s (freeObj s k id) ∧ Calm s (initObj s k id) := by
  have hp : s.pc ≠ .run .runEvents := by rw [hpc]; nofun
  unfold unregisteredObj at hun
  unfold freeObj initObj
  split
  · have h1 : id < 1000 ∧ (s.fds id).registered = false := by simpa using hun
    have hh : ∀ o, ((upd s.fds id o) (rawFd 0)).hin = (s.fds (rawFd 0)).hin :=
      fun o => by rw [upd_ne _ _ (rawFd_ne h1.1)]
    exact ⟨⟨⟨rfl, rfl, rfl, rfl, hh _⟩, QE.of_eq rfl (fun _ => rfl) hp⟩, ⟨rfl, rfl, rfl, rfl, hh _⟩,
      QE.of_eq rfl (fun _ => rfl) hp⟩
  · exact ⟨⟨KF.of_eq rfl, QE.of_eq rfl (fun _ => rfl) hp⟩, KF.of_eq rfl, QE.of_eq rfl (fun _ => rfl) hp⟩
  · exact ⟨⟨KF.of_eq rfl, QE.of_eq rfl (fun _ => rfl) hp⟩, KF.of_eq rfl, QE.of_eq rfl (fun _ => rfl) hp⟩
  · have hr : (s.evs id).registered = false := by simpa using hun
    have he : ∀ o : EvObj, o.registered = false → ∀ x, ((upd s.evs id o) x).registered = (s.evs x).registered :=
      fun o ho x => by
        rw [upd_apply]
        split
        · next h => rw [h, ho, hr]
        · rfl
    exact ⟨⟨KF.of_eq rfl, QE.of_eq rfl (he _ hr) hp⟩, KF.of_eq rfl, QE.of_eq rfl (he _ rfl) hp⟩
  · exact ⟨⟨KF.of_eq rfl, QE.of_eq rfl (fun _ => rfl) hp⟩, KF.of_eq rfl, QE.of_eq rfl (fun _ => rfl) hp⟩

theorem step_input {μ : M} {s : St} {i : Input} {r : St × List Out} (hI : MInv s) (hI' : MInv r.1) (hK : InvK s)
    (hE : InvE μ s) (henv : envOk s i = true) (hi : input s i = some r) :
    ∃ μ', (Ev.inp i :: r.2.map Ev.out).foldlM Ivy.Mon.C08.step μ = .ok μ' ∧
      (μ'.dead = true ∨ InvK r.1 ∧ InvE μ' r.1) := by
  have quiet : ∀ {s' : St} {outs : List Out}, Calm s s' → outs.all harmless = true →
      posting i = false → ∃ μ', (Ev.inp i :: outs.map Ev.out).foldlM Ivy.Mon.C08.step μ = .ok μ' ∧
        (μ'.dead = true ∨ InvK s' ∧ InvE μ' s') :=
    fun c hh hp => c.pass hK hE hh (pre := [.inp i]) fun e h => by
      rw [List.mem_singleton.1 h]; exact step_inp_other μ i hE.alive hE.pend hp
  cases input_inv hi with
  | api a hpc =>
    simp only [envOk, Bool.and_eq_true] at henv
    have h0 := ProofsC02.evc_nonneg hI.fd.evcount
    by_cases hq : quietApi a = true
    · obtain ⟨c, hh⟩ := calm_api hI hq hpc henv.1
      exact quiet c hh (by cases a <;> first | rfl | cases hq)
    · cases a <;> simp only [quietApi] at hq <;> try (exact absurd trivial hq)
      · exact withK (hK.evRegister h0 _ _) (stepE_evRegister _ hI hE hpc (by simpa [apiOk] using henv.1))
      · exact withK (hK.evUnregister _) (stepE_evUnregister _ hI hI' hE hpc)
      · refine withK (hK.frame ?_) (stepE_evPost _ hE hpc (by simpa [apiOk] using henv.1))
        simp only [api]
        split
        · exact KF.of_eq rfl
        · split
          · exact KF.of_eq (taskRegisterCore_frame ..)
          · exact KF.of_eq rfl
  | wret abs km r hpc =>
    obtain ⟨c, hh⟩ := afterWait_calm r hpc
    exact quiet c hh rfl
  | free k id hpc => exact quiet (memObj_calm henv hpc).1 rfl rfl
  | init k id hpc => exact quiet (memObj_calm henv hpc).2 rfl rfl
  | time t k hpc =>
    cases k <;> exact quiet (calm_of_frE (FrE.of_eq rfl rfl rfl) (by rw [hpc]; nofun)) rfl rfl
  | xpostNop abs km e hpc | xpost abs km e ka hpc =>
    simp only [envOk, Bool.and_eq_true] at henv
    exact withK (hK.frame (KF.of_eq rfl)) (stepE_xpost hE hpc henv.1 hi)
  | handlerEnd b hpc hb | rawGoto r okk b hpc hb | rawFault r okk msg hpc | rawCb r okk hpc =>
    exact quiet (calm_of_frE (FrE.of_eq rfl rfl rfl) (by rw [hpc]; nofun)) rfl rfl

theorem monitor_accepts (m : Method) (ntimers : Nat) (timerfdAvail pwait2 : Bool)
    (evs : List Ev) (s' : St) (h : Exec (St.init m ntimers timerfdAvail pwait2) evs s') :
    Ivy.Mon.C08.verdict evs = none := by
  obtain ⟨μ', e⟩ := exec_simulation_dead (dead := fun μ => μ.dead = true) (C := fun μ s => InvK s ∧ InvE μ s)
    step_dead
    (fun hI _ ⟨hK, hE⟩ hpc => step_internal hI hK hE hpc)
    (fun hI hI' ⟨hK, hE⟩ henv hi => step_input hI hI' hK hE henv hi)
    h (MInv.init ..) (μ := {})
    ⟨⟨nofun, fun _ (h : 1 ≤ 0) => absurd h (by decide), nofun⟩,
      ⟨rfl, rfl, by simp [St.init], List.nodup_nil, List.nodup_nil, by simp [St.init], .pending_nil rfl⟩⟩
  unfold Ivy.Mon.C08.verdict runMon
  rw [e]

/-! ## a fact no proof of this file uses: `iv_fd_timeout_check` leaves the `pollfd` array alone -/

@[simp] theorem timeoutCheck_pfds (s : St) (abs : Option TS) : ((timeoutCheck s abs).1).pfds = s.pfds := by
  rw [timeoutCheck_frame]

/-! ## three traces of the machine (a foreign post under epoll and under poll, a post deferred past a zero-timeout
poll), accepted by the theorem; and two traces the monitor rejects -/

def isEventCb : Ev → Bool
  | .out (.cb (.event _)) => true
  | _ => false

def isWait : Ev → Bool
  | .out (.wait ..) => true
  | _ => false

/-- an unbounded wait entered with the one-shot kick armed in the kernel -/
def isKickWait : Ev → Bool
  | .out (.wait _ .inf _ _ (some true)) => true
  | _ => false

/-- an unbounded wait (poll methods: no one-shot kick) that watches the kick raw event's descriptor for input -/
def isRawWait : Ev → Bool
  | .out (.wait _ .inf interest _ none) => Ivy.Mon.C08.kickFdWatched interest
  | _ => false

def isZeroWait : Ev → Bool
  | .out (.wait _ (.ns 0) _ _ _) => true
  | .out (.wait _ (.ms 0) _ _ _) => true
  | _ => false

/-- epoll: a foreign thread posts event 1 while the owner sleeps (the kick gets armed); the wait returns without
reporting the kick, and the loop sleeps again with the event posted and the kick armed; then the kick is
reported, the handler runs, posts its own event again (deferred `events_local` task), runs again and quits -/
def demoInputs1 : List Input :=
  [.api (.evRegister 1 true), .api (.fdRegister 3 true false false), .api .main,
   .xpost 1, .wret (.events []), .wret (.events [.kick]),
   .api (.evPost 1), .handlerEnd, .api .quit, .handlerEnd]

/-- poll: the same foreign post; the loop sleeps again with the event posted while watching the kick raw event's
descriptor, which is then reported readable; the raw read succeeds and the handler runs -/
def demoInputs2 : List Input :=
  [.api (.evRegister 1 true), .api .main,
   .xpost 1, .wret (.events []), .wret (.events [.fd (rawFd 0) ⟨true, false, false, false⟩]), .rawRead true,
   .api .quit, .handlerEnd]

/-- the owner posts before `iv_main`; the handler (run from the `events_local` task) posts the event again, which
defers `events_local` past the next poll: the loop polls with a zero timeout while the event is posted -/
def demoInputs3 : List Input :=
  [.api (.evRegister 1 true), .api (.evPost 1), .api .main,
   .api (.evPost 1), .handlerEnd, .time ⟨5, 0⟩, .wret (.events []), .api (.evUnregister 1), .handlerEnd]

def demoTrace1 := runTrace 200 (St.init .epoll 0 true true) demoInputs1
def demoTrace2 := runTrace 200 (St.init .poll 0 true true) demoInputs2
def demoTrace3 := runTrace 200 (St.init .epoll 0 true true) demoInputs3

theorem demo1_exec : Exec (St.init .epoll 0 true true) demoTrace1.1 demoTrace1.2 := runTrace_exec _ _ _
theorem demo2_exec : Exec (St.init .poll 0 true true) demoTrace2.1 demoTrace2.2 := runTrace_exec _ _ _
theorem demo3_exec : Exec (St.init .epoll 0 true true) demoTrace3.1 demoTrace3.2 := runTrace_exec _ _ _

/-- two handler runs, two waits, the second one entered with the kick armed -/
example : (demoTrace1.1.filter isEventCb).length = 2 ∧ (demoTrace1.1.filter isWait).length = 2 ∧
    (demoTrace1.1.filter isKickWait).length = 1 := by decide

/-- one handler run, two unbounded waits watching the kick raw event's descriptor (the second one with the event
posted) -/
example : (demoTrace2.1.filter isEventCb).length = 1 ∧ (demoTrace2.1.filter isWait).length = 2 ∧
    (demoTrace2.1.filter isRawWait).length = 2 := by decide

/-- two handler runs with a zero-timeout poll in between -/
example : (demoTrace3.1.filter isEventCb).length = 2 ∧ (demoTrace3.1.filter isWait).length = 1 ∧
    (demoTrace3.1.filter isZeroWait).length = 1 := by decide

example : Ivy.Mon.C08.verdict demoTrace1.1 = none := monitor_accepts _ _ _ _ _ _ demo1_exec
example : Ivy.Mon.C08.verdict demoTrace2.1 = none := monitor_accepts _ _ _ _ _ _ demo2_exec
example : Ivy.Mon.C08.verdict demoTrace3.1 = none := monitor_accepts _ _ _ _ _ _ demo3_exec

/-- the monitor is not trivially accepting: a blocking wait with a posted event and no wake-up source, and a
handler entered without a post, are rejected -/
example : (Ivy.Mon.C08.verdict [.inp (.api (.evRegister 1 true)), .out (.ret 0), .inp (.api (.evPost 1)),
    .out (.wait "poll" .inf [] none none)]).isSome = true := by decide
example : (Ivy.Mon.C08.verdict [.inp (.api (.evRegister 1 true)), .out (.ret 0),
    .out (.cb (.event 1))]).isSome = true := by decide

end Ivy.L1.ProofsC08loop
