import Ivy.Mon.C02
import Ivy.L1.FdBook
import Ivy.L1.MInv
/-!
# C02 — proof that every L1 trace is accepted by the monitor `Ivy.Mon.C02`

The relation given to `exec_simulation_dead` is `Good μ s`; a step re-establishes `R μ s`: `μ.dead` (absorbing: the
machine died on `iv_fatal` or a fault), or `Good μ s`.  Of `Good` only five clauses tie the monitor to the machine:
the monitor is alive, holds no ground truth and no pending call, its book lists exactly the registered user
descriptors with their handlers (`BInv`), and every band it still owes is registered, has its handler, is ready and
will be visited by the dispatch loop (`OwedOk`/`Cover`).  The other clauses speak of the machine alone and are read off
`MInv` of the same state (`Good.of`), so each step only has to follow the book and the owed list: through the
descriptors' registration, handlers and ready bits, `handled`, and the dispatch frames of the stack.  At a wait the
interest set is what the handlers say (`FdInv.interestOk`), and the stack is empty there and at the exit check
(the branches `wait` and `exit` of `Step`), so nothing is owed (`owed_nil`).
-/
namespace Ivy.L1.ProofsC02
open Ivy.L1 Ivy.Mon Ivy.Mon.C02
open Ivy.Heap (TS)

/-! ## what the monitor reads of a descriptor: its bands by number, registration, handlers and ready bits -/

def bit (r : Bands) : Nat → Bool
  | 0 => r.e
  | 1 => r.i
  | _ => r.o

def hbit (o : FdObj) : Nat → Bool
  | 0 => o.herr
  | 1 => o.hin
  | _ => o.hout

theorem bandHeld_eq (ev : KEv) (b : Nat) : bandHeld ev b = bit (bandsOfKEv ev) b := by
  match b with
  | 0 => simp [bandHeld, bit, bandsOfKEv]
  | 1 => simp [bandHeld, bit, bandsOfKEv]
  | n + 2 => simp [bandHeld, bit, bandsOfKEv]

theorem bit_get (r : Bands) (n : Nat) : r.get n = bit r n := by
  match n with
  | 0 => rfl
  | 1 => rfl
  | _ + 2 => rfl

theorem hbit_handler (o : FdObj) (n : Nat) : o.handler n = hbit o n := by
  match n with
  | 0 => rfl
  | 1 => rfl
  | _ + 2 => rfl

/-- what the book and the owed entries read of a descriptor object -/
abbrev SameView (o o' : FdObj) : Prop :=
  o'.registered = o.registered ∧ o'.hin = o.hin ∧ o'.hout = o.hout ∧ o'.herr = o.herr ∧ o'.ready = o.ready

theorem SameView.refl (o : FdObj) : SameView o o := ⟨rfl, rfl, rfl, rfl, rfl⟩

theorem hbit_congr {o o' : FdObj} (h : SameView o o') (n : Nat) : hbit o' n = hbit o n := by
  unfold hbit
  rw [h.2.1, h.2.2.1, h.2.2.2.1]

def viewEq (fds fds' : FdId → FdObj) (g : FdId) : Prop :=
  (fds' g).registered = (fds g).registered ∧ (fds' g).hin = (fds g).hin ∧ (fds' g).hout = (fds g).hout ∧
  (fds' g).herr = (fds g).herr

theorem SameView.viewEq {fds fds' : FdId → FdObj} {g : FdId} (h : SameView (fds g) (fds' g)) : viewEq fds fds' g :=
  ⟨h.1, h.2.1, h.2.2.1, h.2.2.2.1⟩

theorem view_at {fds fds' : FdId → FdObj} {f : FdId} {o1 : FdObj} (hv : ∀ g, SameView (upd fds f o1 g) (fds' g)) :
    (∀ g, g ≠ f → SameView (fds g) (fds' g)) ∧ SameView o1 (fds' f) :=
  ⟨fun g hg => by have := hv g; rwa [upd_ne _ _ hg] at this, by have := hv f; rwa [upd_same] at this⟩

/-! ## the book of `Mon.C02` lists the registered user descriptors with their handlers (`BInv`) -/

structure BInv (regd : List FdView) (fds : FdId → FdObj) : Prop where
  sound : ∀ v ∈ regd, v.f < 1000 ∧ (fds v.f).registered = true ∧ v.hin = (fds v.f).hin ∧
    v.hout = (fds v.f).hout ∧ v.herr = (fds v.f).herr
  complete : ∀ f, f < 1000 → (fds f).registered = true → ∃ v ∈ regd, v.f = f

theorem find_of_reg {bk : FdBook} {fds : FdId → FdObj} (hb : BInv bk.regd fds) {f : FdId} (hf : f < 1000)
    (hr : (fds f).registered = true) :
    ∃ v, bk.find f = some v ∧ v.f = f ∧ v.hin = (fds f).hin ∧ v.hout = (fds f).hout ∧ v.herr = (fds f).herr := by
  cases h : bk.find f with
  | none =>
    obtain ⟨v, hv, hvf⟩ := hb.complete f hf hr
    exact absurd hvf (FdBook.find_none h v hv)
  | some v =>
    obtain ⟨hv, hvf⟩ := FdBook.find_some h
    have := hb.sound v hv
    subst hvf
    exact ⟨v, rfl, rfl, this.2.2⟩

theorem find_of_unreg {bk : FdBook} {fds : FdId → FdObj} (hb : BInv bk.regd fds) {f : FdId}
    (hr : ¬ (f < 1000 ∧ (fds f).registered = true)) : bk.find f = none := by
  cases h : bk.find f with
  | none => rfl
  | some v =>
    obtain ⟨hv, hvf⟩ := FdBook.find_some h
    have := hb.sound v hv
    subst hvf
    exact absurd ⟨this.1, this.2.1⟩ hr

theorem handler_eq {bk : FdBook} {fds : FdId → FdObj} (hb : BInv bk.regd fds) (f : FdId) (b : Nat) :
    bk.handler f b = (decide (f < 1000) && (fds f).registered && hbit (fds f) b) := by
  by_cases hr : f < 1000 ∧ (fds f).registered = true
  · obtain ⟨v, hv, _, h1, h2, h3⟩ := find_of_reg hb hr.1 hr.2
    rw [FdBook.handler_of_view hv h1 h2 h3, hr.2, decide_eq_true hr.1, hbit_handler]
    rfl
  · rw [FdBook.handler_of_find_none (find_of_unreg hb hr)]
    cases h2 : (fds f).registered with
    | false => simp
    | true => simp [show ¬ f < 1000 from fun h => hr ⟨h, h2⟩]

theorem BInv.same' {regd : List FdView} {fds fds' : FdId → FdObj} (hb : BInv regd fds)
    (hr : ∀ g, g < 1000 → (fds' g).registered = (fds g).registered)
    (h : ∀ g, g < 1000 → (fds g).registered = true →
      (fds' g).hin = (fds g).hin ∧ (fds' g).hout = (fds g).hout ∧ (fds' g).herr = (fds g).herr) :
    BInv regd fds' := by
  constructor
  · intro v hv
    have := hb.sound v hv
    have e := h v.f this.1 this.2.1
    have e' := hr v.f this.1
    grind
  · intro f hf hr'
    exact hb.complete f hf (by rw [← hr f hf]; exact hr')

theorem BInv.drop {bk : FdBook} {fds fds' : FdId → FdObj} (hb : BInv bk.regd fds) (f : FdId)
    (h : ∀ g, g ≠ f → viewEq fds fds' g) (hf : (fds' f).registered = false) : BInv (bk.drop f).regd fds' := by
  constructor
  · intro v hv
    obtain ⟨hv, hne⟩ := FdBook.mem_drop.1 hv
    have := hb.sound v hv
    have e := h v.f hne
    unfold viewEq at e
    grind
  · intro g hg hr
    have hgf : g ≠ f := by intro e; subst e; simp [hf] at hr
    have e := h g hgf
    unfold viewEq at e
    obtain ⟨v, hv, hvf⟩ := hb.complete g hg (by grind)
    exact ⟨v, FdBook.mem_drop.2 ⟨hv, by rw [hvf]; exact hgf⟩, hvf⟩

theorem BInv.put {bk : FdBook} {fds fds' : FdId → FdObj} (hb : BInv bk.regd fds) (v : FdView)
    (h : ∀ g, g ≠ v.f → viewEq fds fds' g) (hf : v.f < 1000) (hr : (fds' v.f).registered = true)
    (h1 : v.hin = (fds' v.f).hin) (h2 : v.hout = (fds' v.f).hout) (h3 : v.herr = (fds' v.f).herr) :
    BInv (bk.put v).regd fds' := by
  constructor
  · intro w hw
    rcases FdBook.mem_put.1 hw with ⟨hw, hne⟩ | rfl
    · have := hb.sound w hw
      have e := h w.f hne
      unfold viewEq at e
      grind
    · exact ⟨hf, hr, h1, h2, h3⟩
  · intro g hg hrg
    by_cases hgf : g = v.f
    · exact ⟨v, FdBook.mem_put.2 (.inr rfl), hgf.symm⟩
    · have e := h g hgf
      unfold viewEq at e
      obtain ⟨w, hw, hwf⟩ := hb.complete g hg (by grind)
      exact ⟨w, FdBook.mem_put.2 (.inl ⟨hw, by rw [hwf]; exact hgf⟩), hwf⟩

/-! ## the frame stack: the descriptors still to be dispatched (`activeOf`) and the one that is (`curOf`) -/

def kind : Frame → Nat
  | .timers _ => 0
  | .tasks _ => 1
  | .poll _ _ => 2
  | .fd _ _ => 3
  | .events _ => 4

def kinds (st : List Frame) : List Nat := st.map kind

def wfk (l : List Nat) : Bool :=
  decide (l ∈ [[], [0], [1], [4, 1], [2], [4, 2], [3, 2], [4, 3, 2]])

def midk (l : List Nat) : Bool := decide (l ∈ [[1], [2], [3, 2]])

def shapeOk (pc : Pc) (st : List Frame) : Bool :=
  match pc with
  | .run (.mainTop _) | .run .collect | .run .startTasks | .run .exitCheck | .run .prepWait
  | .run (.flush _ _) | .run (.wait _ _) | .needTime .forTimers | .needTime (.forWait _ _)
  | .waiting _ _ => decide (kinds st = [])
  | .run .runEvents | .run .resume => midk (kinds st)
  | .needRawRead _ => decide (kinds st = [3, 2])
  | .dead => true
  | _ => wfk (kinds st)

def activeOf : List Frame → List FdId
  | [] => []
  | fr :: rest => match fr with
    | .poll a _ => a
    | _ => activeOf rest

def curOf : List Frame → Option (FdId × Nat)
  | [] => none
  | fr :: rest => match fr with
    | .fd c st => some (c, st)
    | _ => curOf rest

theorem activeOf_cons {fr : Frame} (h : kind fr ≠ 2) (rest : List Frame) : activeOf (fr :: rest) = activeOf rest := by
  cases fr <;> first | rfl | exact absurd rfl h

theorem curOf_cons {fr : Frame} (h : kind fr ≠ 3) (rest : List Frame) : curOf (fr :: rest) = curOf rest := by
  cases fr <;> first | rfl | exact absurd rfl h

theorem activeOf_map (g : Frame → Frame) (hg : ∀ fr, kind (g fr) = kind fr)
    (hp : ∀ a rt, g (.poll a rt) = .poll a rt) (st : List Frame) : activeOf (st.map g) = activeOf st := by
  induction st with
  | nil => rfl
  | cons fr rest ih =>
    by_cases h : kind fr = 2
    · cases fr <;> first | (rw [List.map_cons, hp]; rfl) | cases h
    · rw [List.map_cons, activeOf_cons (by rw [hg]; exact h), activeOf_cons h, ih]

theorem curOf_map (g : Frame → Frame) (hg : ∀ fr, kind (g fr) = kind fr)
    (hp : ∀ c st, g (.fd c st) = .fd c st) (st : List Frame) : curOf (st.map g) = curOf st := by
  induction st with
  | nil => rfl
  | cons fr rest ih =>
    by_cases h : kind fr = 3
    · cases fr <;> first | (rw [List.map_cons, hp]; rfl) | cases h
    · rw [List.map_cons, curOf_cons (by rw [hg]; exact h), curOf_cons h, ih]

theorem kind_eraseActive (f : FdId) (fr : Frame) : kind (eraseActive fr f) = kind fr := by cases fr <;> rfl
theorem kind_eraseTask (f : TaskId) (fr : Frame) : kind (eraseTask fr f) = kind fr := by cases fr <;> rfl
theorem kind_appendTaskBatch (f : TaskId) (fr : Frame) : kind (appendTaskBatch fr f) = kind fr := by cases fr <;> rfl
theorem kind_eraseEvent (f : EvId) (fr : Frame) : kind (eraseEvent fr f) = kind fr := by cases fr <;> rfl
theorem kind_setTimerBatch (b : List Nat) (fr : Frame) : kind (setTimerBatch fr b) = kind fr := by cases fr <;> rfl

theorem activeOf_eraseActive (f : FdId) (st : List Frame) :
    activeOf (st.map (eraseActive · f)) = (activeOf st).erase f := by
  induction st with
  | nil => rfl
  | cons fr rest ih => cases fr <;> simp_all [activeOf, eraseActive]

theorem curOf_eraseActive (f : FdId) (st : List Frame) : curOf (st.map (eraseActive · f)) = curOf st :=
  curOf_map _ (kind_eraseActive f) (fun _ _ => rfl) st

/-! ## the relation `Good`, and how it is had again after a step -/

/-- the owed entry `p` is still going to be visited by the dispatch loop -/
def Cover (s : St) (p : FdId × Nat) : Prop :=
  p.1 ∈ activeOf s.stack ∨ ∃ st, curOf s.stack = some (p.1, st) ∧ s.handled = some p.1 ∧ st ≤ p.2

structure OwedOk (s : St) (p : FdId × Nat) : Prop where
  lt : p.1 < 1000
  band : p.2 ≤ 2
  reg : (s.fds p.1).registered = true
  hset : hbit (s.fds p.1) p.2 = true
  rdy : bit (s.fds p.1).ready p.2 = true
  cov : Cover s p

structure Good (μ : M) (s : St) : Prop where
  ndead : μ.dead = false
  gt : μ.gt = []
  pend : μ.book.pending = none
  book : BInv μ.book.regd s.fds
  fin : if s.method.isEpoll = true then EInv s.fds s.notify s.kint else PInv s.fds s.pfds
  univ : ∀ f, (s.fds f).registered = true → f < 1000 → f < 64
  flushed : s.method.isEpoll = true → pcFlushed s.pc = true → s.notify = []
  shape : shapeOk s.pc s.stack = true
  owed : ∀ p ∈ μ.owed, OwedOk s p
  rawsync : ∀ r, (s.fds (rawFd r)).registered = (s.raws r).registered
  evcount : ∃ l : List EvId, l.Nodup ∧ (∀ e, (s.evs e).registered = true ↔ e ∈ l) ∧ s.eventCount = (l.length : Int)
  raw0 : (s.raws 0).registered = true → s.eventCount ≥ 1 ∧ s.useRaw = true

def R (μ : M) (s : St) : Prop := μ.dead = true ∨ Good μ s

theorem Cover.same {s s' : St} {p : FdId × Nat} (hst : s'.stack = s.stack) (hh : s'.handled = s.handled)
    (h : Cover s p) : Cover s' p := by
  simpa only [Cover, hst, hh] using h

theorem OwedOk.of_same {s s' : St} {p : FdId × Nat} (h : OwedOk s p)
    (hv : SameView (s.fds p.1) (s'.fds p.1)) (hc : Cover s' p) : OwedOk s' p := by
  obtain ⟨a, b, c, d, e, -⟩ := h
  refine ⟨a, b, by rw [hv.1]; exact c, ?_, by rw [hv.2.2.2.2]; exact e, hc⟩
  unfold hbit at d ⊢
  rw [hv.2.1, hv.2.2.1, hv.2.2.2.1]
  exact d

theorem wfk4_eq (l : List Nat) : wfk (4 :: l) = midk l := by simp [wfk, midk]

theorem shapeOk_of_shape {pc : Pc} {st : List Frame} {hd : Option FdId} (h : ProofsC01.Shape pc st hd) :
    shapeOk pc st = true := by
  have base : ∀ {st}, ProofsC01.Base st → midk (kinds st) = true := by
    rintro st (⟨r, rfl⟩ | ⟨a, rt, rfl⟩ | ⟨c, n, a, rt, rfl, -⟩) <;> rfl
  have user : ∀ {st}, ProofsC01.UserSt st → wfk (kinds st) = true := by
    rintro st (rfl | ⟨r, rfl⟩ | ⟨r, rfl⟩ | ⟨c, n, a, rt, rfl, -⟩ | ⟨b, rest, rfl, hb⟩)
    · rfl
    · rfl
    · rfl
    · rfl
    · exact (wfk4_eq _).trans (base hb)
  cases pc with
  | user => exact user h
  | needTime k => cases k <;> first | exact user h | exact decide_eq_true (congrArg kinds (show st = [] from h))
  | waiting => exact decide_eq_true (congrArg kinds (show st = [] from h))
  | needRawRead r => obtain ⟨n, a, rt, rfl, -⟩ := h; rfl
  | dead => rfl
  | run b =>
    cases b
    case popTimer => obtain ⟨r, rfl⟩ := h; rfl
    case popTask => obtain ⟨r, rfl⟩ := h; rfl
    case runEvents | resume => exact base h
    case popEvent => obtain ⟨b, rest, rfl, hb⟩ := h; exact (wfk4_eq _).trans (base hb)
    case dispatchNext => obtain ⟨a, rt, rfl⟩ := h; rfl
    case fdStage => obtain ⟨c, n, a, rt, rfl⟩ := h; rfl
    all_goals exact decide_eq_true (congrArg kinds (show st = [] from h))

/-- the relation is the correspondence — `ndead`, `gt`, `pend`, `book`, `owed` — and what `MInv` says of the state -/
theorem Good.of {μ : M} {s : St} (hI : MInv s) (ndead : μ.dead = false) (gt : μ.gt = [])
    (pend : μ.book.pending = none) (book : BInv μ.book.regd s.fds) (owed : ∀ p ∈ μ.owed, OwedOk s p) : Good μ s :=
  ⟨ndead, gt, pend, book, hI.fd.fin, hI.fd.univ, hI.fd.flushed, shapeOk_of_shape hI.core.shape, owed,
    hI.core.raw.1, hI.fd.evcount, hI.core.raw.kick_iff.1⟩

theorem Good.keep {μ μ' : M} {s s' : St} (hG : Good μ s) (hI' : MInv s') (hd : μ'.dead = false) (hgt : μ'.gt = [])
    (hb : μ'.book = μ.book) (hr : ∀ g, g < 1000 → (s'.fds g).registered = (s.fds g).registered)
    (hh : ∀ g, g < 1000 → (s.fds g).registered = true →
      (s'.fds g).hin = (s.fds g).hin ∧ (s'.fds g).hout = (s.fds g).hout ∧ (s'.fds g).herr = (s.fds g).herr)
    (hO : ∀ p ∈ μ'.owed, OwedOk s' p) : Good μ' s' :=
  Good.of hI' hd hgt (hb ▸ hG.pend) (hb ▸ hG.book.same' hr hh) hO

theorem Good.step {μ μ' : M} {s s' : St} (hG : Good μ s) (hI' : MInv s') (hd : μ'.dead = false) (hgt : μ'.gt = [])
    (hb : μ'.book = μ.book) (hv : ∀ g, g < 1000 → SameView (s.fds g) (s'.fds g))
    (hO : ∀ p ∈ μ'.owed, p ∈ μ.owed ∧ (OwedOk s p → Cover s' p)) : Good μ' s' :=
  hG.keep hI' hd hgt hb (fun g hg => (hv g hg).1) (fun g hg _ => ⟨(hv g hg).2.1, (hv g hg).2.2.1, (hv g hg).2.2.2.1⟩)
    (fun p hp => ((hG.owed p (hO p hp).1).of_same (hv _ (hG.owed p (hO p hp).1).lt) ((hO p hp).2 (hG.owed p (hO p hp).1))))

theorem owed_nil {μ : M} {s : St} (hG : Good μ s) (hst : s.stack = []) : μ.owed = [] := by
  apply List.eq_nil_iff_forall_not_mem.2
  intro p hp
  have := (hG.owed p hp).cov
  simp [Cover, hst, activeOf, curOf] at this

/-! ## the monitor's steps -/

theorem step_dead (μ : M) (hd : μ.dead = true) (e : Ev) : C02.step μ e = .ok μ := by simp [C02.step, hd]

theorem fold_two (μ : M) (e1 e2 : Ev) :
    [e1, e2].foldlM C02.step μ = (C02.step μ e1 >>= fun m => C02.step m e2) := by
  simp [List.foldlM_cons]

theorem step_cb_other (μ : M) (hd : μ.dead = false) (c : Cb) (hc : ∀ f b, c ≠ .fd f b) :
    C02.step μ (.out (.cb c)) = .ok μ := by
  cases c with
  | fd f b => exact absurd rfl (hc f b)
  | _ => cases μ; simp_all [C02.step, FdBook.step]

theorem step_inp_plain (μ : M) (hd : μ.dead = false) (i : Input)
    (hi : match i with | .api _ | .wret _ => False | _ => True) : C02.step μ (.inp i) = .ok μ := by
  cases i with
  | api a => cases hi
  | wret r => cases hi
  | _ => cases μ; simp_all [C02.step, FdBook.step]

theorem step_wret_other (μ : M) (hd : μ.dead = false) (r : WRes) (hr : ∀ l, r ≠ .events l) :
    ∃ μ', C02.step μ (.inp (.wret r)) = .ok μ' ∧ μ'.dead = false ∧ μ'.gt = μ.gt ∧ μ'.book = μ.book ∧ μ'.owed = [] := by
  cases r with
  | events l => exact absurd rfl (hr l)
  | eintr =>
    refine ⟨{ μ with owed := [], inWait := false }, ?_, hd, rfl, rfl, rfl⟩
    simp [C02.step, hd, FdBook.step]
  | enosys =>
    refine ⟨{ μ with owed := [], inWait := false }, ?_, hd, rfl, rfl, rfl⟩
    simp [C02.step, hd, FdBook.step]

theorem step_wret_events (μ : M) (hd : μ.dead = false) (hgt : μ.gt = []) (l : List WItem) :
    ∃ μ', C02.step μ (.inp (.wret (.events l))) = .ok μ' ∧ μ'.dead = false ∧ μ'.gt = μ.gt ∧ μ'.book = μ.book ∧
      ∀ p ∈ μ'.owed, ∃ ev, WItem.fd p.1 ev ∈ l ∧ p.1 < 1000 ∧ p.2 ≤ 2 ∧ bandHeld ev p.2 = true ∧
        μ.book.handler p.1 p.2 = true := by
  refine ⟨{ μ with owed := (l.filterMap fun it => match it with | .fd f ev => some (f, ev) | _ => none).flatMap fun (f, ev) =>
          if f ≥ 1000 then [] else
          ([0, 1, 2].filter fun b => bandHeld ev b && μ.book.handler f b).map fun b => (f, b), inWait := false }, ?_, hd, rfl, rfl, ?_⟩
  · simp [C02.step, hd, hgt, FdBook.step]
    rfl
  · intro p hp
    simp only [List.mem_flatMap, List.mem_filterMap] at hp
    obtain ⟨⟨f, ev⟩, ⟨it, hit, hm⟩, hp⟩ := hp
    cases it with
    | fd f' ev' =>
      simp only [Option.some.injEq, Prod.mk.injEq] at hm
      obtain ⟨rfl, rfl⟩ := hm
      simp only at hp
      split at hp
      · simp at hp
      · next hlt =>
        simp only [List.mem_map, List.mem_filter, Bool.and_eq_true] at hp
        obtain ⟨b, ⟨hb1, hb2, hb3⟩, rfl⟩ := hp
        refine ⟨ev', hit, by simpa using hlt, ?_, hb2, hb3⟩
        simp only [List.mem_cons, List.not_mem_nil, or_false] at hb1
        rcases hb1 with rfl | rfl | rfl <;> simp
    | kick => simp at hm
    | ktimer => simp at hm

theorem step_api_other (μ : M) (hd : μ.dead = false) (hp : μ.book.pending = none) (a : Api)
    (ha : isFdApi a = false) : C02.step μ (.inp (.api a)) = .ok μ := by
  obtain ⟨⟨regd, pending⟩, owed, gt, inWait, dead⟩ := μ
  simp only at hd hp
  subst hd hp
  cases a <;> first | (simp [isFdApi] at ha; done) | simp [C02.step, FdBook.step]

theorem step_ret (μ : M) (hd : μ.dead = false) (hp : μ.book.pending = none) (v : Int) :
    C02.step μ (.out (.ret v)) = .ok μ := by
  obtain ⟨⟨regd, pending⟩, owed, gt, inWait, dead⟩ := μ
  simp only at hd hp
  subst hd hp
  simp [C02.step, FdBook.step]

theorem mon_reg_ok (μ : M) (hd : μ.dead = false) (f : FdId) (i o e : Bool) (a : Api)
    (ha : a = .fdRegister f i o e ∨ ∃ k, a = .fdRegisterTry f i o e k) :
    [Ev.inp (.api a), Ev.out (.ret 0)].foldlM C02.step μ =
      .ok { μ with book := { regd := (μ.book.put ⟨f, i, o, e⟩).regd, pending := none } } := by
  rw [fold_two]
  rcases ha with rfl | ⟨k, rfl⟩ <;> simp [C02.step, hd, FdBook.step, FdBook.regd_put, bind, Except.bind]

theorem mon_try_fail (μ : M) (hd : μ.dead = false) (f : FdId) (i o e k : Bool) :
    [Ev.inp (.api (.fdRegisterTry f i o e k)), Ev.out (.ret (-1))].foldlM C02.step μ =
      .ok { μ with book := { regd := μ.book.regd, pending := none } } := by
  rw [fold_two]
  simp [C02.step, hd, FdBook.step, bind, Except.bind]

theorem mon_api_fatal (μ : M) (hd : μ.dead = false) (a : Api) (m : String) :
    ∃ μ', [Ev.inp (.api a), Ev.out (.fatal m)].foldlM C02.step μ = .ok μ' ∧ μ'.dead = true := by
  rw [fold_two]
  have : ∃ μ1, C02.step μ (.inp (.api a)) = .ok μ1 ∧ μ1.dead = false := by
    unfold C02.step
    simp only [hd, Bool.false_eq_true, if_false]
    -- every branch for an API call answers `.ok` with `dead` untouched; the others contradict their equation
    split
    all_goals first | exact ⟨_, rfl, rfl⟩ | (rename_i h; cases h)
  obtain ⟨μ1, h1, h2⟩ := this
  rw [h1]
  exact ⟨{ μ1 with dead := true }, by simp [C02.step, h2, bind, Except.bind], rfl⟩

theorem book_eta (μ : M) (hp : μ.book.pending = none) :
    ({ μ with book := { regd := μ.book.regd, pending := none } } : M) = μ := by
  obtain ⟨⟨regd, pending⟩, owed, gt, inWait, dead⟩ := μ
  simp only at hp
  subst hp
  rfl

theorem mon_unreg (μ : M) (hd : μ.dead = false) (f : FdId) :
    [Ev.inp (.api (.fdUnregister f)), Ev.out (.ret 0)].foldlM C02.step μ =
      .ok { μ with book := { regd := (μ.book.drop f).regd, pending := none }, owed := μ.owed.filter (·.1 != f) } := by
  rw [fold_two]
  simp [C02.step, hd, FdBook.step, bind, Except.bind]

def setV (w : FdView) : Nat → Bool → FdView
  | 0, v => { w with herr := v }
  | 1, v => { w with hin := v }
  | _, v => { w with hout := v }

def setApi (f : FdId) : Nat → Bool → Api
  | 0, v => .fdSetErr f v
  | 1, v => .fdSetIn f v
  | _, v => .fdSetOut f v

theorem mon_set (μ : M) (hd : μ.dead = false) (f : FdId) (b : Nat) (v : Bool) (hb : b ≤ 2) (w : FdView)
    (hw : μ.book.find f = some w) :
    [Ev.inp (.api (setApi f b v)), Ev.out (.ret 0)].foldlM C02.step μ =
      .ok { μ with book := { regd := (μ.book.put (setV w b v)).regd, pending := none },
                   owed := if v then μ.owed else μ.owed.filter (· != (f, b)) } := by
  rw [fold_two]
  match b, hb with
  | 0, _ => cases v <;> simp [setApi, setV, C02.step, hd, FdBook.step, hw, FdBook.regd_put, bind, Except.bind]
  | 1, _ => cases v <;> simp [setApi, setV, C02.step, hd, FdBook.step, hw, FdBook.regd_put, bind, Except.bind]
  | 2, _ => cases v <;> simp [setApi, setV, C02.step, hd, FdBook.step, hw, FdBook.regd_put, bind, Except.bind]

theorem eraseDups_of_nodup : ∀ (l : List Nat), l.Nodup → l.eraseDups = l
  | [], _ => by simp
  | a :: as, h => by
    rw [List.eraseDups_cons]
    have h' := List.nodup_cons.1 h
    have : as.filter (fun b => !b == a) = as := by
      apply List.filter_eq_self.2
      intro b hb
      have : b ≠ a := fun e => h'.1 (e ▸ hb)
      simpa using this
    rw [this, eraseDups_of_nodup as h'.2]

theorem checkInterest_none (bk : FdBook) (fds : FdId → FdObj) (interest : List (FdId × Bands))
    (hb : BInv bk.regd fds) (hI : InterestOk fds interest) : checkInterest bk interest = none := by
  obtain ⟨I1, I2, I3⟩ := hI
  unfold checkInterest
  simp only
  split
  · next e he =>
    exfalso
    obtain ⟨v, hv, hfv⟩ := List.exists_of_findSome?_eq_some he
    obtain ⟨hv1, hv2, hv3, hv4, hv5⟩ := hb.sound v hv
    split at hfv
    · next i o f' b hE hF =>
      have hE' : i = v.hin ∧ o = v.hout := by
        simp only [expectInterest] at hE
        split at hE
        · simp at hE; exact ⟨hE.1.symm, hE.2.symm⟩
        · simp at hE
      have hp := List.mem_of_find?_eq_some hF
      have hpf := List.find?_some hF
      simp only [List.mem_filter, decide_eq_true_eq, beq_iff_eq] at hp hpf
      have := I1 _ hp.1 hp.2
      simp only at this hpf
      rw [hpf] at this
      rw [hE'.1, hE'.2, hv3, hv4, this.2.2.1, this.2.2.2] at hfv
      simp at hfv
    · next x hE hF =>
      have hE' : (v.hin || v.hout || v.herr) = true := by
        simp only [expectInterest] at hE
        split at hE
        · assumption
        · simp at hE
      obtain ⟨b, hb'⟩ := I2 v.f hv1 hv2 (by rw [← hv3, ← hv4, ← hv5]; exact hE')
      have := List.find?_eq_none.1 hF (v.f, b) (by simp [hb', hv1])
      simp at this
    · next p hE hF =>
      have hp := List.mem_of_find?_eq_some hF
      have hpf := List.find?_some hF
      simp only [List.mem_filter, decide_eq_true_eq, beq_iff_eq] at hp hpf
      have := (I1 p hp.1 hp.2).2.1
      rw [hpf, ← hv3, ← hv4, ← hv5] at this
      simp [expectInterest, this] at hE
    · simp at hfv
  · split
    · next f b hF =>
      exfalso
      have hp := List.mem_of_find?_eq_some hF
      have hpf := List.find?_some hF
      simp only [List.mem_filter, decide_eq_true_eq] at hp
      obtain ⟨v, hv, _⟩ := find_of_reg hb hp.2 (I1 _ hp.1 hp.2).1
      simp [hv] at hpf
    · have h3 : ((interest.filter (·.1 < 1000)).map (·.1)).Nodup :=
        List.Sublist.nodup (List.Sublist.map _ List.filter_sublist) I3
      rw [eraseDups_of_nodup _ h3]
      simp

/-! ## a step answered: the monitor accepts its records and the relation holds again, or the monitor is dead -/

def Res (μ : M) (evs : List Ev) (s' : St) : Prop := ∃ μ', evs.foldlM C02.step μ = .ok μ' ∧ R μ' s'

theorem Res.nil {μ : M} {s' : St} (h : Good μ s') : Res μ [] s' := ⟨μ, rfl, Or.inr h⟩

/-- records the monitor does not react to, or dies on -/
def harmless : Out → Bool
  | .fatal _ | .fault _ => true
  | .cb (.fd ..) => false
  | .cb _ => true
  | _ => false

theorem Res.quiet {μ : M} {s' : St} (hG : Good μ s') (outs : List Out) (h : outs.all harmless = true) :
    Res μ (outs.map Ev.out) s' := by
  obtain ⟨μ', e, h'⟩ := fold_harmless (dead := fun μ : M => μ.dead = true) step_dead (P := fun o => harmless o = true)
    (μ := μ) (fun o ho => by
      cases o with
      | fatal m => exact ⟨{ μ with dead := true }, by simp [C02.step, hG.ndead], .inl rfl⟩
      | fault m => exact ⟨{ μ with dead := true }, by simp [C02.step, hG.ndead], .inl rfl⟩
      | cb c => exact ⟨μ, step_cb_other μ hG.ndead c (by rintro f b rfl; cases ho), .inr rfl⟩
      | _ => cases ho)
    (List.all_eq_true.1 h)
  exact ⟨μ', e, h'.imp id (fun (e : μ' = μ) => e.symm ▸ hG)⟩

theorem Res.inp {μ μ1 : M} {s' : St} {i : Input} {evs : List Ev} (h : C02.step μ (.inp i) = .ok μ1)
    (hr : Res μ1 evs s') : Res μ (Ev.inp i :: evs) s' := by
  obtain ⟨μ', h1, h2⟩ := hr
  refine ⟨μ', ?_, h2⟩
  rw [List.foldlM_cons, h]
  exact h1

theorem Res.ret {μ : M} {s' : St} (v : Int) (h : Good μ s') : Res μ [Ev.out (.ret v)] s' := by
  refine ⟨μ, ?_, Or.inr h⟩
  rw [foldlM_one, step_ret μ h.ndead h.pend]

theorem Res.api_fatal {μ : M} {s' : St} (hd : μ.dead = false) (a : Api) (m : String) :
    Res μ (Ev.inp (.api a) :: [Out.fatal m].map Ev.out) s' := by
  obtain ⟨μ', h1, h2⟩ := mon_api_fatal μ hd a m
  exact ⟨μ', h1, Or.inl h2⟩

/-! ## the blocks, branch by branch of `Step`: all but the exit, the wait and the dispatch leave book and owed list alone

`MInv.step` names the branch a block takes, with its exact stack and without a fault branch; the monitor meets a record
of its own only at the exit (`mainRet`), the wait and the callback of a descriptor. -/

theorem internal_ok {μ : M} {s : St} {b : Block} (hI : MInv s) (hI' : MInv (internal s b).1) (hG : Good μ s)
    (hpc : s.pc = .run b) : Res μ ((internal s b).2.map Ev.out) (internal s b).1 := by
  have hs := hI.step hpc
  generalize internal s b = x at hs hI' ⊢
  have same : ∀ g, g < 1000 → SameView (s.fds g) (s.fds g) := fun _ _ => .refl _
  -- descriptors, `handled` and the dispatch frames as before, and no record the monitor reacts to
  have quiet : ∀ {s' : St} {outs : List Out}, MInv s' → (∀ g, SameView (s.fds g) (s'.fds g)) →
      s'.handled = s.handled → activeOf s'.stack = activeOf s.stack → curOf s'.stack = curOf s.stack →
      outs.all harmless = true → Res μ (outs.map Ev.out) s' := fun hI' hv hh ha hc ho =>
    Res.quiet (hG.step hI' hG.ndead hG.gt rfl (fun g _ => hv g)
      (fun p hp => ⟨hp, fun h => by simpa only [Cover, ha, hc, hh] using h.cov⟩)) _ ho
  -- band `stage` of `cur` is left behind: what stays owed of `cur` lies beyond it
  have adv : ∀ {cur stage a rt} (μ' : M) (pc' : Pc), s.stack = [.fd cur stage, .poll a rt] → μ'.dead = false →
      μ'.gt = [] → μ'.book = μ.book →
      (∀ p ∈ μ'.owed, p ∈ μ.owed ∧ (OwedOk s p → p.1 = cur → s.handled = some cur → p.2 ≠ stage)) →
      MInv { s with stack := [.fd cur (stage + 1), .poll a rt], pc := pc' } →
      Good μ' { s with stack := [.fd cur (stage + 1), .poll a rt], pc := pc' } := by
    intro cur stage a rt μ' pc' hst hd hgt hb hO hI'
    refine hG.step hI' hd hgt hb same (fun p hp => ⟨(hO p hp).1, fun h => ?_⟩)
    have := h.cov
    simp only [Cover, hst, activeOf, curOf] at this ⊢
    rcases this with h1 | ⟨st, h1, h2, h3⟩
    · exact Or.inl h1
    · simp only [Option.some.injEq, Prod.mk.injEq] at h1
      have := (hO p hp).2 h h1.1.symm (by rw [h2, h1.1])
      exact Or.inr ⟨stage + 1, by rw [h1.1], h2, by omega⟩
  cases hs with
  | mainTop_skip | mainTop_collect | mainTop_clock | resume_tasks | resume_poll | resume_fd | stay | runEvents_none =>
    exact quiet hI' (fun _ => .refl _) rfl rfl rfl rfl
  | collect _ _ hst | popTimer_done hst | popTimer_cb _ _ hst | startTasks hst | popTask_done hst
  | popTask_events _ hst | popTask_cb _ _ _ hst | popEvent_done _ hst | popEvent_cb _ _ _ hst =>
    exact quiet hI' (fun _ => .refl _) rfl (by simp [hst, activeOf]) (by simp [hst, curOf]) rfl
  | runEvents_some => exact quiet hI' (fun _ => .refl _) rfl rfl rfl rfl
  | prepWait s1 abs km _ e =>
    revert hI'
    rw [e]
    exact fun hI' => quiet hI' (fun _ => .refl _) rfl rfl rfl rfl
  | flush_clock | flush_go =>
    revert hI'
    rw [flushed_frame]
    exact fun hI' => quiet hI' (fun g => by rw [flushed_obj]; exact ⟨rfl, rfl, rfl, rfl, rfl⟩) rfl rfl rfl rfl
  | exit hst =>
    refine ⟨{ μ with owed := [] }, ?_, Or.inr (hG.step hI' hG.ndead hG.gt rfl same (fun _ hp => by cases hp))⟩
    rw [List.map_cons, List.map_nil, foldlM_one]
    simp [C02.step, hG.ndead, owed_nil hG hst, FdBook.step]
  | wait abs km hst =>
    have hci : checkInterest μ.book (interestOf s (universeOf s)) = none :=
      checkInterest_none _ _ _ hG.book (hI.fd.interestOk (by rw [hpc]; rfl))
    refine ⟨{ μ with owed := [], inWait := true, gt := [] }, ?_,
      Or.inr (hG.step hI' hG.ndead rfl rfl same (fun _ hp => by cases hp))⟩
    rw [List.map_cons, List.map_nil, foldlM_one]
    simp [C02.step, hG.ndead, owed_nil hG hst, FdBook.step, hci]
  | dispatch_done rt hst =>
    refine Res.nil (hG.step hI' hG.ndead hG.gt rfl same (fun p hp => ⟨hp, fun h => ?_⟩))
    have := h.cov
    simp [Cover, hst, activeOf, curOf] at this
  | dispatch_next f r rt hst =>
    -- the head of the active list becomes the descriptor under dispatch, at band 0
    refine Res.nil (hG.step hI' hG.ndead hG.gt rfl same (fun p hp => ⟨hp, fun h => ?_⟩))
    have := h.cov
    simp only [Cover, hst, activeOf, curOf, List.mem_cons, reduceCtorEq, false_and, exists_false, or_false] at this
    rcases this with e | h
    · exact Or.inr ⟨0, by rw [e]; rfl, by rw [e], Nat.zero_le _⟩
    · exact Or.inl h
  | fd_done c n a rt hst hn =>
    -- all bands done: nothing of `c` is owed any more
    refine Res.nil (hG.step hI' hG.ndead hG.gt rfl same (fun p hp => ⟨hp, fun h => ?_⟩))
    have := h.cov
    have hb := h.band
    simp only [Cover, hst, activeOf, curOf] at this ⊢
    rcases this with h1 | ⟨st, h1, h2, h3⟩
    · exact Or.inl h1
    · simp only [Option.some.injEq, Prod.mk.injEq] at h1
      omega
  | fd_pass c n a rt hst hn hc =>
    -- `c` was unregistered by an earlier handler; or the band is not ready or has no handler, so it is not owed
    refine Res.nil (adv μ _ hst hG.ndead hG.gt rfl (fun p hp => ⟨hp, fun ho h1 h2 e => ?_⟩) hI')
    rcases hc with ⟨-, hnone⟩ | ⟨-, hw⟩
    · rw [hnone] at h2; cases h2
    · rw [bit_get, hbit_handler, ← h1, ← e, ho.rdy, ho.hset] at hw; cases hw
  | fd_raw r a rt hst =>
    -- the descriptor of a raw event is none of the user's
    exact Res.nil (adv μ _ hst hG.ndead hG.gt rfl (fun p hp => ⟨hp, fun ho h1 => absurd h1 (ne_rawFd ho.lt r)⟩) hI')
  | fd_cb c n a rt hst =>
    refine ⟨{ μ with owed := μ.owed.filter (· != (c, n)) }, ?_, Or.inr ?_⟩
    · rw [List.map_cons, List.map_nil, foldlM_one]
      simp [C02.step, hG.ndead, FdBook.step]
    · refine adv _ _ hst hG.ndead hG.gt rfl (fun p hp => ?_) hI'
      simp only [List.mem_filter, bne_iff_ne, ne_eq] at hp
      exact ⟨hp.1, fun _ h1 _ h => hp.2 (Prod.ext h1 h)⟩

/-! ## the wait returns -/

theorem input_wret {μ : M} {s : St} {abs : Option TS} {km : Bool} (r : WRes)
    (hI' : MInv (afterWait s abs km r).1) (hG : Good μ s) :
    Res μ (Ev.inp (.wret r) :: (afterWait s abs km r).2.map Ev.out) (afterWait s abs km r).1 := by
  -- registration and handlers stay: the book is kept
  have keep : ∀ μ1 : M, μ1.dead = false → μ1.gt = μ.gt → μ1.book = μ.book →
      (∀ p ∈ μ1.owed, OwedOk (afterWait s abs km r).1 p) → Good μ1 (afterWait s abs km r).1 := by
    intro μ1 h2 h3 h4 hO
    refine hG.keep hI' h2 (h3 ▸ hG.gt) h4 (fun g _ => ?_) (fun g _ _ => ?_) hO
    all_goals rw [(afterWait_effect _ _ _ _).obj]
    exact ⟨rfl, rfl, rfl⟩
  cases r with
  | events l =>
    obtain ⟨μ1, h1, h2, h3, h4, h5⟩ := step_wret_events μ hG.ndead hG.gt l
    rw [afterWait_wake_outs s abs km (r := .events l) nofun]
    refine Res.inp h1 (Res.nil (keep μ1 h2 h3 h4 (fun p hp => ?_)))
    -- what the monitor owes was reported, so it is on the new active list with its band ready
    obtain ⟨ev, e1, e2, e3, e4, e5⟩ := h5 p hp
    rw [handler_eq hG.book] at e5
    simp only [Bool.and_eq_true, decide_eq_true_eq] at e5
    rw [bandHeld_eq] at e4
    have hview : ∀ g, ((afterWait s abs km (.events l)).1.fds g).registered = (s.fds g).registered ∧
        hbit ((afterWait s abs km (.events l)).1.fds g) p.2 = hbit (s.fds g) p.2 := fun g => by
      rw [(afterWait_effect _ _ _ _).obj]; exact ⟨rfl, rfl⟩
    suffices h : bit ((afterWait s abs km (.events l)).1.fds p.1).ready p.2 = true ∧
        Cover (afterWait s abs km (.events l)).1 p from
      ⟨e2, e3, by rw [(hview _).1]; exact e5.1.2, by rw [(hview _).2]; exact e5.2, h.1, h.2⟩
    obtain ⟨s1, active, rt, runEv, b, hW, -, e⟩ := afterWait_events_state s abs km l
    have hR : ReportedBand l p.1 p.2 := ⟨ev, e1, by rw [bit_get]; exact e4⟩
    have hm : p.1 ∈ active := (hW.coll.mem p.1).2 ⟨_, hR⟩
    rw [e]
    exact ⟨by rw [← bit_get]; exact (hW.coll.ready p.1 hm p.2).2 hR, Or.inl hm⟩
  | eintr =>
    obtain ⟨μ1, h1, h2, h3, h4, h5⟩ := step_wret_other μ hG.ndead .eintr nofun
    exact Res.inp h1 (Res.nil (keep μ1 h2 h3 h4 (by rw [h5]; nofun)))
  | enosys =>
    obtain ⟨μ1, h1, h2, h3, h4, h5⟩ := step_wret_other μ hG.ndead .enosys nofun
    refine Res.inp h1 (Res.quiet (keep μ1 h2 h3 h4 (by rw [h5]; nofun)) _ ?_)
    have h := afterWait_enosys_cases s abs km
    generalize afterWait s abs km .enosys = x at h ⊢
    cases h <;> rfl

/-! ## API calls that the book does not record -/

/-- `s'` shows every user descriptor and every dispatch still to come as `s` does -/
def Keeps (s s' : St) : Prop :=
  (∀ g, g < 1000 → SameView (s.fds g) (s'.fds g)) ∧ ∀ p : FdId × Nat, p.1 < 1000 → Cover s p → Cover s' p

theorem Keeps.same {s s' : St} (hst : s'.stack = s.stack := by rfl) (hfds : s'.fds = s.fds := by rfl)
    (hh : s'.handled = s.handled := by rfl) : Keeps s s' :=
  ⟨fun g _ => by rw [hfds]; exact .refl _, fun _ _ h => h.same hst hh⟩

/-- unregistering `f` takes it off the active list and clears `handled` if it was `f`: the dispatches of the others stay -/
theorem Cover.unreg {s s' : St} {p : FdId × Nat} {f : FdId} (hst : s'.stack = s.stack.map (eraseActive · f))
    (hh : s'.handled = if s.handled == some f then none else s.handled) (hne : p.1 ≠ f) (h : Cover s p) :
    Cover s' p := by
  simp only [Cover, hst, hh, activeOf_eraseActive, curOf_eraseActive] at h ⊢
  rcases h with h | ⟨st, h1, h2, h3⟩
  · exact Or.inl ((List.mem_erase_of_ne hne).2 h)
  · refine Or.inr ⟨st, h1, ?_, h3⟩
    rw [h2, if_neg (by simpa using hne)]

theorem edits_cover {k : ApiKind} {φ : Frame → Frame} (hk : k ≠ .fd) (hφ : k.Edits φ) {g : FdId} (hg : g < 1000)
    (st : List Frame) : (g ∈ activeOf st → g ∈ activeOf (st.map φ)) ∧ curOf (st.map φ) = curOf st := by
  have keep : ∀ ψ : Frame → Frame, (∀ fr, kind (ψ fr) = kind fr) → (∀ a rt, ψ (.poll a rt) = .poll a rt) →
      (∀ c n, ψ (.fd c n) = .fd c n) → ∀ st, (g ∈ activeOf st → g ∈ activeOf (st.map ψ)) ∧
        curOf (st.map ψ) = curOf st :=
    fun ψ h1 h2 h3 st => ⟨fun h => by rw [activeOf_map ψ h1 h2]; exact h, curOf_map ψ h1 h3 st⟩
  have erase : ∀ r st, (g ∈ activeOf st → g ∈ activeOf (st.map (eraseActive · (rawFd r)))) ∧
      curOf (st.map (eraseActive · (rawFd r))) = curOf st := fun r st =>
    ⟨fun h => by rw [activeOf_eraseActive]; exact (List.mem_erase_of_ne (ne_rawFd hg r)).2 h, curOf_eraseActive _ st⟩
  cases hφ with
  | fd => exact absurd rfl hk
  | none => exact keep id (fun _ => rfl) (fun _ _ => rfl) (fun _ _ => rfl) st
  | raw r => exact erase r st
  | timer b => exact keep _ (kind_setTimerBatch b) (fun _ _ => rfl) (fun _ _ => rfl) st
  | register k => exact keep _ (kind_appendTaskBatch k) (fun _ _ => rfl) (fun _ _ => rfl) st
  | unregister k => exact keep _ (kind_eraseTask k) (fun _ _ => rfl) (fun _ _ => rfl) st
  | event e => exact keep _ (kind_eraseEvent e) (fun _ _ => rfl) (fun _ _ => rfl) st
  | post => exact keep _ (kind_appendTaskBatch 0) (fun _ _ => rfl) (fun _ _ => rfl) st
  | lastEvent e =>
    have h1 := keep _ (kind_eraseEvent e) (fun _ _ => rfl) (fun _ _ => rfl) st
    have h2 := erase 0 (st.map (eraseEvent · e))
    rw [← List.map_map]
    exact ⟨fun h => h2.1 (h1.1 h), h2.2.trans h1.2⟩

/-- the calls on timers, tasks, events and raw events: a raw event's descriptor is none of the user's -/
theorem api_keeps (s : St) (a : Api) (ha : isFdApi a = false) : Keeps s (api s a).1 := by
  have hk := kind_of_isFdApi ha
  have hax : ∀ g, g < 1000 → some g ≠ a.rawFd? := fun g hg => by
    obtain ⟨x, hx, h⟩ := a.rawFd?_raw
    exact h g (Nat.ne_of_lt (Nat.lt_of_lt_of_le hg hx))
  obtain ⟨-, ⟨φ, hφ, hst⟩, -⟩ := api_effect s a
  have ho := api_objEffect s a hk
  refine ⟨fun g hg => by rw [ho.1 g (hax g hg)]; exact .refl _, fun p hp h => ?_⟩
  have he := edits_cover hk hφ hp s.stack
  unfold Cover
  rw [hst, he.2]
  refine h.imp he.1 fun ⟨n, h1, h2, h3⟩ => ⟨n, h1, ?_, h3⟩
  rcases ho.2 with e | ⟨e, -⟩
  · exact e.trans h2
  · exact absurd (h2.symm.trans e) (hax _ hp)

theorem api_other {μ : M} {s : St} (a : Api) (ha : isFdApi a = false) (hI' : MInv (api s a).1) (hG : Good μ s) :
    Res μ (Ev.inp (.api a) :: (api s a).2.map Ev.out) (api s a).1 := by
  have hk := api_keeps s a ha
  have good : Good μ (api s a).1 :=
    hG.step hI' hG.ndead hG.gt rfl hk.1 (fun p hp => ⟨hp, fun h => hk.2 p h.lt h.cov⟩)
  refine Res.inp (step_api_other μ hG.ndead hG.pend a ha) ?_
  have hres := api_res s a
  generalize api s a = r at hres good
  cases hres with
  | ret s' v => exact Res.ret v good
  | nil s' => exact Res.nil good
  | dead o ho => exact Res.quiet good [o] (by cases o <;> first | rfl | cases ho)

/-! ## API calls on a user descriptor -/

/-- a successful `iv_fd_register` or `iv_fd_register_try` -/
theorem Good.register {μ : M} {s s' : St} (hG : Good μ s) (hI' : MInv s') (f : FdId) (i o e : Bool) (hf : f < 1000)
    (hu : (s.fds f).registered = false) (hv : ∀ g, SameView (upd s.fds f (regObj (s.fds f) i o e) g) (s'.fds g))
    (hst : s'.stack = s.stack) (hh : s'.handled = s.handled) :
    Good { μ with book := { regd := (μ.book.put ⟨f, i, o, e⟩).regd, pending := none } } s' := by
  obtain ⟨hne, hff⟩ := view_at hv
  refine Good.of hI' hG.ndead hG.gt rfl ?_ (fun p hp => ?_)
  · exact hG.book.put ⟨f, i, o, e⟩ (fun g hg => (hne g hg).viewEq) hf hff.1 hff.2.1.symm hff.2.2.1.symm hff.2.2.2.1.symm
  · have hO := hG.owed p hp
    have : p.1 ≠ f := fun e => by have := hO.reg; rw [e, hu] at this; cases this
    exact hO.of_same (hne _ this) (hO.cov.same hst hh)

theorem api_fdRegister {μ : M} {s : St} (f : FdId) (i o e : Bool) (hf : f < 64)
    (hI' : MInv (api s (.fdRegister f i o e)).1) (hG : Good μ s) :
    Res μ (Ev.inp (.api (.fdRegister f i o e)) :: (api s (.fdRegister f i o e)).2.map Ev.out)
      (api s (.fdRegister f i o e)).1 := by
  revert hI'
  rw [api]
  split
  · exact fun _ => Res.api_fatal hG.ndead _ _
  · next hu =>
    exact fun hI' => ⟨_, mon_reg_ok μ hG.ndead f i o e _ (.inl rfl),
      Or.inr (hG.register (s' := fdRegisterCore s f i o e) hI' f i o e
      (Nat.lt_trans hf (by decide)) (by simpa using hu) (fun g => by rw [fdRegisterCore_obj]; exact ⟨rfl, rfl, rfl, rfl, rfl⟩)
      (by rw [fdRegisterCore_frame]) (by rw [fdRegisterCore_frame]))⟩

theorem api_fdRegisterTry {μ : M} {s : St} (f : FdId) (i o e k : Bool) (hf : f < 64)
    (hI' : MInv (api s (.fdRegisterTry f i o e k)).1) (hG : Good μ s) :
    Res μ (Ev.inp (.api (.fdRegisterTry f i o e k)) :: (api s (.fdRegisterTry f i o e k)).2.map Ev.out)
      (api s (.fdRegisterTry f i o e k)).1 := by
  cases hu : (s.fds f).registered with
  | true =>
    simp only [api, hu, if_true]
    exact Res.api_fatal hG.ndead _ _
  | false =>
    revert hI'
    cases k with
    | false =>
      -- the descriptor stays unregistered and the book as it was
      rw [api_tryFail s f i o e hu]
      intro hI'
      refine ⟨_, mon_try_fail μ hG.ndead f i o e false, Or.inr ?_⟩
      rw [book_eta μ hG.pend]
      have hne : ∀ g, g ≠ f → (tryFail s f i o e).fds g = s.fds g := fun g hg => upd_ne _ _ hg
      refine hG.keep (s' := tryFail s f i o e) hI' hG.ndead hG.gt rfl (fun g _ => ?_) (fun g _ hr => ?_) (fun p hp => ?_)
      · by_cases e : g = f
        · rw [e, hu]; exact congrArg FdObj.registered (upd_same _ _ _)
        · rw [hne g e]
      · rw [hne g (fun e => by rw [e, hu] at hr; cases hr)]
        exact ⟨rfl, rfl, rfl⟩
      · have hO := hG.owed p hp
        refine hO.of_same ?_ hO.cov
        rw [hne _ (fun e => by have := hO.reg; rw [e, hu] at this; cases this)]
        exact .refl _
    | true =>
      rw [api_trySucc s f i o e hu]
      exact fun hI' => ⟨_, mon_reg_ok μ hG.ndead f i o e _ (.inr ⟨true, rfl⟩),
        Or.inr (hG.register (s' := trySucc s f i o e) hI' f i o e
        (Nat.lt_trans hf (by decide)) hu (fun g => by rw [trySucc_obj]; exact ⟨rfl, rfl, rfl, rfl, rfl⟩)
        (by rw [trySucc_frame]) (by rw [trySucc_frame]))⟩

theorem api_fdUnregister {μ : M} {s : St} (f : FdId) (hI' : MInv (api s (.fdUnregister f)).1) (hG : Good μ s) :
    Res μ (Ev.inp (.api (.fdUnregister f)) :: (api s (.fdUnregister f)).2.map Ev.out)
      (api s (.fdUnregister f)).1 := by
  revert hI'
  rw [api]
  split
  · exact fun _ => Res.api_fatal hG.ndead _ _
  · intro hI'
    refine ⟨_, mon_unreg μ hG.ndead f, Or.inr ?_⟩
    obtain ⟨hne, hff⟩ := view_at (fds' := (fdUnregisterCore s f).fds) (fds := s.fds) (f := f)
      (fun g => by rw [fdUnregisterCore_obj]; exact ⟨rfl, rfl, rfl, rfl, rfl⟩)
    refine Good.of (s := fdUnregisterCore s f) hI' hG.ndead hG.gt rfl ?_ (fun p hp => ?_)
    · exact hG.book.drop f (fun g hg => (hne g hg).viewEq) hff.1
    · -- what stays owed belongs to other descriptors
      simp only [List.mem_filter, bne_iff_ne, ne_eq] at hp
      have hO := hG.owed p hp.1
      exact hO.of_same (hne _ hp.2)
        (Cover.unreg (by rw [fdUnregisterCore_frame]) (by rw [fdUnregisterCore_frame]) hp.2 hO.cov)

/-! ## `iv_fd_set_handler_{err,in,out}`, by band number (0 err, 1 in, 2 out) -/

def setH (o : FdObj) : Nat → Bool → FdObj
  | 0, v => { o with herr := v }
  | 1, v => { o with hin := v }
  | _, v => { o with hout := v }

theorem setH_same (o : FdObj) (b : Nat) (v : Bool) :
    (setH o b v).registered = o.registered ∧ (setH o b v).ready = o.ready ∧ (setH o b v).regBands = o.regBands ∧
    (setH o b v).index = o.index := by
  match b with
  | 0 => exact ⟨rfl, rfl, rfl, rfl⟩
  | 1 => exact ⟨rfl, rfl, rfl, rfl⟩
  | n + 2 => exact ⟨rfl, rfl, rfl, rfl⟩

theorem hbit_setH (o : FdObj) (v : Bool) {b b' : Nat} (hb : b ≤ 2) (hb' : b' ≤ 2) :
    hbit (setH o b v) b' = if b' = b then v else hbit o b' := by
  match b, b', hb, hb' with
  | 0, 0, _, _ | 0, 1, _, _ | 0, 2, _, _ | 1, 0, _, _ | 1, 1, _, _ | 1, 2, _, _ | 2, 0, _, _ | 2, 1, _, _
  | 2, 2, _, _ => rfl

theorem setV_setH {w : FdView} {o : FdObj} (h1 : w.hin = o.hin) (h2 : w.hout = o.hout) (h3 : w.herr = o.herr)
    (b : Nat) (v : Bool) :
    (setV w b v).f = w.f ∧ (setV w b v).hin = (setH o b v).hin ∧ (setV w b v).hout = (setH o b v).hout ∧
    (setV w b v).herr = (setH o b v).herr := by
  match b with
  | 0 => exact ⟨rfl, h1, h2, rfl⟩
  | 1 => exact ⟨rfl, rfl, h2, h3⟩
  | n + 2 => exact ⟨rfl, h1, rfl, h3⟩

theorem api_fdSet {μ : M} {s : St} (f : FdId) (b : Nat) (v : Bool) (hf : f < 64) (hb : b ≤ 2)
    (hr : (s.fds f).registered = true)
    (hI' : MInv (notifyFd { s with fds := upd s.fds f (setH (s.fds f) b v) } f)) (hG : Good μ s) :
    Res μ [Ev.inp (.api (setApi f b v)), Ev.out (.ret 0)]
      (notifyFd { s with fds := upd s.fds f (setH (s.fds f) b v) } f) := by
  have hlt : f < 1000 := Nat.lt_trans hf (by decide)
  obtain ⟨w, hw, hwf, hw1, hw2, hw3⟩ := find_of_reg hG.book hlt hr
  obtain ⟨s1, s2, -, -⟩ := setH_same (s.fds f) b v
  obtain ⟨v0, v1, v2, v3⟩ := setV_setH hw1 hw2 hw3 b v
  refine ⟨_, mon_set μ hG.ndead f b v hb w hw, Or.inr ?_⟩
  obtain ⟨hne, hff⟩ := view_at (fds := s.fds) (f := f) (o1 := setH (s.fds f) b v)
    (fds' := (notifyFd { s with fds := upd s.fds f (setH (s.fds f) b v) } f).fds)
    (fun g => by rw [notifyFd_obj]; exact ⟨rfl, rfl, rfl, rfl, rfl⟩)
  refine Good.of hI' hG.ndead hG.gt rfl ?_ (fun p hp => ?_)
  · refine hG.book.put (setV w b v) (fun g hg => (hne g (by rwa [v0, hwf] at hg)).viewEq) (by rw [v0, hwf]; exact hlt)
      ?_ ?_ ?_ ?_
    · rw [v0, hwf, hff.1, s1]; exact hr
    · rw [v0, hwf, hff.2.1]; exact v1
    · rw [v0, hwf, hff.2.2.1]; exact v2
    · rw [v0, hwf, hff.2.2.2.1]; exact v3
  · -- clearing a handler takes its band off the owed list; the other bands of `f` keep their handlers
    have hp' : p ∈ μ.owed ∧ (v = false → p ≠ (f, b)) := by
      cases v with
      | true => exact ⟨hp, nofun⟩
      | false => exact ⟨(List.mem_filter.1 hp).1, fun _ => by simpa using (List.mem_filter.1 hp).2⟩
    have hO := hG.owed p hp'.1
    have hc : Cover (notifyFd { s with fds := upd s.fds f (setH (s.fds f) b v) } f) p :=
      hO.cov.same (by rw [notifyFd_frame]) (by rw [notifyFd_frame])
    by_cases e : p.1 = f
    · refine ⟨hO.lt, hO.band, by rw [e, hff.1, s1]; exact hr, ?_, by rw [e, hff.2.2.2.2, s2, ← e]; exact hO.rdy, hc⟩
      rw [e, hbit_congr hff, hbit_setH _ _ hb hO.band]
      split
      · next h =>
        cases v with
        | true => rfl
        | false => exact absurd (Prod.ext e h) (hp'.2 rfl)
      · rw [← e]; exact hO.hset
    · exact hO.of_same (hne _ e) hc

theorem api_ok {μ : M} {s : St} (a : Api) (hok : apiOk s a = true) (hI' : MInv (api s a).1) (hG : Good μ s) :
    Res μ (Ev.inp (.api a) :: (api s a).2.map Ev.out) (api s a).1 := by
  cases a with
  | fdRegister f i o e => exact api_fdRegister f i o e (of_decide_eq_true hok) hI' hG
  | fdRegisterTry f i o e k => exact api_fdRegisterTry f i o e k (of_decide_eq_true hok) hI' hG
  | fdUnregister f => exact api_fdUnregister f hI' hG
  | fdSetIn f v =>
    revert hI'
    rw [api]
    split
    · exact fun _ => Res.api_fatal hG.ndead _ _
    · next hr => exact fun hI' => api_fdSet f 1 v (of_decide_eq_true hok) (by decide) (by simpa using hr) hI' hG
  | fdSetOut f v =>
    revert hI'
    rw [api]
    split
    · exact fun _ => Res.api_fatal hG.ndead _ _
    · next hr => exact fun hI' => api_fdSet f 2 v (of_decide_eq_true hok) (by decide) (by simpa using hr) hI' hG
  | fdSetErr f v =>
    revert hI'
    rw [api]
    split
    · exact fun _ => Res.api_fatal hG.ndead _ _
    · next hr => exact fun hI' => api_fdSet f 0 v (of_decide_eq_true hok) (by decide) (by simpa using hr) hI' hG
  | _ => exact api_other _ rfl hI' hG

/-! ## the other inputs, and the whole -/

theorem keeps_free (s : St) (k id : Nat) : Keeps s (freeObj s k id) := by
  refine ⟨fun g _ => ?_, fun _ _ h => h.same (by rw [freeObj_frame]) (by rw [freeObj_frame])⟩
  rw [freeObj_fds]
  exact ⟨rfl, rfl, rfl, rfl, rfl⟩

theorem input_ok {μ : M} {s : St} {i : Input} {r : St × List Out} (hI' : MInv r.1) (hG : Good μ s)
    (henv : envOk s i = true) (hi : input s i = some r) : Res μ (Ev.inp i :: r.2.map Ev.out) r.1 := by
  -- an input the monitor ignores, answered by records it ignores
  have plain : ∀ {i : Input} {r : St × List Out}, (match i with | .api _ | .wret _ => False | _ => True) → MInv r.1 →
      Keeps s r.1 → r.2.all harmless = true → Res μ (Ev.inp i :: r.2.map Ev.out) r.1 := fun hi hI' hk ho =>
    Res.inp (step_inp_plain μ hG.ndead _ hi)
      (Res.quiet (hG.step hI' hG.ndead hG.gt rfl hk.1 (fun p hp => ⟨hp, fun h => hk.2 p h.lt h.cov⟩)) _ ho)
  cases input_inv hi with
  | api a hpc => exact api_ok a (Bool.and_eq_true _ _ ▸ henv).1 hI' hG
  | wret abs km w hpc => exact input_wret w hI' hG
  | handlerEnd b hpc hb => exact plain trivial hI' .same rfl
  | free k id hpc => exact plain trivial hI' (keeps_free s k id) rfl
  | init k id hpc =>
    refine Res.inp (step_inp_plain μ hG.ndead _ trivial) (Res.nil ?_)
    revert hI'
    unfold initObj
    unfold envOk unregisteredObj at henv
    split
    · -- fresh memory in place of an unregistered descriptor
      have hu : (s.fds id).registered = false := (by simpa using henv : id < 1000 ∧ _).2
      have hne : ∀ g, (s.fds g).registered = true → upd s.fds id { live := true } g = s.fds g :=
        fun g hr => upd_ne _ _ (fun e => by rw [e, hu] at hr; cases hr)
      refine fun hI' => hG.keep hI' hG.ndead hG.gt rfl (fun g _ => ?_) (fun g _ hr => ?_) (fun p hp => ?_)
      · exact upd_rel (R := fun a b : FdObj => b.registered = a.registered) (fun _ => rfl) hu.symm g
      · show (upd s.fds id _ g).hin = _ ∧ (upd s.fds id _ g).hout = _ ∧ (upd s.fds id _ g).herr = _
        rw [hne g hr]
        exact ⟨rfl, rfl, rfl⟩
      · have hO := hG.owed p hp
        refine hO.of_same ?_ hO.cov
        show SameView _ (upd s.fds id _ p.1)
        rw [hne _ hO.reg]
        exact .refl _
    all_goals exact fun hI' => hG.step hI' hG.ndead hG.gt rfl (fun _ _ => .refl _) (fun p hp => ⟨hp, fun h => h.cov⟩)
  | time t k hpc => cases k <;> exact plain trivial hI' .same rfl
  | xpostNop abs km e hpc => exact plain trivial hI' .same rfl
  | xpost abs km e ka hpc => exact plain trivial hI' .same rfl
  | rawGoto w okk b hpc hb => exact plain trivial hI' .same rfl
  | rawFault w okk msg hpc => exact plain trivial hI' .same rfl
  | rawCb w okk hpc => exact plain trivial hI' .same rfl

theorem good_init (m : Method) (ntimers : Nat) (timerfdAvail pwait2 : Bool) :
    Good {} (St.init m ntimers timerfdAvail pwait2) :=
  Good.of (MInv.init ..) rfl rfl rfl ⟨by simp, by simp [St.init]⟩ (by simp)

theorem monitor_accepts (m : Method) (ntimers : Nat) (timerfdAvail pwait2 : Bool)
    (evs : List Ev) (s' : St) (h : Exec (St.init m ntimers timerfdAvail pwait2) evs s') :
    Ivy.Mon.C02.verdict evs = none := by
  obtain ⟨μ', h'⟩ := exec_simulation_dead (dead := fun μ : M => μ.dead = true) (C := Good) step_dead
    (fun hI hI' hG hpc => internal_ok hI hI' hG hpc) (fun _ hI' hG henv hi => input_ok hI' hG henv hi) h (MInv.init ..)
    (good_init m ntimers timerfdAvail pwait2)
  simp [verdict, runMon, h']

/-! ## other descriptions of a step

`VFrame`, `WFrame` and `CtlFrame` describe a step by what it leaves alone of the fields `Good` reads: the view of every
descriptor and the control state; all but the `ready` bits; all but `method` (a step that moves only the state of the
timeout check).  `BInv.same` carries the book along `viewEq`, `want_eq` reads the band test of `fdStage` through `bit`
and `hbit`, the `ite_*` equations push a field through a conditional.  The proof of `monitor_accepts` describes a step by `SameView`, `Keeps` and the equations of
`MachineLemmas` and `StepFrames`, and does not go through these. -/

structure VFrame (s s' : St) : Prop where
  method : s'.method = s.method
  stack : s'.stack = s.stack
  handled : s'.handled = s.handled
  pc : s'.pc = s.pc
  raws : s'.raws = s.raws
  evs : s'.evs = s.evs
  eventCount : s'.eventCount = s.eventCount
  useRaw : s'.useRaw = s.useRaw
  fds : ∀ g, (s'.fds g).registered = (s.fds g).registered ∧ (s'.fds g).hin = (s.fds g).hin ∧
    (s'.fds g).hout = (s.fds g).hout ∧ (s'.fds g).herr = (s.fds g).herr ∧ (s'.fds g).ready = (s.fds g).ready

structure WFrame (s s' : St) : Prop where
  notify : s'.notify = s.notify
  pfds : s'.pfds = s.pfds
  kint : s'.kint = s.kint
  method : s'.method = s.method
  stack : s'.stack = s.stack
  handled : s'.handled = s.handled
  pc : s'.pc = s.pc
  raws : s'.raws = s.raws
  evs : s'.evs = s.evs
  eventCount : s'.eventCount = s.eventCount
  useRaw : s'.useRaw = s.useRaw
  fds : ∀ g, coreEq (s.fds g) (s'.fds g)

structure CtlFrame (s s' : St) : Prop where
  fds : s'.fds = s.fds
  notify : s'.notify = s.notify
  pfds : s'.pfds = s.pfds
  kint : s'.kint = s.kint
  stack : s'.stack = s.stack
  handled : s'.handled = s.handled
  pc : s'.pc = s.pc
  raws : s'.raws = s.raws
  evs : s'.evs = s.evs
  eventCount : s'.eventCount = s.eventCount
  useRaw : s'.useRaw = s.useRaw

theorem BInv.same {regd : List FdView} {fds fds' : FdId → FdObj} (hb : BInv regd fds)
    (h : ∀ g, g < 1000 → viewEq fds fds' g) : BInv regd fds' :=
  hb.same' (fun g hg => (h g hg).1) (fun g hg _ => (h g hg).2)

theorem want_eq (o : FdObj) (stage : Nat) :
    (match stage with
      | 0 => o.ready.e && o.herr
      | 1 => o.ready.i && o.hin
      | _ => o.ready.o && o.hout) = (bit o.ready stage && hbit o stage) := by
  match stage with
  | 0 => rfl
  | 1 => rfl
  | n + 2 => rfl

theorem ite_pfds (c : Prop) [Decidable c] (a b : St) : (if c then a else b).pfds = if c then a.pfds else b.pfds := apply_ite _ _ _ _
theorem ite_stack (c : Prop) [Decidable c] (a b : St) : (if c then a else b).stack = if c then a.stack else b.stack := apply_ite _ _ _ _
theorem ite_handled (c : Prop) [Decidable c] (a b : St) : (if c then a else b).handled = if c then a.handled else b.handled := apply_ite _ _ _ _
theorem ite_pc (c : Prop) [Decidable c] (a b : St) : (if c then a else b).pc = if c then a.pc else b.pc := apply_ite _ _ _ _

/-! ## non-vacuity: a concrete run that registers a descriptor, waits, gets readiness reported,
dispatches the callback, unregisters from inside the handler and returns from `iv_main` -/

def demoInputs : List Input :=
  [.api (.fdRegister 3 true false true), .api .main,
   .wret (.events [.fd 3 ⟨true, false, false, false⟩]),
   .api (.fdUnregister 3), .handlerEnd]

def isFdCb : Ev → Bool
  | .out (.cb (.fd 3 1)) => true
  | _ => false

def isWaitOn3 : Ev → Bool
  | .out (.wait _ _ [(3, ⟨true, false, false⟩)] _ _) => true
  | _ => false

def isMainRet : Ev → Bool
  | .out .mainRet => true
  | _ => false

example :
    let tr := (runTrace 40 (St.init .epoll 0 true true) demoInputs).1
    tr.any isFdCb = true ∧ tr.any isWaitOn3 = true ∧ tr.any isMainRet = true ∧ Ivy.Mon.C02.verdict tr = none := by
  refine ⟨by decide, by decide, by decide, ?_⟩
  exact monitor_accepts .epoll 0 true true _ _ (runTrace_exec 40 _ demoInputs)

example :
    let tr := (runTrace 40 (St.init .poll 0 true true) demoInputs).1
    tr.any isFdCb = true ∧ tr.any isMainRet = true ∧ Ivy.Mon.C02.verdict tr = none := by
  refine ⟨by decide, by decide, ?_⟩
  exact monitor_accepts .poll 0 true true _ _ (runTrace_exec 40 _ demoInputs)

end Ivy.L1.ProofsC02
