import Ivy.Props.C05
import Ivy.L1.Step
/-!
# The invariant of the L1 machine: control, object lists and liveness

`Core s` ("every id the loop still holds denotes a registered, hence live, object") is `Shape`, `CInv (view s)` and
`RawInv`.  `Shape` ties the program counter to the frame stack (no `control` fault; a descriptor frame at stage 0 only
while `fdStage` is about to run; at a raw read `handled` is the raw event's descriptor).  `CInv` says, kind by kind,
that the lists the loop holds (a global list and the batches in the frames, jointly) are duplicate free and hold
registered objects, and that registered objects are live: `TmLive`, `TkInv` (task 0 is `events_local`), `EvInv`, `FdLive`
(the descriptors embedded in raw events, ids from 1000, are live), `ActInv`, `HdInv` (`handled`, if set, is the
descriptor of the descriptor frame) and `cur` (that one is not on the active list).  `RawInv`: the descriptor embedded in a
raw event is registered iff the raw event is, the kick raw event iff `useRaw` and `eventCount ≥ 1`.  `view s` records
fields of the state and the per-kind contents of the frame stack; the bundles read nothing else (and not all of it: the
back ends' tables in it are read only by `VInv` of the last section), so a step that leaves `view` alone only owes
`Shape`.

`Core` says nothing of the tables of the two back ends (epoll interest set and notify list, `pfds`): of the descriptor
objects it reads `registered` and `live` only (`CInv.setFds`, `Core.fdStep`), so the descriptor operations are followed
through those two flags (`FdStep`, `FlagAt`).  The one fact about the tables a step needs, that a descriptor
the kernel may report at a wait return is registered (`ReportsRegistered`), is a hypothesis of `ISpec.wret`.  Nor does
it describe the expired batch (duplicate free, exactly the timers with `idx = 0`), which belongs with the timers
against the clock: that the batch's head has `idx = 0` is a hypothesis of `step_of_core` (under `Core` every block takes
a branch of `Step`, none that faults) and `internal_spec`.

`Regd s` are the registered sets of the machine, one per kind of object.  `ISpec` (internal blocks and the inputs
other than API calls) and `ApiSpec` say which records a step emits, that it keeps `Core` (also when it ends in
`iv_fatal`), and what it does to `Regd`; `internal_spec` proves `ISpec` branch by branch of `Step`, `api_spec` and
`input_spec` collect the lemmas that prove them call by call and input by input (`ApiSpec.fdRegister`, `ISpec.wret`, …);
`Core.init`, `Core.internal`, `Core.input` are the invariant alone.  The last section holds the definitions of the
namespace `ProofsC01` (DESIGN.md §0) that no proof goes through: `Inv` and what only it mentions.
-/
namespace Ivy.L1.ProofsC01
open Ivy.L1 Ivy.Heap

def frTimers : Frame → List Nat | .timers r => r | _ => []
def frTasks : Frame → List TaskId | .tasks r => r | _ => []
def frEvents : Frame → List EvId | .events b => b | _ => []
def frActive : Frame → List FdId | .poll a _ => a | _ => []
def frFd : Frame → List (FdId × Nat) | .fd c n => [(c, n)] | _ => []

def allTimers (st : List Frame) : List Nat := st.flatMap frTimers
def allTasks (st : List Frame) : List TaskId := st.flatMap frTasks
def allEvents (st : List Frame) : List EvId := st.flatMap frEvents
def allActive (st : List Frame) : List FdId := st.flatMap frActive
def allFd (st : List Frame) : List (FdId × Nat) := st.flatMap frFd

@[simp] theorem allTimers_nil : allTimers [] = [] := rfl
@[simp] theorem allTasks_nil : allTasks [] = [] := rfl
@[simp] theorem allEvents_nil : allEvents [] = [] := rfl
@[simp] theorem allActive_nil : allActive [] = [] := rfl
@[simp] theorem allFd_nil : allFd [] = [] := rfl
@[simp] theorem allTimers_cons (f : Frame) (st) : allTimers (f :: st) = frTimers f ++ allTimers st := by simp [allTimers]
@[simp] theorem allTasks_cons (f : Frame) (st) : allTasks (f :: st) = frTasks f ++ allTasks st := by simp [allTasks]
@[simp] theorem allEvents_cons (f : Frame) (st) : allEvents (f :: st) = frEvents f ++ allEvents st := by simp [allEvents]
@[simp] theorem allActive_cons (f : Frame) (st) : allActive (f :: st) = frActive f ++ allActive st := by simp [allActive]
@[simp] theorem allFd_cons (f : Frame) (st) : allFd (f :: st) = frFd f ++ allFd st := by simp [allFd]

attribute [simp] frTimers frTasks frEvents frActive frFd

def UserSt (st : List Frame) : Prop :=
  st = [] ∨ (∃ r, st = [.timers r]) ∨ (∃ r, st = [.tasks r]) ∨
  (∃ c n a rt, st = [.fd c n, .poll a rt] ∧ 1 ≤ n) ∨ (∃ b rest, st = .events b :: rest ∧ Base rest)

def Shape (pc : Pc) (st : List Frame) (handled : Option FdId) : Prop :=
  match pc with
  | .user => UserSt st
  | .needTime .forValidate => UserSt st
  | .needTime _ => st = []
  | .waiting _ _ => st = []
  | .needRawRead r => ∃ n a rt, st = [.fd (rawFd r) n, .poll a rt] ∧ 1 ≤ n ∧ handled = some (rawFd r)
  | .run .popTimer => ∃ r, st = [.timers r]
  | .run .popTask => ∃ r, st = [.tasks r]
  | .run .runEvents => Base st
  | .run .resume => Base st
  | .run .popEvent => ∃ b rest, st = .events b :: rest ∧ Base rest
  | .run .dispatchNext => ∃ a rt, st = [.poll a rt]
  | .run .fdStage => ∃ c n a rt, st = [.fd c n, .poll a rt]
  | .run _ => st = []
  | .dead => True

def TkInv (tasks fr : List TaskId) (tobjs : TaskId → TaskObj) : Prop :=
  (tasks ++ fr).Nodup ∧ (∀ k ∈ tasks ++ fr, (tobjs k).live = true) ∧ (tobjs 0).live = true

def EvInv (pending fr : List EvId) (evs : EvId → EvObj) : Prop :=
  (pending ++ fr).Nodup ∧ (∀ e ∈ pending ++ fr, (evs e).registered = true) ∧
  (∀ e, (evs e).registered = true → (evs e).live = true)

def FdLive (fds : FdId → FdObj) : Prop :=
  (∀ f, (fds f).registered = true → (fds f).live = true) ∧ (∀ f, 1000 ≤ f → (fds f).live = true)

def ActInv (fds : FdId → FdObj) (act : List FdId) : Prop :=
  act.Nodup ∧ ∀ f ∈ act, (fds f).registered = true

def HdInv (fds : FdId → FdObj) (handled : Option FdId) (fr : List (FdId × Nat)) : Prop :=
  (∀ c n, (c, n) ∈ fr → (n = 0 → handled = some c) ∧ (∀ x, handled = some x → x = c)) ∧
  (∀ x, handled = some x → (fds x).registered = true)

def RawInv (fds : FdId → FdObj) (raws : RawId → RawObj) (useRaw : Bool) (eventCount : Int) : Prop :=
  (∀ r, (fds (rawFd r)).registered = (raws r).registered) ∧
  ((raws 0).registered = (useRaw && decide (1 ≤ eventCount))) ∧
  (∀ r, 1 ≤ r → (raws r).registered = true → (raws r).live = true)

structure View where
  heap : Store
  tlive : Nat → Bool
  timers : List Nat
  tasks : List TaskId
  taskFr : List TaskId
  tobjs : TaskId → TaskObj
  pending : List EvId
  evFr : List EvId
  evs : EvId → EvObj
  fds : FdId → FdObj
  active : List FdId
  handled : Option FdId
  fdFr : List (FdId × Nat)
  isEpoll : Bool
  kint : FdId → Option Bands
  notify : List FdId
  pfds : List (FdId × Bands)
  raws : RawId → RawObj
  useRaw : Bool
  eventCount : Int

def view (s : St) : View :=
  { heap := s.heap, tlive := s.tlive, timers := allTimers s.stack, tasks := s.tasks, taskFr := allTasks s.stack,
    tobjs := s.tobjs, pending := s.pending, evFr := allEvents s.stack, evs := s.evs, fds := s.fds,
    active := allActive s.stack, handled := s.handled, fdFr := allFd s.stack, isEpoll := s.method.isEpoll,
    kint := s.kint, notify := s.notify, pfds := s.pfds, raws := s.raws, useRaw := s.useRaw,
    eventCount := s.eventCount }

def RegdV (v : View) (p : Nat × Nat) : Prop :=
  match p with
  | (0, f) => f < 1000 ∧ (v.fds f).registered = true
  | (1, t) => 0 ≤ v.heap.idx.getD t (-1)
  | (2, k) => 1 ≤ k ∧ k ∈ v.tasks ++ v.taskFr
  | (3, e) => (v.evs e).registered = true
  | (4, r) => 1 ≤ r ∧ (v.raws r).registered = true
  | _ => False

def Regd (s : St) (p : Nat × Nat) : Prop := RegdV (view s) p

def FdOnly (s s' : St) : Prop :=
  ∃ fds nt ki pf no nf, s' = { s with fds := fds, notify := nt, kint := ki, pfds := pf, numobjs := no, numfds := nf }

theorem FdOnly.refl (s : St) : FdOnly s s := ⟨s.fds, s.notify, s.kint, s.pfds, s.numobjs, s.numfds, rfl⟩
theorem FdOnly.trans {a b c : St} (h1 : FdOnly a b) (h2 : FdOnly b c) : FdOnly a c := by
  obtain ⟨f1, n1, k1, p1, a1, b1, rfl⟩ := h1
  obtain ⟨f2, n2, k2, p2, a2, b2, rfl⟩ := h2
  exact ⟨f2, n2, k2, p2, a2, b2, rfl⟩

theorem FdOnly.stack {s s' : St} (h : FdOnly s s') : s'.stack = s.stack := by obtain ⟨_, _, _, _, _, _, rfl⟩ := h; rfl
theorem FdOnly.handled {s s' : St} (h : FdOnly s s') : s'.handled = s.handled := by obtain ⟨_, _, _, _, _, _, rfl⟩ := h; rfl
theorem FdOnly.pc {s s' : St} (h : FdOnly s s') : s'.pc = s.pc := by obtain ⟨_, _, _, _, _, _, rfl⟩ := h; rfl

theorem taskOnList_iff (s : St) (k : Nat) : taskOnList s k = true ↔ k ∈ s.tasks ++ allTasks s.stack := by
  unfold taskOnList allTasks
  rw [Bool.or_eq_true, List.contains_iff_mem, List.any_eq_true, List.mem_append, List.mem_flatMap]
  refine or_congr Iff.rfl (exists_congr fun fr => and_congr_right fun _ => ?_)
  cases fr <;> simp

theorem evOnList_iff (s : St) (e : Nat) : evOnList s e = true ↔ e ∈ s.pending ++ allEvents s.stack := by
  unfold evOnList allEvents
  rw [Bool.or_eq_true, List.contains_iff_mem, List.any_eq_true, List.mem_append, List.mem_flatMap]
  refine or_congr Iff.rfl (exists_congr fun fr => and_congr_right fun _ => ?_)
  cases fr <;> simp

end Ivy.L1.ProofsC01

namespace Ivy.L1
open Ivy.Heap ProofsC01

/-- the timer heap is well formed and registered timers (`idx ≥ 0`) are live -/
def TmLive (h : Store) (tl : Nat → Bool) : Prop := HeapInv h ∧ ∀ t, 0 ≤ h.idx.getD t (-1) → tl t = true

/-- the bundles about timers, tasks, events and descriptors, over the view; `cur`: the descriptor under dispatch is not
on the active list (`dispatchNext` took it off a duplicate-free list, and while a descriptor frame exists the list only
shrinks).  The raw events are not among them: their link to the descriptors is broken between the two halves of
`iv_event_register` / `iv_event_unregister`, where these bundles hold alone. -/
structure CInv (v : View) : Prop where
  tm : TmLive v.heap v.tlive
  tk : TkInv v.tasks v.taskFr v.tobjs
  ev : EvInv v.pending v.evFr v.evs
  fl : FdLive v.fds
  act : ActInv v.fds v.active
  hd : HdInv v.fds v.handled v.fdFr
  cur : ∀ p ∈ v.fdFr, p.1 ∉ v.active

/-- every id the loop still holds denotes a registered, hence live, object: control against the frame stack, the
bundles of `CInv`, and the raw events against their descriptors -/
structure Core (s : St) : Prop where
  shape : Shape s.pc s.stack s.handled
  inv : CInv (view s)
  raw : RawInv s.fds s.raws s.useRaw s.eventCount

namespace Core
variable {s s' : St}
theorem tm (h : Core s) : TmLive s.heap s.tlive := h.inv.tm
theorem tk (h : Core s) : TkInv s.tasks (allTasks s.stack) s.tobjs := h.inv.tk
theorem ev (h : Core s) : EvInv s.pending (allEvents s.stack) s.evs := h.inv.ev
theorem fl (h : Core s) : FdLive s.fds := h.inv.fl
theorem act (h : Core s) : ActInv s.fds (allActive s.stack) := h.inv.act
theorem hd (h : Core s) : HdInv s.fds s.handled (allFd s.stack) := h.inv.hd
theorem cur (h : Core s) : ∀ p ∈ allFd s.stack, p.1 ∉ allActive s.stack := h.inv.cur

theorem of_view (h : Core s) (hs : Shape s'.pc s'.stack s'.handled) (hv : view s' = view s) : Core s' := by
  refine ⟨hs, hv ▸ h.inv, ?_⟩
  show RawInv (view s').fds (view s').raws (view s').useRaw (view s').eventCount
  rw [hv]
  exact h.raw

/-- `iv_fatal`, or a fault: only the program counter changes -/
theorem dead (h : Core s) : Core { s with pc := .dead } := h.of_view trivial rfl
end Core

namespace CInv
variable {v v' : View}

theorem setTm (h : CInv v) (hv : v' = { v with heap := v'.heap, tlive := v'.tlive, timers := v'.timers })
    (x : TmLive v'.heap v'.tlive) : CInv v' := by
  rw [hv]; exact { h with tm := x }

theorem setTk (h : CInv v) (hv : v' = { v with tasks := v'.tasks, taskFr := v'.taskFr, tobjs := v'.tobjs })
    (x : TkInv v'.tasks v'.taskFr v'.tobjs) : CInv v' := by
  rw [hv]; exact { h with tk := x }

theorem setEv (h : CInv v) (hv : v' = { v with pending := v'.pending, evFr := v'.evFr, evs := v'.evs })
    (x : EvInv v'.pending v'.evFr v'.evs) : CInv v' := by
  rw [hv]; exact { h with ev := x }

theorem setDisp (h : CInv v) (hv : v' = { v with active := v'.active, handled := v'.handled, fdFr := v'.fdFr })
    (x : ActInv v'.fds v'.active) (y : HdInv v'.fds v'.handled v'.fdFr) (z : ∀ p ∈ v'.fdFr, p.1 ∉ v'.active) :
    CInv v' := by
  rw [hv] at x y z ⊢; exact { h with act := x, hd := y, cur := z }

theorem of_view (h : CInv v)
    (hv : v' = { v with isEpoll := v'.isEpoll, kint := v'.kint, notify := v'.notify, pfds := v'.pfds,
                        raws := v'.raws, useRaw := v'.useRaw, eventCount := v'.eventCount }) : CInv v' := by
  rw [hv]; exact ⟨h.tm, h.tk, h.ev, h.fl, h.act, h.hd, h.cur⟩

/-- of the descriptor objects `CInv` reads `live`, and `registered` only where it is set -/
theorem setFds (h : CInv v)
    (hv : v' = { v with fds := v'.fds, isEpoll := v'.isEpoll, kint := v'.kint, notify := v'.notify, pfds := v'.pfds })
    (hfl : FdLive v'.fds) (hmono : ∀ g, (v.fds g).registered = true → (v'.fds g).registered = true) : CInv v' := by
  rw [hv]
  exact { h with fl := hfl, act := ⟨h.act.1, fun g hg => hmono g (h.act.2 g hg)⟩,
                 hd := ⟨h.hd.1, fun x hx => hmono x (h.hd.2 x hx)⟩ }
end CInv

theorem Regd_congr {s s' : St} (h : view s' = view s) (p : Nat × Nat) : Regd s' p ↔ Regd s p := by
  unfold Regd; rw [h]

@[simp] theorem Regd0 (s : St) (f : Nat) : Regd s (0, f) ↔ (f < 1000 ∧ (s.fds f).registered = true) := Iff.rfl
@[simp] theorem Regd1 (s : St) (t : Nat) : Regd s (1, t) ↔ 0 ≤ s.heap.idx.getD t (-1) := Iff.rfl
@[simp] theorem Regd2 (s : St) (k : Nat) : Regd s (2, k) ↔ (1 ≤ k ∧ k ∈ s.tasks ++ allTasks s.stack) := Iff.rfl
@[simp] theorem Regd3 (s : St) (e : Nat) : Regd s (3, e) ↔ (s.evs e).registered = true := Iff.rfl
@[simp] theorem Regd4 (s : St) (r : Nat) : Regd s (4, r) ↔ (1 ≤ r ∧ (s.raws r).registered = true) := Iff.rfl
theorem Regd5 (s : St) (k r : Nat) : ¬ Regd s (k + 5, r) := id

theorem Regd_cases (P : Nat × Nat → Prop) (h0 : ∀ f, P (0, f)) (h1 : ∀ f, P (1, f)) (h2 : ∀ f, P (2, f))
    (h3 : ∀ f, P (3, f)) (h4 : ∀ f, P (4, f)) (h5 : ∀ k f, P (k + 5, f)) : ∀ p, P p
  | (0, f) => h0 f | (1, f) => h1 f | (2, f) => h2 f | (3, f) => h3 f | (4, f) => h4 f | (k + 5, f) => h5 k f

theorem Regd_of {s s' : St} (h0 : ∀ f, (s'.fds f).registered = (s.fds f).registered)
    (h1 : s'.heap.idx = s.heap.idx) (h2 : s'.tasks ++ allTasks s'.stack = s.tasks ++ allTasks s.stack)
    (h3 : ∀ e, (s'.evs e).registered = (s.evs e).registered)
    (h4 : ∀ r, (s'.raws r).registered = (s.raws r).registered) : ∀ p, Regd s' p ↔ Regd s p := by
  apply Regd_cases <;> intro x <;> simp [Regd5, h0, h1, h2, h3, h4]

theorem Regd_frames {s s' : St} (hf : s'.fds = s.fds) (hh : s'.heap = s.heap) (he : s'.evs = s.evs)
    (hr : s'.raws = s.raws) (ht : s'.tasks ++ allTasks s'.stack = s.tasks ++ allTasks s.stack) :
    ∀ p, Regd s' p ↔ Regd s p :=
  Regd_of (fun _ => by rw [hf]) (by rw [hh]) ht (fun _ => by rw [he]) (fun _ => by rw [hr])

theorem Regd_timer_del {s s' : St} {t : Nat} (hf : s'.fds = s.fds) (he : s'.evs = s.evs) (hr : s'.raws = s.raws)
    (ht : s'.tasks ++ allTasks s'.stack = s.tasks ++ allTasks s.stack)
    (hh : ∀ u, 0 ≤ s'.heap.idx.getD u (-1) ↔ (u ≠ t ∧ 0 ≤ s.heap.idx.getD u (-1))) :
    ∀ q, Regd s' q ↔ (q ≠ (1, t) ∧ Regd s q) := by
  apply Regd_cases <;> intro x <;> simp [Regd5, hf, he, hr, ht]
  simpa [Array.getD_eq_getD_getElem?] using hh x

/-- task 0 is `st->events_local`, the library's own: it joins the list but not the registered sets -/
theorem Regd_task_add {s s' : St} {k : Nat} (hf : s'.fds = s.fds) (hh : s'.heap = s.heap) (he : s'.evs = s.evs)
    (hr : s'.raws = s.raws)
    (ht : ∀ x, x ∈ s'.tasks ++ allTasks s'.stack ↔ (x = k ∨ x ∈ s.tasks ++ allTasks s.stack)) :
    ∀ q, Regd s' q ↔ ((1 ≤ k ∧ q = (2, k)) ∨ Regd s q) := by
  apply Regd_cases <;> intro x <;> simp [Regd5, hf, hh, he, hr, -List.mem_append]
  rw [ht x]
  constructor
  · rintro ⟨h1, rfl | h2⟩
    · exact Or.inl ⟨h1, rfl⟩
    · exact Or.inr ⟨h1, h2⟩
  · rintro (⟨h1, rfl⟩ | ⟨h1, h2⟩)
    · exact ⟨h1, Or.inl rfl⟩
    · exact ⟨h1, Or.inr h2⟩

theorem Regd_task_del {s s' : St} {k : Nat} (hf : s'.fds = s.fds) (hh : s'.heap = s.heap) (he : s'.evs = s.evs)
    (hr : s'.raws = s.raws)
    (ht : ∀ x, x ∈ s'.tasks ++ allTasks s'.stack ↔ (x ≠ k ∧ x ∈ s.tasks ++ allTasks s.stack)) :
    ∀ q, Regd s' q ↔ (q ≠ (2, k) ∧ Regd s q) := by
  apply Regd_cases <;> intro x <;> simp [Regd5, hf, hh, he, hr, -List.mem_append]
  rw [ht x]
  exact ⟨fun ⟨h1, h2, h3⟩ => ⟨h2, h1, h3⟩, fun ⟨h1, h2, h3⟩ => ⟨h2, h1, h3⟩⟩

/-- `omega`, after unfolding the `abbrev`s `FdId`, `TaskId`, … of the machine in all hypotheses if it fails without:
`omega` does not look through them -/
macro "omega_ids" : tactic =>
  `(tactic| first | omega | ((try simp only [FdId, TaskId, EvId, RawId, Tid] at *); omega))

/-! ## the blocks of the loop under the invariant

Under `Core` every block takes one of the branches of `Step` (`Step.lean`): the frame stack is the one `Shape` names
for the block and the object it is about to touch is registered, hence live, so none of its faults can happen. -/

theorem fdRaw_some {cur r : Nat} (h : fdRaw? cur = some r) : rawFd r = cur ∧ 1000 ≤ cur := by
  unfold fdRaw? at h
  split at h
  · simp at h; subst h; unfold rawFd; omega_ids
  · simp at h

theorem step_of_core {s : St} {b : Block} (hI : Core s) (hb : ∀ t ∈ timerBatch s, s.heap.idx[t]? = some 0)
    (hpc : s.pc = .run b) : Step s b (internal s b) := by
  have hsh := hI.shape
  rw [hpc] at hsh
  cases b with
  | mainTop rt =>
    rw [internal]
    cases rt with
    | false => exact .mainTop_skip _ hsh (.inl rfl)
    | true =>
      rw [if_pos rfl]
      by_cases hn : s.heap.num = 0
      · rw [if_pos hn]; exact .mainTop_skip _ hsh (.inr hn)
      · rw [if_neg hn]
        by_cases htv : s.timeValid = true
        · rw [if_pos htv]; exact .mainTop_collect hsh hn htv
        · rw [if_neg htv]; exact .mainTop_clock hsh hn (Bool.eq_false_iff.2 htv)
  | collect =>
    have hst : s.stack = [] := hsh
    obtain ⟨h', batch, e, -⟩ := Ivy.Props.C05.collect_sorted s.heap s.time hI.tm.1
    simp only [internal, e, hst]
    exact .collect h' batch hst e
  | popTimer =>
    obtain ⟨l, hst⟩ : ∃ r, s.stack = [.timers r] := hsh
    cases l with
    | nil => simp only [internal, hst]; exact .popTimer_done hst
    | cons t r =>
      simp only [internal, hst]
      have ht0 : s.heap.idx[t]? = some 0 := hb t (by simp [timerBatch, hst])
      have hlive : s.tlive t = true := hI.tm.2 t (by rw [Proofs.getD_idx ht0]; omega)
      rw [if_neg (by simp [hlive])]
      exact .popTimer_cb t r hst
  | startTasks =>
    have hst : s.stack = [] := hsh
    simp only [internal, hst]
    exact .startTasks hst
  | popTask =>
    obtain ⟨l, hst⟩ : ∃ r, s.stack = [.tasks r] := hsh
    have htk := hI.tk
    simp only [hst, allTasks_cons, frTasks, allTasks_nil, List.append_nil, TkInv] at htk
    cases l with
    | nil => simp only [internal, hst]; exact .popTask_done hst
    | cons k r =>
      simp only [internal, hst]
      have hlive : (s.tobjs k).live = true := htk.2.1 k (by simp)
      rw [if_neg (by simp [hlive])]
      by_cases hk : k = 0
      · subst hk; rw [if_pos rfl]; exact .popTask_events r hst
      · rw [if_neg hk]; exact .popTask_cb k r hk hst
  | runEvents =>
    rw [internal]
    by_cases hp : s.pending.isEmpty = true
    · rw [if_pos hp]; exact .runEvents_none hsh (List.isEmpty_iff.1 hp)
    · rw [if_neg hp]; exact .runEvents_some hsh (fun e => hp (List.isEmpty_iff.2 e))
  | popEvent =>
    obtain ⟨l, rest, hst, hbase⟩ : ∃ b rest, s.stack = .events b :: rest ∧ Base rest := hsh
    have hev := hI.ev
    simp only [hst, allEvents_cons, frEvents, EvInv] at hev
    cases l with
    | nil => simp only [internal, hst]; exact .popEvent_done rest hst hbase
    | cons e r =>
      simp only [internal, hst]
      have hlive : (s.evs e).live = true := hev.2.2 e (hev.2.1 e (by simp))
      rw [if_neg (by simp [hlive])]
      exact .popEvent_cb e r rest hst hbase
  | resume =>
    have hbase : Base s.stack := hsh
    rw [internal]
    rcases hbase with ⟨r, hst⟩ | ⟨a, rt, hst⟩ | ⟨c, n, a, rt, hst, -⟩ <;> rw [hst]
    · exact .resume_tasks r hst
    · exact .resume_poll a rt hst
    · exact .resume_fd c n a rt hst
  | exitCheck =>
    rw [internal]
    by_cases hq : (s.quit || s.numobjs == 0) = true
    · rw [if_pos hq]
      exact .exit hsh (by simpa using hq)
    · rw [if_neg hq]
      simp only [Bool.or_eq_true, beq_iff_eq, not_or, Bool.not_eq_true] at hq
      exact .stay hsh hq.1 hq.2
  | prepWait =>
    obtain ⟨s1, abs, km, e, hf, -, hep⟩ := internal_prepWait_eq s
    rw [e]
    exact .prepWait s1 abs km hsh hf hep
  | flush abs km =>
    have hst : s.stack = [] := hsh
    rw [internal]
    show Step s _ (if (abs.isSome && !(flushed s).timeValid) = true then _ else _)
    have htv : (flushed s).timeValid = s.timeValid := by
      unfold flushed; split
      · rw [flushAll_frame]
      · rfl
    rw [htv]
    cases ha : abs.isSome <;> cases hv : s.timeValid
    · exact .flush_go abs km hst (by rw [ha]; nofun)
    · exact .flush_go abs km hst (fun _ => hv)
    · exact .flush_clock abs km hst ha hv
    · exact .flush_go abs km hst (fun _ => hv)
  | wait abs km =>
    rw [internal]
    exact .wait abs km hsh
  | dispatchNext =>
    obtain ⟨l, rt, hst⟩ : ∃ a rt, s.stack = [.poll a rt] := hsh
    cases l with
    | nil => simp only [internal, hst]; exact .dispatch_done rt hst
    | cons f r => simp only [internal, hst]; exact .dispatch_next f r rt hst
  | fdStage =>
    obtain ⟨c, n, a, rt, hst⟩ : ∃ c n a rt, s.stack = [.fd c n, .poll a rt] := hsh
    have hhd := hI.hd
    simp only [hst, allFd_cons, frFd, allFd_nil, List.append_nil, HdInv, List.mem_cons, List.not_mem_nil, or_false,
      Prod.mk.injEq] at hhd
    obtain ⟨hfr, hreg⟩ := hhd
    obtain ⟨h0, hx⟩ := hfr c n ⟨rfl, rfl⟩
    rw [internal_fdStage_eq s c n _ hst]
    by_cases hn3 : n ≥ 3
    · rw [if_pos hn3]; exact .fd_done c n a rt hst hn3
    rw [if_neg hn3]
    by_cases hskip : (decide (n ≥ 1) && s.handled.isNone) = true
    · rw [if_pos hskip]
      simp only [Bool.and_eq_true, decide_eq_true_eq, Option.isNone_iff_eq_none] at hskip
      exact .fd_pass c n a rt hst (by omega) (.inl hskip)
    rw [if_neg hskip]
    have hhandled : s.handled = some c := by
      by_cases hn : n = 0
      · exact h0 hn
      · cases hh : s.handled with
        | none => simp [hh, show n ≥ 1 by omega] at hskip
        | some x => rw [hx x hh]
    have hlive : (s.fds c).live = true := hI.fl.1 c (hreg c hhandled)
    rw [if_neg (by simp [hlive])]
    by_cases hw : ((s.fds c).ready.get n && (s.fds c).handler n) = true
    · rw [if_pos hw]
      split
      · next r hr =>
        have hn1 : n = 1 := by
          by_cases hn : n = 1
          · exact hn
          · simp [hn] at hr
        subst hn1
        obtain ⟨rfl, -⟩ := fdRaw_some (show fdRaw? c = some r by simpa using hr)
        exact .fd_raw r a rt hst hhandled hw
      · next hr =>
        refine .fd_cb c n a rt hst (by omega) hhandled hw fun hn1 => ?_
        subst hn1
        simp only [if_true] at hr
        unfold fdRaw? at hr
        split at hr
        · cases hr
        · next h => exact Nat.lt_of_not_le h
    · rw [if_neg hw]
      exact .fd_pass c n a rt hst (by omega) (.inr ⟨hhandled, by simpa using hw⟩)

def isQuiet : Out → Bool
  | .ret _ | .wait .. | .mainRet => true
  | _ => false

def QuietOuts (outs : List Out) : Prop := ∀ o ∈ outs, isQuiet o = true

@[simp] theorem QuietOuts_nil : QuietOuts [] := by simp [QuietOuts]
@[simp] theorem QuietOuts_ret (v : Int) : QuietOuts [.ret v] := by simp [QuietOuts, isQuiet]

/-- the object a callback belongs to, as `Regd` names it: kind and id -/
def cbObj : Cb → Nat × Nat
  | .fd f _ => (0, f) | .timer t => (1, t) | .task t => (2, t) | .event x => (3, x) | .raw r => (4, r)

/-- timers and tasks are unregistered by the library when it enters their callback -/
def cbOnce : Cb → Bool
  | .timer _ | .task _ => true
  | _ => false

inductive Cls
  | reg (p : Nat × Nat)
  | unreg (p : Nat × Nat)
  | other

def classify : Api → Cls
  | .fdRegister f .. => .reg (0, f)
  | .fdRegisterTry f .. => .reg (0, f)
  | .timerRegister t _ => .reg (1, t)
  | .taskRegister k => .reg (2, k)
  | .evRegister x _ => .reg (3, x)
  | .rawRegister r _ => .reg (4, r)
  | .fdUnregister f => .unreg (0, f)
  | .timerUnregister t => .unreg (1, t)
  | .taskUnregister k => .unreg (2, k)
  | .evUnregister x => .unreg (3, x)
  | .rawUnregister r => .unreg (4, r)
  | _ => .other

/-- the records one machine step (internal block, or an input other than an API call) may emit, and what it does to
the registered sets; it keeps `Core` -/
inductive ISpec (s s' : St) (outs : List Out) : Prop
  | quiet (hq : QuietOuts outs) (hI : Core s') (hr : ∀ p, Regd s' p ↔ Regd s p)
  | cbInt (f b : Nat) (hf : 1000 ≤ f) (ho : outs = [.cb (.fd f b)]) (hI : Core s') (hr : ∀ p, Regd s' p ↔ Regd s p)
  | cb (c : Cb) (ho : outs = [.cb c]) (hI : Core s') (hin : Regd s (cbObj c))
      (hr : ∀ q, Regd s' q ↔ (if cbOnce c = true then q ≠ cbObj c ∧ Regd s q else Regd s q))
  | fatal (m : String) (ho : outs = [.fatal m]) (hI : Core s')

theorem ISpec.core {s s' : St} {outs} (h : ISpec s s' outs) : Core s' := by
  cases h <;> assumption

theorem ISpec.same {s s' : St} {outs} (hq : QuietOuts outs) (hI : Core s) (hs : Shape s'.pc s'.stack s'.handled)
    (hv : view s' = view s) : ISpec s s' outs :=
  .quiet hq (hI.of_view hs hv) (Regd_congr hv)

@[simp] theorem QuietOuts_wait (a b c d e) : QuietOuts [.wait a b c d e] := by simp [QuietOuts, isQuiet]
@[simp] theorem QuietOuts_mainRet : QuietOuts [.mainRet] := by simp [QuietOuts, isQuiet]

theorem upd_flag_same {α : Type} (flag : α → Bool) (objs : Nat → α) (id : Nat) (o' : α)
    (h : flag o' = flag (objs id)) (x : Nat) : flag (upd objs id o' x) = flag (objs x) := by
  by_cases hx : x = id
  · rw [hx, upd_same, h]
  · rw [upd_ne _ _ hx]

def SameRegLive (fds fds' : FdId → FdObj) : Prop :=
  ∀ f, (fds' f).registered = (fds f).registered ∧ (fds' f).live = (fds f).live

theorem SameRegLive.refl (fds : FdId → FdObj) : SameRegLive fds fds := fun _ => ⟨rfl, rfl⟩
theorem SameRegLive.trans {a b c : FdId → FdObj} (h1 : SameRegLive a b) (h2 : SameRegLive b c) : SameRegLive a c :=
  fun f => ⟨(h2 f).1.trans (h1 f).1, (h2 f).2.trans (h1 f).2⟩

theorem ProofsC01.FdLive.sim {fds fds'} (h : FdLive fds) (hs : SameRegLive fds fds') : FdLive fds' :=
  ⟨fun f hf => by rw [(hs f).2]; exact h.1 f (by rw [← (hs f).1]; exact hf), fun f hf => by rw [(hs f).2]; exact h.2 f hf⟩

theorem ProofsC01.RawInv.sim {fds fds' raws u c} (h : RawInv fds raws u c) (hs : SameRegLive fds fds') : RawInv fds' raws u c :=
  ⟨fun r => by rw [(hs _).1]; exact h.1 r, h.2.1, h.2.2⟩

/-- a step of the descriptor subsystem: it writes descriptor objects, the back ends' tables and the two counters only,
and leaves `registered` and `live` of every object as they are -/
def FdStep (s s' : St) : Prop := FdOnly s s' ∧ SameRegLive s.fds s'.fds

theorem FdStep.refl (s : St) : FdStep s s := ⟨FdOnly.refl s, SameRegLive.refl _⟩
theorem FdStep.trans {a b c : St} (h1 : FdStep a b) (h2 : FdStep b c) : FdStep a c :=
  ⟨h1.1.trans h2.1, h1.2.trans h2.2⟩

theorem Core.fdStep {s s' : St} (h : Core s) (hs : FdStep s s') : Core s' := by
  obtain ⟨⟨F, N, K, P, a, b, rfl⟩, hsim⟩ := hs
  exact ⟨h.shape, h.inv.setFds rfl (h.fl.sim hsim) (fun g hg => (hsim g).1.trans hg), h.raw.sim hsim⟩

theorem Regd_fdStep {s s' : St} (hs : FdStep s s') : ∀ p, Regd s' p ↔ Regd s p := by
  obtain ⟨⟨F, N, K, P, a, b, rfl⟩, hsim⟩ := hs
  exact Regd_of (fun f => (hsim f).1) rfl rfl (fun _ => rfl) (fun _ => rfl)

theorem notifyFd_step (s : St) (f : Nat) : FdStep s (notifyFd s f) :=
  ⟨⟨_, _, _, _, _, _, notifyFd_frame s f⟩, fun g => by rw [notifyFd_obj]; exact ⟨rfl, rfl⟩⟩

theorem setObj_step (s : St) (f : Nat) (o' : FdObj) (h1 : o'.registered = (s.fds f).registered)
    (h2 : o'.live = (s.fds f).live) : FdStep s { s with fds := upd s.fds f o' } :=
  ⟨⟨_, s.notify, s.kint, s.pfds, s.numobjs, s.numfds, rfl⟩,
   fun g => ⟨upd_flag_same FdObj.registered s.fds f o' h1 g, upd_flag_same FdObj.live s.fds f o' h2 g⟩⟩

theorem ProofsC01.RawInv.kick_iff {fds : FdId → FdObj} {raws : RawId → RawObj} {u c} (h : RawInv fds raws u c) :
    (raws 0).registered = true ↔ 1 ≤ c ∧ u = true := by
  rw [h.2.1]; simp [and_comm]

theorem ProofsC01.RawInv.other {fds fds' : FdId → FdObj} {raws u c} (h : RawInv fds raws u c) (f : Nat) (hf : f < 1000)
    (hr : ∀ g, g ≠ f → (fds' g).registered = (fds g).registered) : RawInv fds' raws u c := by
  refine ⟨fun r => ?_, h.2.1, h.2.2⟩
  rw [hr (rawFd r) (rawFd_ne hf)]
  exact h.1 r

/-- The object of an unregistered user descriptor may be rewritten freely as long as it stays unregistered
(`IV_FD_INIT`, `free`, a refused `iv_fd_register_try`); `Core` does not read the notify list. -/
theorem fdMem {s : St} {f : Nat} (o' : FdObj) (nt : List FdId) (hI : Core s) (hf : f < 1000)
    (hun : (s.fds f).registered = false) (h1 : o'.registered = false) :
    Core { s with fds := upd s.fds f o', notify := nt } ∧
    ∀ q, Regd { s with fds := upd s.fds f o', notify := nt } q ↔ Regd s q := by
  have hr := upd_flag_same FdObj.registered s.fds f o' (h1.trans hun.symm)
  have hne : ∀ g, (s.fds g).registered = true ∨ 1000 ≤ g → g ≠ f := by
    rintro g (hg | hg) rfl
    · rw [hun] at hg; cases hg
    · omega_ids
  have hfl : FdLive (upd s.fds f o') :=
    ⟨fun g hg => by rw [upd_ne _ _ (hne g (Or.inl ((hr g).symm.trans hg)))]; exact hI.fl.1 g ((hr g).symm.trans hg),
     fun g hg => by rw [upd_ne _ _ (hne g (Or.inr hg))]; exact hI.fl.2 g hg⟩
  refine ⟨⟨hI.shape, hI.inv.setFds rfl hfl (fun g hg => (hr g).trans hg),
    ⟨fun r => (hr _).trans (hI.raw.1 r), hI.raw.2.1, hI.raw.2.2⟩⟩, Regd_of hr rfl rfl (fun _ => rfl) (fun _ => rfl)⟩

def FlagAt (f : Nat) (b : Bool) (fds fds' : FdId → FdObj) : Prop :=
  ∀ g, (fds' g).registered = (if g = f then b else (fds g).registered) ∧ (fds' g).live = (fds g).live

theorem FlagAt.user {r b x y} (h : FlagAt (rawFd r) b x y) (f : Nat) (hf : f < 1000) :
    (y f).registered = (x f).registered := by
  rw [(h f).1, if_neg (rawFd_ne hf).symm]

theorem FlagAt.sim {f b x y z} (h : FlagAt f b x y) (hs : SameRegLive y z) : FlagAt f b x z :=
  fun g => ⟨(hs g).1.trans (h g).1, (hs g).2.trans (h g).2⟩

/-- `iv_fd_register_prologue`, or the first line of `iv_fd_unregister`: the object of `f` is rewritten -/
theorem FlagAt.upd {fds : FdId → FdObj} {f : Nat} {b : Bool} {o : FdObj} (h1 : o.registered = b)
    (h2 : o.live = (fds f).live) : FlagAt f b fds (upd fds f o) := by
  intro g
  rw [upd_apply]
  split
  · next hg => subst hg; exact ⟨h1, h2⟩
  · exact ⟨rfl, rfl⟩

theorem fdRegisterCore_regAt (s : St) (f : Nat) (a b c : Bool) : FlagAt f true s.fds (fdRegisterCore s f a b c).fds :=
  (FlagAt.upd (o := ProofsC02.regObj (s.fds f) a b c) rfl rfl).sim fun g => by
    rw [ProofsC02.fdRegisterCore_obj]; exact ⟨rfl, rfl⟩

theorem trySucc_regAt (s : St) (f : Nat) (a b c : Bool) : FlagAt f true s.fds (ProofsC02.trySucc s f a b c).fds :=
  (FlagAt.upd (o := ProofsC02.regObj (s.fds f) a b c) rfl rfl).sim fun g => by
    rw [ProofsC02.trySucc_obj]; exact ⟨rfl, rfl⟩

theorem fdUnregisterCore_unregAt (s : St) (f : Nat) : FlagAt f false s.fds (fdUnregisterCore s f).fds :=
  (FlagAt.upd (o := { (s.fds f) with registered := false }) rfl rfl).sim fun g => by
    rw [ProofsC02.fdUnregisterCore_obj]; exact ⟨rfl, rfl⟩

theorem CInv.regAt {f : Nat} {s s' : St} (h : CInv (view s)) (hfo : FdOnly s s') (hra : FlagAt f true s.fds s'.fds)
    (hlive : (s.fds f).live = true) : CInv (view s') := by
  obtain ⟨F, N, K, P, a, b, rfl⟩ := hfo
  refine h.setFds rfl ⟨fun g hg => ?_, fun g hg => ?_⟩ (fun g hg => ?_)
  · show (F g).live = true
    rw [(hra g).2]
    by_cases hgf : g = f
    · rw [hgf]; exact hlive
    · exact h.fl.1 g (((hra g).1.trans (if_neg hgf)).symm.trans hg)
  · show (F g).live = true
    rw [(hra g).2]; exact h.fl.2 g hg
  · show (F g).registered = true
    rw [(hra g).1]
    split
    · rfl
    · exact hg

theorem Regd_regAt {f : Nat} {s s' : St} (hfo : FdOnly s s') (hra : FlagAt f true s.fds s'.fds) (hf : f < 1000) :
    ∀ q, Regd s' q ↔ (q = (0, f) ∨ Regd s q) := by
  obtain ⟨F, N, K, P, a, b, rfl⟩ := hfo
  apply Regd_cases <;> intro x <;> simp [Regd5]
  rw [(hra x).1]
  split
  · next hx => subst hx; simp [hf]
  · next hx => simp [hx]

theorem Core.regAt {f : Nat} {s s' : St} (hI : Core s) (hfo : FdOnly s s') (hra : FlagAt f true s.fds s'.fds)
    (hlive : (s.fds f).live = true) (hf : f < 1000) : Core s' ∧ ∀ q, Regd s' q ↔ (q = (0, f) ∨ Regd s q) := by
  refine ⟨⟨?_, hI.inv.regAt hfo hra hlive, ?_⟩, Regd_regAt hfo hra hf⟩
  · rw [hfo.pc, hfo.stack, hfo.handled]; exact hI.shape
  · obtain ⟨F, N, K, P, a, b, rfl⟩ := hfo
    exact hI.raw.other f hf (fun g hg => (hra g).1.trans (if_neg hg))

theorem flat_erase_sub (fr : Frame → List Nat) (e : Frame → Nat → Frame) (he : ∀ x k, fr (e x k) = (fr x).erase k)
    (st : List Frame) (k : Nat) : ((st.map (e · k)).flatMap fr).Sublist (st.flatMap fr) := by
  induction st with
  | nil => simp
  | cons x st ih =>
    simp only [List.map_cons, List.flatMap_cons, he]
    exact List.Sublist.append List.erase_sublist ih

theorem flat_erase_mem (fr : Frame → List Nat) (e : Frame → Nat → Frame) (he : ∀ x k, fr (e x k) = (fr x).erase k)
    (st : List Frame) (k : Nat) (hnd : (st.flatMap fr).Nodup) (y : Nat) :
    y ∈ (st.map (e · k)).flatMap fr ↔ (y ≠ k ∧ y ∈ st.flatMap fr) := by
  induction st with
  | nil => simp
  | cons x st ih =>
    simp only [List.map_cons, List.flatMap_cons, he, List.mem_append] at hnd ⊢
    rw [List.nodup_append] at hnd
    rw [ih hnd.2.1, List.Nodup.mem_erase_iff hnd.1]
    constructor
    · rintro (⟨h1, h2⟩ | ⟨h1, h2⟩)
      · exact ⟨h1, Or.inl h2⟩
      · exact ⟨h1, Or.inr h2⟩
    · rintro ⟨h1, h2 | h2⟩
      · exact Or.inl ⟨h1, h2⟩
      · exact Or.inr ⟨h1, h2⟩

theorem erase_both (fr : Frame → List Nat) (e : Frame → Nat → Frame) (he : ∀ x k, fr (e x k) = (fr x).erase k)
    (l : List Nat) (st : List Frame) (k : Nat) (hnd : (l ++ st.flatMap fr).Nodup) :
    (l.erase k ++ (st.map (e · k)).flatMap fr).Sublist (l ++ st.flatMap fr) ∧
    ∀ x, x ∈ l.erase k ++ (st.map (e · k)).flatMap fr ↔ (x ≠ k ∧ x ∈ l ++ st.flatMap fr) := by
  have hnd2 := List.nodup_append.1 hnd
  refine ⟨List.Sublist.append List.erase_sublist (flat_erase_sub fr e he st k), fun x => ?_⟩
  rw [List.mem_append, List.mem_append, flat_erase_mem fr e he st k hnd2.2.1, List.Nodup.mem_erase_iff hnd2.1]
  constructor
  · rintro (⟨h1, h2⟩ | ⟨h1, h2⟩)
    · exact ⟨h1, Or.inl h2⟩
    · exact ⟨h1, Or.inr h2⟩
  · rintro ⟨h1, h2 | h2⟩
    · exact Or.inl ⟨h1, h2⟩
    · exact Or.inr ⟨h1, h2⟩

/-- a rewrite `e` of the frames that leaves the projection `fr` of every frame alone; for `eraseTask`, `eraseEvent`,
`eraseActive`, `setTimerBatch` and the projections they do not touch that is a case distinction on the frame -/
theorem flat_map_same {α} (fr : Frame → List α) (e : Frame → Frame) (st : List Frame)
    (he : ∀ x, fr (e x) = fr x := by intro x; cases x <;> rfl) : (st.map e).flatMap fr = st.flatMap fr := by
  induction st with
  | nil => rfl
  | cons x st ih => simp only [List.map_cons, List.flatMap_cons, he, ih]

theorem allTasks_erase (st : List Frame) (f : Nat) : allTasks (st.map (eraseActive · f)) = allTasks st :=
  flat_map_same frTasks _ st
theorem allEvents_erase (st : List Frame) (f : Nat) : allEvents (st.map (eraseActive · f)) = allEvents st :=
  flat_map_same frEvents _ st
theorem allFd_erase (st : List Frame) (f : Nat) : allFd (st.map (eraseActive · f)) = allFd st :=
  flat_map_same frFd _ st

theorem frActive_erase (x : Frame) (f : Nat) : frActive (eraseActive x f) = (frActive x).erase f := by
  cases x <;> simp [eraseActive]

theorem allActive_erase_sub (st : List Frame) (f : Nat) :
    (allActive (st.map (eraseActive · f))).Sublist (allActive st) :=
  flat_erase_sub frActive eraseActive frActive_erase st f

theorem allActive_erase_not_mem (st : List Frame) (f : Nat) (h : (allActive st).Nodup) :
    f ∉ allActive (st.map (eraseActive · f)) :=
  fun hm => ((flat_erase_mem frActive eraseActive frActive_erase st f h f).1 hm).1 rfl

theorem UserSt_fd_pos {st : List Frame} (h : UserSt st) : ∀ c n, (c, n) ∈ allFd st → 1 ≤ n := by
  intro c n hcn
  rcases h with rfl | ⟨r, rfl⟩ | ⟨r, rfl⟩ | ⟨c', n', a, rt, rfl, hn⟩ | ⟨b, rest, rfl, hb⟩
  · simp at hcn
  · simp [frFd] at hcn
  · simp [frFd] at hcn
  · simp [frFd] at hcn; omega
  · rcases hb with ⟨r, rfl⟩ | ⟨a, rt, rfl⟩ | ⟨c', n', a, rt, rfl, hn⟩
    · simp [frFd] at hcn
    · simp [frFd] at hcn
    · simp [frFd] at hcn; omega

theorem fdUnregisterCore_spec {s : St} {f : Nat} (h : CInv (view s))
    (hpos : ∀ c n, (c, n) ∈ allFd s.stack → 1 ≤ n) : CInv (view (fdUnregisterCore s f)) := by
  have hu := fdUnregisterCore_unregAt s f
  have hfl : FdLive s.fds := h.fl
  have hact : ActInv s.fds (allActive s.stack) := h.act
  have hhd : HdInv s.fds s.handled (allFd s.stack) := h.hd
  have hcur : ∀ p ∈ allFd s.stack, p.1 ∉ allActive s.stack := h.cur
  generalize hX : fdUnregisterCore s f = X at hu ⊢
  rw [fdUnregisterCore_frame] at hX
  subst hX
  generalize (fdUnregisterCore s f).fds = F at hu
  refine ⟨?_, ?_, ?_, ?_, ?_, ?_, ?_⟩
  · exact h.tm
  · show TkInv s.tasks (allTasks (s.stack.map (eraseActive · f))) s.tobjs
    rw [allTasks_erase]; exact h.tk
  · show EvInv s.pending (allEvents (s.stack.map (eraseActive · f))) s.evs
    rw [allEvents_erase]; exact h.ev
  · show FdLive F
    refine ⟨fun g hg => ?_, fun g hg => ?_⟩
    · rw [(hu g).2]
      have := (hu g).1
      rw [hg] at this
      split at this
      · simp at this
      · exact hfl.1 g this.symm
    · rw [(hu g).2]; exact hfl.2 g hg
  · show ActInv F (allActive (s.stack.map (eraseActive · f)))
    refine ⟨hact.1.sublist (allActive_erase_sub _ f), ?_⟩
    intro g hg
    have hgf : g ≠ f := fun hh => allActive_erase_not_mem s.stack f hact.1 (hh ▸ hg)
    rw [(hu g).1]
    simp only [hgf, if_false]
    exact hact.2 g ((allActive_erase_sub _ f).subset hg)
  · show HdInv F (if s.handled == some f then none else s.handled) (allFd (s.stack.map (eraseActive · f)))
    rw [allFd_erase]
    refine ⟨?_, ?_⟩
    · intro c n hcn
      have hn := hpos c n hcn
      refine ⟨fun h0 => by omega, ?_⟩
      intro x hx
      split at hx
      · simp at hx
      · exact (hhd.1 c n hcn).2 x hx
    · intro x hx
      split at hx
      · simp at hx
      · next hne =>
        have hxf : x ≠ f := by
          rintro rfl
          simp [hx] at hne
        rw [(hu x).1]
        simp only [hxf, if_false]
        exact hhd.2 x hx
  · show ∀ p ∈ allFd (s.stack.map (eraseActive · f)), p.1 ∉ allActive (s.stack.map (eraseActive · f))
    rw [allFd_erase]
    exact fun p hp hm => hcur p hp ((allActive_erase_sub _ f).subset hm)

/-- the records an API call may emit, and what it does to the registered sets; it keeps `Core` -/
def ApiSpec (a : Api) (s s' : St) (outs : List Out) : Prop :=
  Core s' ∧ ((∃ m, outs = [.fatal m]) ∨
    match classify a with
    | .reg p => (outs = [.ret 0] ∧ ∀ q, Regd s' q ↔ (q = p ∨ Regd s q)) ∨
                (∃ v, v ≠ 0 ∧ outs = [.ret v] ∧ ∀ q, Regd s' q ↔ Regd s q)
    | .unreg p => QuietOuts outs ∧ ∀ q, Regd s' q ↔ (q ≠ p ∧ Regd s q)
    | .other => QuietOuts outs ∧ ∀ q, Regd s' q ↔ Regd s q)

theorem ApiSpec.other {a s s' outs} (hc : classify a = .other) (hq : QuietOuts outs) (hI : Core s')
    (hr : ∀ q, Regd s' q ↔ Regd s q) : ApiSpec a s s' outs := by
  refine ⟨hI, Or.inr ?_⟩
  rw [hc]
  exact ⟨hq, hr⟩

theorem ApiSpec.fatal {a s m} (hI : Core s) : ApiSpec a s { s with pc := .dead } [.fatal m] := ⟨hI.dead, Or.inl ⟨m, rfl⟩⟩

theorem ApiSpec.guard {a s s' outs} {c : Prop} [Decidable c] {msg : String} {x : St × List Out} (hI : Core s)
    (h : (if c then Ivy.L1.fatal s msg else x) = (s', outs)) (hx : ¬ c → x = (s', outs) → ApiSpec a s s' outs) :
    ApiSpec a s s' outs := by
  by_cases hc : c
  · rw [if_pos hc] at h; cases h; exact .fatal hI
  · rw [if_neg hc] at h; exact hx hc h

theorem ApiSpec.same {a s s' outs} (hc : classify a = .other) (hq : QuietOuts outs) (hI : Core s)
    (hs : Shape s'.pc s'.stack s'.handled) (hv : view s' = view s) : ApiSpec a s s' outs :=
  .other hc hq (hI.of_view hs hv) (Regd_congr hv)

theorem ApiSpec.validateNow {s s' outs} (hI : Core s) (hpc : s.pc = .user)
    (h : api s .validateNow = (s', outs)) : ApiSpec .validateNow s s' outs := by
  have hsh := hI.shape
  simp only [api] at h
  split at h <;> cases h
  · exact .same rfl (by simp) hI hsh rfl
  · rw [hpc] at hsh
    exact .same rfl (by simp) hI hsh rfl

theorem ApiSpec.main {s s' outs} (hI : Core s) (h : api s .main = (s', outs)) : ApiSpec .main s s' outs := by
  simp only [api] at h
  split at h
  · next hst =>
    cases h
    exact .same rfl (by simp) hI (by simp [Shape, hst]) rfl
  · simp only [Ivy.L1.fatal] at h
    cases h
    exact .fatal hI

/-- `iv_event_post`: a registered event that is on no list joins the pending list -/
theorem ProofsC01.EvInv.post {p fr : List EvId} {evs : EvId → EvObj} {e : Nat} (h : EvInv p fr evs) (he : e ∉ p ++ fr)
    (hreg : (evs e).registered = true) : EvInv (p ++ [e]) fr evs := by
  obtain ⟨hnd, hr, hlv⟩ := h
  have hperm : ((p ++ [e]) ++ fr).Perm (e :: (p ++ fr)) := by simp
  refine ⟨hperm.nodup_iff.2 (List.nodup_cons.2 ⟨he, hnd⟩), fun x hx => ?_, hlv⟩
  rcases List.mem_cons.1 (hperm.mem_iff.1 hx) with rfl | hx'
  · exact hreg
  · exact hr x hx'

theorem Core.tasksChange {s : St} (hI : Core s) (tk' : List TaskId) (st' : List Frame) (no' : Int)
    (hshape : Shape s.pc st' s.handled)
    (hviews : allTimers st' = allTimers s.stack ∧ allEvents st' = allEvents s.stack ∧
      allActive st' = allActive s.stack ∧ allFd st' = allFd s.stack)
    (htk : TkInv tk' (allTasks st') s.tobjs) : Core { s with tasks := tk', stack := st', numobjs := no' } := by
  obtain ⟨h1, h2, h3, h4⟩ := hviews
  exact ⟨hshape, hI.inv.setTk (by simp only [view, h1, h2, h3, h4]) htk, hI.raw⟩

theorem taskRegisterCore_user (s : St) (k : Nat) (hus : UserSt s.stack) :
    (taskRegisterCore s k = { s with numobjs := s.numobjs + 1, tasks := s.tasks ++ [k] }) ∨
    (∃ r, s.stack = [.tasks r] ∧
      taskRegisterCore s k = { s with numobjs := s.numobjs + 1, stack := [.tasks (r ++ [k])] }) ∨
    (∃ b r, s.stack = [.events b, .tasks r] ∧
      taskRegisterCore s k = { s with numobjs := s.numobjs + 1, stack := [.events b, .tasks (r ++ [k])] }) := by
  rcases taskRegisterCore_cases s k with h | ⟨hin, _, h⟩
  · exact Or.inl h
  · rw [h]
    rcases hus with hst | ⟨r, hst⟩ | ⟨r, hst⟩ | ⟨c, n, a, rt, hst, hn⟩ | ⟨b, rest, hst, hb⟩
    · simp [inRunTasks, hst] at hin
    · simp [inRunTasks, hst] at hin
    · exact Or.inr (Or.inl ⟨r, hst, by simp [hst, appendTaskBatch]⟩)
    · simp [inRunTasks, hst] at hin
    · rcases hb with ⟨r, rfl⟩ | ⟨a, rt, rfl⟩ | ⟨c', n', a, rt, rfl, hn⟩
      · exact Or.inr (Or.inr ⟨b, r, hst, by simp [hst, appendTaskBatch]⟩)
      · simp [inRunTasks, hst] at hin
      · simp [inRunTasks, hst] at hin

theorem ProofsC01.TkInv.add {tasks fr : List TaskId} {tobjs : TaskId → TaskObj} {tasks' fr' : List TaskId} {k : Nat}
    (h : TkInv tasks fr tobjs) (hk : k ∉ tasks ++ fr) (hlive : (tobjs k).live = true)
    (hperm : (tasks' ++ fr').Perm (k :: (tasks ++ fr))) : TkInv tasks' fr' tobjs := by
  refine ⟨hperm.nodup_iff.2 (List.nodup_cons.2 ⟨hk, h.1⟩), ?_, h.2.2⟩
  intro x hx
  have := hperm.mem_iff.1 hx
  rcases List.mem_cons.1 this with rfl | hx'
  · exact hlive
  · exact h.2.1 x hx'

/-- `iv_task_register` body: the task joins exactly one list -/
theorem taskRegisterCore_inv {s : St} {k : Nat} (hI : Core s) (hpc : s.pc = .user)
    (hk : k ∉ s.tasks ++ allTasks s.stack) (hlive : (s.tobjs k).live = true) :
    Core (taskRegisterCore s k) ∧ ∀ q, Regd (taskRegisterCore s k) q ↔ ((1 ≤ k ∧ q = (2, k)) ∨ Regd s q) := by
  have hsh := hI.shape
  rw [hpc] at hsh
  simp only [Shape] at hsh
  have htk := hI.tk
  rcases taskRegisterCore_user s k hsh with h | ⟨r, hst, h⟩ | ⟨b, r, hst, h⟩ <;> rw [h]
  · refine ⟨hI.tasksChange _ _ _ (by simpa [hpc, Shape] using hsh) ⟨rfl, rfl, rfl, rfl⟩ ?_,
      Regd_task_add rfl rfl rfl rfl (fun x => ?_)⟩
    · exact htk.add hk hlive (by simp)
    · simp only [List.mem_append, List.mem_cons, List.not_mem_nil, or_false]; grind
  · rw [hst] at htk hk
    refine ⟨hI.tasksChange _ _ _ (by simp [hpc, Shape, UserSt]) (by simp [hst]) ?_,
      Regd_task_add rfl rfl rfl rfl (fun x => ?_)⟩
    · refine htk.add hk hlive ?_
      simp
      rw [← List.append_assoc]
      exact List.perm_middle.trans (by simp)
    · simp [hst]; grind
  · rw [hst] at htk hk
    refine ⟨hI.tasksChange _ _ _ ?_ (by simp [hst]) ?_, Regd_task_add rfl rfl rfl rfl (fun x => ?_)⟩
    · rw [hpc]
      exact Or.inr (Or.inr (Or.inr (Or.inr ⟨b, _, rfl, Or.inl ⟨_, rfl⟩⟩)))
    · refine htk.add hk hlive ?_
      simp
      rw [← List.append_assoc]
      exact List.perm_middle.trans (by simp)
    · simp [hst]; grind

theorem ApiSpec.taskRegister {s s' outs} {k : Nat} (hI : Core s) (hpc : s.pc = .user)
    (henv : envOk s (.api (.taskRegister k)) = true)
    (h : api s (.taskRegister k) = (s', outs)) : ApiSpec (.taskRegister k) s s' outs := by
  simp only [envOk, apiOk, apiLive, Bool.and_eq_true, decide_eq_true_eq] at henv
  rcases api_taskRegister_cases s k with ⟨-, m, e⟩ | ⟨hon, e⟩ <;> rw [e] at h <;> cases h
  · exact .fatal hI
  have hk : k ∉ s.tasks ++ allTasks s.stack :=
    fun hh => Bool.noConfusion (hon.symm.trans ((taskOnList_iff s k).2 hh))
  obtain ⟨hInv, hr⟩ := taskRegisterCore_inv hI hpc hk henv.2
  exact ⟨hInv, Or.inr (Or.inl ⟨rfl, fun q => (hr q).trans (by simp [henv.1])⟩)⟩

def KeepsKind (e : Frame → Frame) : Prop :=
  (∀ r, ∃ r', e (.timers r) = .timers r') ∧ (∀ r, ∃ r', e (.tasks r) = .tasks r') ∧
  (∀ a rt, ∃ a', e (.poll a rt) = .poll a' rt) ∧ (∀ c n, e (.fd c n) = .fd c n) ∧
  (∀ b, ∃ b', e (.events b) = .events b')

theorem Base_map {st : List Frame} {e : Frame → Frame} (he : KeepsKind e) (h : Base st) : Base (st.map e) := by
  obtain ⟨h1, h2, h3, h4, h5⟩ := he
  rcases h with ⟨r, rfl⟩ | ⟨a, rt, rfl⟩ | ⟨c, n, a, rt, rfl, hn⟩
  · obtain ⟨r', hr⟩ := h2 r
    exact Or.inl ⟨r', by simp [hr]⟩
  · obtain ⟨a', ha⟩ := h3 a rt
    exact Or.inr (Or.inl ⟨a', rt, by simp [ha]⟩)
  · obtain ⟨a', ha⟩ := h3 a rt
    exact Or.inr (Or.inr ⟨c, n, a', rt, by simp [ha, h4], hn⟩)

theorem UserSt_map {st : List Frame} {e : Frame → Frame} (he : KeepsKind e) (h : UserSt st) : UserSt (st.map e) := by
  have hb := @Base_map
  obtain ⟨h1, h2, h3, h4, h5⟩ := he
  rcases h with rfl | ⟨r, rfl⟩ | ⟨r, rfl⟩ | ⟨c, n, a, rt, rfl, hn⟩ | ⟨b, rest, rfl, hbase⟩
  · exact Or.inl rfl
  · obtain ⟨r', hr⟩ := h1 r
    exact Or.inr (Or.inl ⟨r', by simp [hr]⟩)
  · obtain ⟨r', hr⟩ := h2 r
    exact Or.inr (Or.inr (Or.inl ⟨r', by simp [hr]⟩))
  · obtain ⟨a', ha⟩ := h3 a rt
    exact Or.inr (Or.inr (Or.inr (Or.inl ⟨c, n, a', rt, by simp [ha, h4], hn⟩)))
  · obtain ⟨b', hb'⟩ := h5 b
    exact Or.inr (Or.inr (Or.inr (Or.inr ⟨b', _, by simp [hb'], hb ⟨h1, h2, h3, h4, h5⟩ hbase⟩)))

theorem keepsKind_eraseTask (k : Nat) : KeepsKind (eraseTask · k) :=
  ⟨fun r => ⟨r, rfl⟩, fun _ => ⟨_, rfl⟩, fun a _ => ⟨a, rfl⟩, fun _ _ => rfl, fun b => ⟨b, rfl⟩⟩
theorem keepsKind_eraseEvent (k : Nat) : KeepsKind (eraseEvent · k) :=
  ⟨fun r => ⟨r, rfl⟩, fun r => ⟨r, rfl⟩, fun a _ => ⟨a, rfl⟩, fun _ _ => rfl, fun _ => ⟨_, rfl⟩⟩
theorem keepsKind_setTimerBatch (b : List Nat) : KeepsKind (setTimerBatch · b) :=
  ⟨fun _ => ⟨_, rfl⟩, fun r => ⟨r, rfl⟩, fun a _ => ⟨a, rfl⟩, fun _ _ => rfl, fun b => ⟨b, rfl⟩⟩

theorem ApiSpec.taskUnregister {s s' outs} {k : Nat} (hI : Core s) (hpc : s.pc = .user)
    (h : api s (.taskUnregister k) = (s', outs)) : ApiSpec (.taskUnregister k) s s' outs := by
  have hsh := hI.shape
  rw [hpc] at hsh
  simp only [Shape] at hsh
  rcases api_taskUnregister_cases s k with ⟨-, m, e⟩ | ⟨-, e⟩ <;> rw [e] at h <;> cases h
  · exact .fatal hI
  obtain ⟨hnd, hlv, h0⟩ := hI.tk
  obtain ⟨hsub, hmem⟩ := erase_both frTasks eraseTask (fun x k => by cases x <;> simp [eraseTask]) s.tasks s.stack k hnd
  have hInv : Core { s with numobjs := s.numobjs - 1, tasks := s.tasks.erase k, stack := s.stack.map (eraseTask · k) } := by
    refine hI.tasksChange _ _ _ ?_ ⟨?_, ?_, ?_, ?_⟩ ⟨?_, ?_, h0⟩
    · rw [hpc]; exact UserSt_map (keepsKind_eraseTask k) hsh
    · exact flat_map_same frTimers _ s.stack
    · exact flat_map_same frEvents _ s.stack
    · exact flat_map_same frActive _ s.stack
    · exact flat_map_same frFd _ s.stack
    · exact hnd.sublist hsub
    · exact fun x hx => hlv x ((hmem x).1 hx).2
  exact ⟨hInv, Or.inr ⟨by simp, Regd_task_del rfl rfl rfl rfl hmem⟩⟩

theorem ApiSpec.taskInit {s s' outs} {k : Nat} (hI : Core s)
    (h : api s (.taskInit k) = (s', outs)) : ApiSpec (.taskInit k) s s' outs := by
  cases (api_taskInit_eq s k).symm.trans h
  have hlv := upd_flag_same TaskObj.live s.tobjs k { (s.tobjs k) with epoch := s.taskEpoch } rfl
  obtain ⟨hnd, hl, h0⟩ := hI.tk
  exact .other rfl (by simp) ⟨hI.shape, hI.inv.setTk rfl ⟨hnd, fun x hx => (hlv x).trans (hl x hx), (hlv 0).trans h0⟩, hI.raw⟩
    (Regd_frames rfl rfl rfl rfl rfl)

theorem Core.heapChange {s : St} (hI : Core s) (h' : Store) (st' : List Frame) (no' : Int)
    (hshape : Shape s.pc st' s.handled)
    (hviews : allTasks st' = allTasks s.stack ∧ allEvents st' = allEvents s.stack ∧
      allActive st' = allActive s.stack ∧ allFd st' = allFd s.stack)
    (htm : TmLive h' s.tlive) : Core { s with heap := h', stack := st', numobjs := no' } := by
  obtain ⟨h1, h2, h3, h4⟩ := hviews
  exact ⟨hshape, hI.inv.setTm (by simp only [view, h1, h2, h3, h4]) htm, hI.raw⟩

theorem ApiSpec.timerRegister {s s' outs} {t : Nat} {e : TS} (hI : Core s)
    (henv : envOk s (.api (.timerRegister t e)) = true)
    (h : api s (.timerRegister t e) = (s', outs)) : ApiSpec (.timerRegister t e) s s' outs := by
  simp only [envOk, apiOk, apiLive, Bool.and_eq_true, decide_eq_true_eq] at henv
  obtain ⟨⟨⟨⟨htsz, _⟩, _⟩, _⟩, htl⟩ := henv
  obtain ⟨hh, hlv⟩ := hI.tm
  simp only [api] at h
  rcases Proofs.register_cases e hh htsz with ⟨-, h', hr, hh', hon, -, -, -, hoth⟩ | hr <;> rw [hr] at h <;> cases h
  · have key := Proofs.nonneg_register hoth hon
    refine ⟨?_, Or.inr (Or.inl ⟨rfl, ?_⟩)⟩
    · refine hI.heapChange h' s.stack _ hI.shape ⟨rfl, rfl, rfl, rfl⟩ ⟨hh', fun u hu => ?_⟩
      rcases (key u).1 hu with rfl | hu'
      · exact htl
      · exact hlv u hu'
    · apply Regd_cases <;> intro x <;> simp [Regd5]
      simpa [Array.getD_eq_getD_getElem?] using key x
  · exact .fatal hI

theorem ApiSpec.timerUnregister {s s' outs} {t : Nat} (hI : Core s) (hpc : s.pc = .user)
    (henv : envOk s (.api (.timerUnregister t)) = true)
    (h : api s (.timerUnregister t) = (s', outs)) : ApiSpec (.timerUnregister t) s s' outs := by
  simp only [envOk, apiOk, apiLive, Bool.and_eq_true, decide_eq_true_eq] at henv
  obtain ⟨htsz, htl⟩ := henv
  have hsh := hI.shape
  have hus : UserSt s.stack := by rw [hpc] at hsh; exact hsh
  obtain ⟨hh, hlv⟩ := hI.tm
  have hviews : ∀ b, allTasks (s.stack.map (setTimerBatch · b)) = allTasks s.stack ∧
      allEvents (s.stack.map (setTimerBatch · b)) = allEvents s.stack ∧
      allActive (s.stack.map (setTimerBatch · b)) = allActive s.stack ∧
      allFd (s.stack.map (setTimerBatch · b)) = allFd s.stack := fun b =>
    ⟨flat_map_same frTasks _ _, flat_map_same frEvents _ _,
     flat_map_same frActive _ _, flat_map_same frFd _ _⟩
  have hshape : ∀ b, Shape s.pc (s.stack.map (setTimerBatch · b)) s.handled := by
    intro b; rw [hpc]; exact UserSt_map (keepsKind_setTimerBatch b) hus
  simp only [api] at h
  rcases Proofs.unregister_cases (timerBatch s) hh htsz with hr | ⟨ht0, hr⟩ | ⟨-, h', hr, hh', ht', -, -, hoth⟩ <;>
    rw [hr] at h <;> cases h
  · exact .fatal hI
  · exact ⟨hI.heapChange _ _ _ (hshape _) (hviews _)
        ⟨Proofs.expire_inv hh ht0, fun u hu => hlv u ((Proofs.nonneg_unmark _ t u).1 hu).2⟩,
      Or.inr ⟨by simp, Regd_timer_del rfl rfl rfl (congrArg _ (hviews _).1) (Proofs.nonneg_unmark _ t)⟩⟩
  · have key := Proofs.nonneg_unregister hoth ht'
    exact ⟨hI.heapChange _ _ _ (hshape _) (hviews _) ⟨hh', fun u hu => hlv u ((key u).1 hu).2⟩,
      Or.inr ⟨by simp, Regd_timer_del rfl rfl rfl (congrArg _ (hviews _).1) key⟩⟩

theorem ApiSpec.fdRegister {s s' outs} {f : Nat} {a b c : Bool} (hI : Core s)
    (henv : envOk s (.api (.fdRegister f a b c)) = true)
    (h : api s (.fdRegister f a b c) = (s', outs)) : ApiSpec (.fdRegister f a b c) s s' outs := by
  simp only [envOk, apiOk, apiLive, Bool.and_eq_true, decide_eq_true_eq] at henv
  simp only [api] at h
  refine ApiSpec.guard hI h (fun hun h => ?_)
  simp only [ok] at h
  cases h
  obtain ⟨hInv, hr⟩ := hI.regAt ⟨_, _, s.kint, _, _, _, fdRegisterCore_frame s f a b c⟩
    (fdRegisterCore_regAt s f a b c) henv.2 (by omega_ids)
  exact ⟨hInv, Or.inr (Or.inl ⟨rfl, hr⟩)⟩

theorem ApiSpec.fdRegisterTry {s s' outs} {f : Nat} {a b c k : Bool} (hI : Core s)
    (henv : envOk s (.api (.fdRegisterTry f a b c k)) = true)
    (h : api s (.fdRegisterTry f a b c k) = (s', outs)) : ApiSpec (.fdRegisterTry f a b c k) s s' outs := by
  simp only [envOk, apiOk, apiLive, Bool.and_eq_true, decide_eq_true_eq] at henv
  have hf : f < 1000 := by omega_ids
  rw [api] at h
  refine ApiSpec.guard hI h (fun hun h => ?_)
  have hun' : (s.fds f).registered = false := by simpa using hun
  split at h
  · -- the kernel refused
    extract_lets o o1 at h
    cases h
    obtain ⟨hInv, hr⟩ := fdMem o1 (s.notify.erase f) hI hf hun' rfl
    exact ⟨hInv, Or.inr (Or.inr ⟨-1, by decide, rfl, hr⟩)⟩
  · replace h : (ProofsC02.trySucc s f a b c, [Out.ret 0]) = (s', outs) := h
    cases h
    obtain ⟨hInv, hr⟩ := hI.regAt ⟨_, _, _, _, _, _, ProofsC02.trySucc_frame s f a b c⟩ (trySucc_regAt s f a b c) henv.2 hf
    exact ⟨hInv, Or.inr (Or.inl ⟨rfl, hr⟩)⟩

theorem keepsKind_eraseActive (k : Nat) : KeepsKind (eraseActive · k) :=
  ⟨fun r => ⟨r, rfl⟩, fun r => ⟨r, rfl⟩, fun _ _ => ⟨_, rfl⟩, fun _ _ => rfl, fun b => ⟨b, rfl⟩⟩

theorem ProofsC01.UserSt_erase {st : List Frame} (f : Nat) (h : UserSt st) : UserSt (st.map (eraseActive · f)) :=
  UserSt_map (keepsKind_eraseActive f) h

theorem ApiSpec.fdUnregister {s s' outs} {f : Nat} (hI : Core s) (hpc : s.pc = .user)
    (henv : envOk s (.api (.fdUnregister f)) = true)
    (h : api s (.fdUnregister f) = (s', outs)) : ApiSpec (.fdUnregister f) s s' outs := by
  simp only [envOk, apiOk, apiLive, Bool.and_eq_true, decide_eq_true_eq] at henv
  have hf : f < 1000 := by omega_ids
  have hsh := hI.shape
  rw [hpc] at hsh
  simp only [api] at h
  refine ApiSpec.guard hI h (fun hreg h => ?_)
  simp only [ok] at h
  cases h
  have hu := fdUnregisterCore_unregAt s f
  have hv := fdUnregisterCore_spec (f := f) hI.inv (UserSt_fd_pos hsh)
  rw [fdUnregisterCore_frame] at hv ⊢
  refine ⟨⟨?_, hv, hI.raw.other f hf (fun g hg => (hu g).1.trans (if_neg hg))⟩, Or.inr ⟨by simp, ?_⟩⟩
  · rw [hpc]
    exact UserSt_erase f hsh
  · apply Regd_cases <;> intro x <;> simp [Regd5, allTasks_erase]
    rw [(hu x).1]
    split
    · next hx => subst hx; simp
    · next hx => simp [hx]

/-- `iv_fd_set_handler_in/out/err`: the handler pointer changes, then `notify_fd` -/
theorem ApiSpec.fdSet {s s' outs} {a : Api} {f : Nat} (o' : FdObj) {msg : String} (hc : classify a = .other) (hI : Core s)
    (ho : o'.registered = (s.fds f).registered ∧ o'.live = (s.fds f).live)
    (h : (if (!(s.fds f).registered) = true then Ivy.L1.fatal s msg
      else ok (notifyFd { s with fds := upd s.fds f o' } f)) = (s', outs)) : ApiSpec a s s' outs := by
  refine ApiSpec.guard hI h (fun _ h => ?_)
  simp only [ok] at h
  cases h
  have hstep := (setObj_step s f o' ho.1 ho.2).trans (notifyFd_step _ f)
  exact .other hc (by simp) (hI.fdStep hstep) (Regd_fdStep hstep)

theorem rawRegisterCore_spec {s : St} {r : Nat} (h : CInv (view s)) :
    CInv (view (rawRegisterCore s r)) ∧ FlagAt (rawFd r) true s.fds (rawRegisterCore s r).fds := by
  have hv := h.regAt ⟨_, _, s.kint, _, _, _, fdRegisterCore_frame s (rawFd r) true false false⟩
    (fdRegisterCore_regAt s (rawFd r) true false false) (h.fl.2 _ (rawFd_ge r))
  exact ⟨hv.of_view rfl, fdRegisterCore_regAt s (rawFd r) true false false⟩

theorem ProofsC01.RawInv.setReg {fds fds' : FdId → FdObj} {raws : RawId → RawObj} {u c} {r : Nat} (b u' : Bool) (c' : Int)
    (h : RawInv fds raws u c)
    (hfd : ∀ g, (fds' g).registered = if g = rawFd r then b else (fds g).registered)
    (h0 : (if r = 0 then b else (raws 0).registered) = (u' && decide (1 ≤ c')))
    (hlive : b = true → 1 ≤ r → (raws r).live = true) :
    RawInv fds' (upd raws r { (raws r) with registered := b }) u' c' := by
  refine ⟨fun r' => ?_, ?_, fun r' h1 hreg => ?_⟩
  · rw [hfd, upd_apply]
    by_cases hrr : r' = r
    · subst hrr; simp
    · have : rawFd r' ≠ rawFd r := fun hh => hrr (rawFd_inj hh)
      simp only [this, hrr, if_false]
      exact h.1 r'
  · rw [← h0, upd_apply]
    by_cases hr : r = 0
    · subst hr; simp
    · simp [hr, Ne.symm hr]
  · rw [upd_apply] at hreg ⊢
    split
    · next hrr => subst hrr; exact hlive (by simpa using hreg) h1
    · next hrr => rw [if_neg hrr] at hreg; exact h.2.2 r' h1 hreg

theorem ApiSpec.rawRegister {s s' outs} {r : Nat} {okk : Bool} (hI : Core s)
    (henv : envOk s (.api (.rawRegister r okk)) = true)
    (h : api s (.rawRegister r okk) = (s', outs)) : ApiSpec (.rawRegister r okk) s s' outs := by
  simp only [envOk, apiOk, apiLive, Bool.and_eq_true, decide_eq_true_eq, Bool.not_eq_true'] at henv
  obtain ⟨⟨⟨hr1, _⟩, hun⟩, hlive⟩ := henv
  simp only [api] at h
  split at h
  · cases h
    exact ⟨hI, Or.inr (Or.inr ⟨-1, by decide, rfl, fun _ => Iff.rfl⟩)⟩
  · simp only [ok] at h
    cases h
    obtain ⟨hv, hra⟩ := rawRegisterCore_spec (r := r) hI.inv
    have hsh := hI.shape
    generalize hX : rawRegisterCore s r = X at hv hra ⊢
    rw [rawRegisterCore_frame] at hX
    subst hX
    have hraw := hI.raw.setReg true s.useRaw s.eventCount (fun g => (hra g).1)
      (by rw [if_neg (Nat.ne_of_gt hr1)]; exact hI.raw.2.1) (fun _ _ => hlive)
    refine ⟨⟨hsh, hv, hraw⟩, Or.inr (Or.inl ⟨rfl, ?_⟩)⟩
    apply Regd_cases <;> intro x <;> simp [Regd5]
    · intro hx; rw [hra.user x hx]
    · simp only [upd_apply]
      split
      · next hx => subst hx; simp [hr1]
      · next hx => simp [hx]

theorem rawUnregisterCore_spec {s : St} {r : Nat} (h : CInv (view s))
    (hpos : ∀ c n, (c, n) ∈ allFd s.stack → 1 ≤ n) :
    CInv (view (rawUnregisterCore s r)) ∧ FlagAt (rawFd r) false s.fds (rawUnregisterCore s r).fds :=
  ⟨(fdUnregisterCore_spec h hpos).of_view rfl, fdUnregisterCore_unregAt s (rawFd r)⟩

theorem ApiSpec.rawUnregister {s s' outs} {r : Nat} (hI : Core s) (hpc : s.pc = .user)
    (henv : envOk s (.api (.rawUnregister r)) = true)
    (h : api s (.rawUnregister r) = (s', outs)) : ApiSpec (.rawUnregister r) s s' outs := by
  simp only [envOk, apiOk, apiLive, Bool.and_eq_true, decide_eq_true_eq] at henv
  obtain ⟨⟨⟨hr1, _⟩, hreg⟩, hlive⟩ := henv
  have hsh := hI.shape
  rw [hpc] at hsh
  simp only [api] at h
  cases h
  obtain ⟨hv, hu⟩ := rawUnregisterCore_spec (r := r) hI.inv (UserSt_fd_pos hsh)
  generalize hX : rawUnregisterCore s r = X at hv hu ⊢
  rw [rawUnregisterCore_frame] at hX
  subst hX
  have hraw := hI.raw.setReg false s.useRaw s.eventCount (fun g => (hu g).1)
    (by rw [if_neg (Nat.ne_of_gt hr1)]; exact hI.raw.2.1) (fun h => by cases h)
  refine ⟨⟨?_, hv, hraw⟩, Or.inr ⟨by simp, ?_⟩⟩
  · rw [hpc]; exact UserSt_erase _ hsh
  · apply Regd_cases <;> intro x <;> simp [Regd5, allTasks_erase]
    · intro hx; rw [hu.user x hx]
    · simp only [upd_apply]
      split
      · next hx => subst hx; simp
      · next hx => simp [hx]

theorem ProofsC01.EvInv.setReg {p fr : List EvId} {evs : EvId → EvObj} {e : Nat} (h : EvInv p fr evs)
    (hlive : (evs e).live = true) : EvInv p fr (upd evs e { (evs e) with registered := true }) := by
  obtain ⟨hnd, hreg, hlv⟩ := h
  refine ⟨hnd, fun x hx => ?_, fun x hx => ?_⟩
  · simp only [upd_apply]
    split
    · rfl
    · exact hreg x hx
  · simp only [upd_apply] at hx ⊢
    split
    · next hxe => subst hxe; exact hlive
    · next hxe => simp only [hxe, if_false] at hx; exact hlv x hx

theorem Regd_evFlag {s s' : St} {e : Nat} (b : Bool)
    (hfds : ∀ f, f < 1000 → (s'.fds f).registered = (s.fds f).registered)
    (hheap : s'.heap = s.heap) (htk : s'.tasks ++ allTasks s'.stack = s.tasks ++ allTasks s.stack)
    (hevs : s'.evs = upd s.evs e { (s.evs e) with registered := b })
    (hraws : ∀ r, 1 ≤ r → (s'.raws r).registered = (s.raws r).registered) :
    ∀ q, Regd s' q ↔ if b = true then q = (3, e) ∨ Regd s q else q ≠ (3, e) ∧ Regd s q := by
  cases b <;> apply Regd_cases <;> intro x <;> simp [Regd5, hheap, htk, hevs, upd_apply]
  · intro hx; rw [hfds x hx]
  · by_cases hx : x = e <;> simp [hx]
  · intro hx; rw [hraws x hx]
  · intro hx; rw [hfds x hx]
  · by_cases hx : x = e <;> simp [hx]
  · intro hx; rw [hraws x hx]

theorem evReg_plain {s : St} (hI : Core s) (e : Nat) (hlive : (s.evs e).live = true) (a c' : Int) (k1 k2 u' : Bool)
    (hraw0 : (s.raws 0).registered = (u' && decide (1 ≤ c'))) :
    Core { s with numobjs := a, eventCount := c', kickReg := k1, kickArmed := k2, useRaw := u', evs := upd s.evs e { (s.evs e) with registered := true } } ∧
    ∀ q, Regd { s with numobjs := a, eventCount := c', kickReg := k1, kickArmed := k2, useRaw := u', evs := upd s.evs e { (s.evs e) with registered := true } } q ↔ (q = (3, e) ∨ Regd s q) := by
  refine ⟨⟨hI.shape, ⟨hI.tm, hI.tk, hI.ev.setReg hlive, hI.fl, hI.act, hI.hd, hI.cur⟩, ⟨hI.raw.1, hraw0, hI.raw.2.2⟩⟩, ?_⟩
  exact Regd_evFlag true (fun _ _ => rfl) rfl rfl rfl (fun _ _ => rfl)

theorem ApiSpec.evRegister {s s' outs} {e : Nat} {rawOk : Bool} (hI : Core s)
    (henv : envOk s (.api (.evRegister e rawOk)) = true)
    (h : api s (.evRegister e rawOk) = (s', outs)) : ApiSpec (.evRegister e rawOk) s s' outs := by
  simp only [envOk, apiOk, apiLive, Bool.and_eq_true, Bool.not_eq_true'] at henv
  obtain ⟨hun, hlive⟩ := henv
  have hraw := hI.raw
  rcases api_evRegister_cases s e rawOk with ⟨hec, he⟩ | ⟨hec, hu, -, he⟩ | ⟨hec, -, -, he⟩ | ⟨hec, -, -, he⟩ <;>
    rw [he] at h
  · cases h
    obtain ⟨hInv, hr⟩ := evReg_plain hI e hlive (s.numobjs + 1) (s.eventCount + 1) s.kickReg s.kickArmed s.useRaw
      (by
        rw [hraw.2.1]
        congr 1
        simp only [decide_eq_decide]
        omega)
    exact ⟨hInv, Or.inr (Or.inl ⟨rfl, hr⟩)⟩
  · cases h
    obtain ⟨hInv, hr⟩ := evReg_plain hI e hlive (s.numobjs + 1 + 1) (s.eventCount + 1) true false s.useRaw
      (by rw [hraw.2.1]; simp [hu])
    exact ⟨hInv, Or.inr (Or.inl ⟨rfl, hr⟩)⟩
  · -- the raw kick event registers
    obtain ⟨hv, hra⟩ :=
      rawRegisterCore_spec (s := { s with numobjs := s.numobjs + 1, eventCount := s.eventCount + 1, useRaw := true })
        (r := 0) (hI.inv.of_view rfl)
    -- `rw [rawRegisterCore_frame] at h hv` abstracts the core in every term it occurs in, which is slow to check;
    -- substituting a variable is not
    generalize hX : rawRegisterCore _ 0 = X at h hv hra
    rw [rawRegisterCore_frame] at hX
    subst hX
    cases h
    have hrawN := hraw.setReg true true (s.eventCount + 1) (fun g => (hra g).1) (by simp [hec])
      (fun _ h => absurd h (by decide))
    refine ⟨⟨hI.shape, hv.setEv rfl (hI.ev.setReg hlive), hrawN⟩, Or.inr (Or.inl ⟨rfl, ?_⟩)⟩
    refine Regd_evFlag true hra.user rfl rfl rfl (fun r hr => ?_)
    have : r ≠ 0 := by omega_ids
    simp [upd_apply, this]
  · cases h
    refine ⟨⟨hI.shape, hI.inv.of_view rfl, ⟨hraw.1, ?_, hraw.2.2⟩⟩, Or.inr (Or.inr ⟨-1, by decide, rfl, ?_⟩)⟩
    · show (s.raws 0).registered = (true && decide (1 ≤ s.eventCount))
      rw [hraw.2.1, hec]; simp
    · exact Regd_frames rfl rfl rfl rfl rfl

theorem evUnreg_mid {s : St} (hI : Core s) (hpc : s.pc = .user) (e : Nat) :
    Shape (evUnregMid s e).pc (evUnregMid s e).stack (evUnregMid s e).handled ∧ CInv (view (evUnregMid s e)) ∧
    allFd (evUnregMid s e).stack = allFd s.stack ∧
    allTasks (evUnregMid s e).stack = allTasks s.stack := by
  have hsh := hI.shape
  rw [hpc] at hsh
  have h1 : allTimers (s.stack.map (eraseEvent · e)) = allTimers s.stack :=
    flat_map_same frTimers _ s.stack
  have h2 : allTasks (s.stack.map (eraseEvent · e)) = allTasks s.stack :=
    flat_map_same frTasks _ s.stack
  have h3 : allActive (s.stack.map (eraseEvent · e)) = allActive s.stack :=
    flat_map_same frActive _ s.stack
  have h4 : allFd (s.stack.map (eraseEvent · e)) = allFd s.stack :=
    flat_map_same frFd _ s.stack
  have hev : EvInv (s.pending.erase e) (allEvents (s.stack.map (eraseEvent · e)))
      (upd s.evs e { (s.evs e) with registered := false }) := by
    obtain ⟨hnd, hreg, hlv⟩ := hI.ev
    obtain ⟨hsub, hmem⟩ := erase_both frEvents eraseEvent (fun x k => by cases x <;> simp [eraseEvent]) s.pending s.stack e hnd
    refine ⟨hnd.sublist hsub, ?_, ?_⟩
    · intro x hx
      obtain ⟨hxe, hx'⟩ := (hmem x).1 hx
      simp only [upd_apply, hxe, if_false]
      exact hreg x hx'
    · intro x hx
      simp only [upd_apply] at hx ⊢
      split
      · next hxe => simp [hxe] at hx
      · next hxe => simp only [hxe, if_false] at hx; exact hlv x hx
  -- first the event bundle with the event count as it was, then the count (which `CInv` does not read)
  have hv : CInv (view { s with pending := s.pending.erase e, stack := s.stack.map (eraseEvent · e), evs := upd s.evs e { (s.evs e) with registered := false } }) :=
    hI.inv.setEv (by simp only [view, h1, h2, h3, h4]) hev
  refine ⟨?_, hv.of_view rfl, h4, h2⟩
  show Shape s.pc (s.stack.map (eraseEvent · e)) s.handled
  rw [hpc]
  exact UserSt_map (keepsKind_eraseEvent e) hsh

theorem ApiSpec.evUnregister {s s' outs} {e : Nat} (hI : Core s) (hpc : s.pc = .user)
    (henv : envOk s (.api (.evUnregister e)) = true)
    (h : api s (.evUnregister e) = (s', outs)) : ApiSpec (.evUnregister e) s s' outs := by
  simp only [envOk, apiOk, apiLive, Bool.and_eq_true] at henv
  obtain ⟨hreg, hlive⟩ := henv
  have hraw := hI.raw
  have hsh := hI.shape
  rw [hpc] at hsh
  obtain ⟨hshM, hvM, hfdM, htkM⟩ := evUnreg_mid hI hpc e
  rcases api_evUnregister_cases s e with ⟨hec, he⟩ | ⟨hec, hu, he⟩ | ⟨hec, hu, he⟩ <;>
    rw [he] at h
  · cases h
    refine ⟨⟨hshM, hvM.of_view rfl, ⟨hraw.1, ?_, hraw.2.2⟩⟩, Or.inr ⟨by simp, ?_⟩⟩
    · show (s.raws 0).registered = (s.useRaw && decide (1 ≤ s.eventCount - 1))
      rw [hraw.2.1]
      congr 1
      simp only [decide_eq_decide]
      omega
    · exact Regd_evFlag false (fun _ _ => rfl) rfl (congrArg _ htkM) rfl (fun _ _ => rfl)
  · cases h
    refine ⟨⟨hshM, hvM.of_view rfl, ⟨hraw.1, ?_, hraw.2.2⟩⟩, Or.inr ⟨by simp, ?_⟩⟩
    · show (s.raws 0).registered = (s.useRaw && decide (1 ≤ s.eventCount - 1))
      rw [hraw.2.1, hu]; simp
    · exact Regd_evFlag false (fun _ _ => rfl) rfl (congrArg _ htkM) rfl (fun _ _ => rfl)
  · obtain ⟨hv, hua⟩ :=
      rawUnregisterCore_spec (s := evUnregMid s e) (r := 0) hvM (by rw [hfdM]; exact UserSt_fd_pos hsh)
    generalize hX : rawUnregisterCore _ 0 = X at h hv hua
    rw [rawUnregisterCore_frame] at hX
    subst hX
    cases h
    have hrawN := hraw.setReg false s.useRaw (s.eventCount - 1) (fun g => (hua g).1) (by simp [hec])
      (fun h => by cases h)
    refine ⟨⟨?_, hv, hrawN⟩, Or.inr ⟨by simp, ?_⟩⟩
    · show Shape s.pc ((s.stack.map (eraseEvent · e)).map (eraseActive · (rawFd 0))) _
      rw [hpc]
      exact UserSt_erase _ (UserSt_map (keepsKind_eraseEvent e) hsh)
    · refine Regd_evFlag false hua.user rfl ?_ rfl (fun r hr => ?_)
      · show s.tasks ++ allTasks ((s.stack.map (eraseEvent · e)).map (eraseActive · (rawFd 0))) = _
        rw [allTasks_erase]
        exact congrArg _ htkM
      · have : r ≠ 0 := by omega_ids
        simp [upd_apply, this, evUnregMid]

theorem ApiSpec.evPost {s s' outs} {e : Nat} (hI : Core s) (hpc : s.pc = .user)
    (henv : envOk s (.api (.evPost e)) = true)
    (h : api s (.evPost e) = (s', outs)) : ApiSpec (.evPost e) s s' outs := by
  simp only [envOk, apiOk, apiLive, Bool.and_eq_true] at henv
  obtain ⟨hreg, hlive⟩ := henv
  have post : evOnList s e = false → Core { s with pending := s.pending ++ [e] } := fun hon =>
    ⟨hI.shape, hI.inv.setEv rfl
      (hI.ev.post (fun hh => Bool.noConfusion (hon.symm.trans ((evOnList_iff s e).2 hh))) hreg), hI.raw⟩
  have hr1 : ∀ q, Regd { s with pending := s.pending ++ [e] } q ↔ Regd s q := Regd_frames rfl rfl rfl rfl rfl
  rcases api_evPost_cases s e with ⟨-, eq⟩ | ⟨hon, -, ht, eq⟩ | ⟨hon, -, eq⟩ <;> rw [eq] at h <;> cases h
  · exact .other rfl (by simp) hI (fun _ => Iff.rfl)
  · have h0 : (0 : Nat) ∉ s.tasks ++ allTasks s.stack :=
      fun hh => Bool.noConfusion (ht.symm.trans ((taskOnList_iff s 0).2 hh))
    obtain ⟨hInv, hr⟩ := taskRegisterCore_inv (post hon) hpc h0 hI.tk.2.2
    exact .other rfl (by simp) hInv (fun q => ((hr q).trans (by simp)).trans (hr1 q))
  · exact .other rfl (by simp) (post hon) hr1

theorem popTask_pop {s : St} {k : TaskId} {r : List TaskId} (hI : Core s) (hst : s.stack = [.tasks (k :: r)]) (pc' : Pc)
    (hs : Shape pc' [.tasks r] s.handled) :
    let s' : St := { s with numobjs := s.numobjs - 1, tobjs := upd s.tobjs k { (s.tobjs k) with epoch := s.taskEpoch },
                            stack := [.tasks r], pc := pc' }
    Core s' ∧ ∀ q, Regd s' q ↔ (q ≠ (2, k) ∧ Regd s q) := by
  obtain ⟨hnd, hlv, h0⟩ : TkInv s.tasks (k :: r) s.tobjs := by simpa [hst] using hI.tk
  have hperm : (s.tasks ++ k :: r).Perm (k :: (s.tasks ++ r)) := List.perm_middle
  have hnd' := List.nodup_cons.1 (hperm.nodup_iff.1 hnd)
  have hlv' := upd_flag_same TaskObj.live s.tobjs k { (s.tobjs k) with epoch := s.taskEpoch } rfl
  refine ⟨⟨hs, hI.inv.setTk (by simp [view, hst]) ?_, hI.raw⟩, Regd_task_del rfl rfl rfl rfl fun x => ?_⟩
  · show TkInv s.tasks (allTasks [.tasks r]) _
    exact ⟨by simpa using hnd'.2,
      fun j hj => (hlv' j).trans (hlv j (hperm.mem_iff.2 (List.mem_cons_of_mem _ (by simpa using hj)))),
      (hlv' 0).trans h0⟩
  · rw [hst]
    show x ∈ s.tasks ++ (r ++ []) ↔ x ≠ k ∧ x ∈ s.tasks ++ (k :: r ++ [])
    rw [List.append_nil, List.append_nil, hperm.mem_iff, List.mem_cons]
    exact ⟨fun h2 => ⟨fun hx => hnd'.1 (hx ▸ h2), Or.inr h2⟩, fun ⟨h1, h2⟩ => h2.resolve_left h1⟩

theorem fdStage_next {s : St} {c : FdId} {n : Nat} {a : List FdId} {rt : Bool} (hI : Core s)
    (hst : s.stack = [.fd c n, .poll a rt]) (pc' : Pc) (m : Nat) (hm : 1 ≤ m)
    (hs : Shape pc' [.fd c m, .poll a rt] s.handled) :
    let s' : St := { s with stack := [.fd c m, .poll a rt], pc := pc' }
    Core s' ∧ ∀ p, Regd s' p ↔ Regd s p := by
  have hhd := hI.hd
  have hcur : c ∉ a := by simpa [hst] using hI.cur
  refine ⟨⟨hs, hI.inv.setDisp (by simp [view, hst]) (by simpa [view, hst] using hI.act) ⟨fun c' k hck => ?_, hhd.2⟩
    (by simpa [view] using hcur), hI.raw⟩, Regd_frames rfl rfl rfl rfl (by simp [hst])⟩
  obtain ⟨rfl, rfl⟩ : c' = c ∧ k = m := by simpa [view] using hck
  exact ⟨fun h => by omega, (hhd.1 c' n (by simp [hst])).2⟩

theorem internal_spec {s s' : St} {b : Block} {outs} (hI : Core s)
    (hb : ∀ t ∈ timerBatch s, s.heap.idx[t]? = some 0) (hpc : s.pc = .run b)
    (h : internal s b = (s', outs)) : ISpec s s' outs := by
  have hstep := step_of_core hI hb hpc
  rw [h] at hstep
  cases hstep with
  | mainTop_skip rt hst | mainTop_collect hst | mainTop_clock hst | wait abs km hst | stay hst =>
    exact .same (by simp) hI hst rfl
  | collect h' batch hst e =>
    obtain ⟨hh, hlv⟩ := hI.tm
    obtain ⟨_, _, e', hh', -⟩ := Ivy.Props.C05.collect_sorted s.heap s.time hh
    rw [e] at e'
    cases e'
    have key := Proofs.nonneg_collect hh e
    refine .quiet (by simp) ⟨⟨_, rfl⟩, hI.inv.setTm (by simp [view, hst]) ⟨hh', fun t ht => hlv t ((key t).1 ht)⟩, hI.raw⟩ ?_
    apply Regd_cases <;> intro x <;> simp [Regd5, hst]
    simpa [Array.getD_eq_getD_getElem?] using key x
  | popTimer_done hst | popTask_done hst | dispatch_done rt hst =>
    exact .same (by simp) hI rfl (by simp [view, hst])
  | popTimer_cb t r hst =>
    -- the head of the expired batch has `idx = 0`, hence is registered: of the batch this is all `Core` needs
    obtain ⟨hh, hlv⟩ := hI.tm
    have ht0 : s.heap.idx[t]? = some 0 := hb t (by simp [timerBatch, hst])
    exact .cb (.timer t) rfl
      ⟨by simp [Shape, UserSt], hI.inv.setTm (by simp [view, hst])
        ⟨Proofs.expire_inv hh ht0, fun u hu => hlv u ((Proofs.nonneg_unmark _ t u).1 hu).2⟩, hI.raw⟩
      (by simp [cbObj, Proofs.getD_idx ht0])
      (Regd_timer_del rfl rfl rfl (by simp [hst]) (Proofs.nonneg_unmark _ t))
  | startTasks hst =>
    refine .quiet (by simp) ⟨⟨_, rfl⟩, hI.inv.setTk (by simp [view, hst]) ?_, hI.raw⟩
      (Regd_frames rfl rfl rfl rfl (by simp [hst]))
    simpa [view, hst, TkInv] using hI.tk
  | popTask_events r hst =>
    obtain ⟨hI', hr⟩ := popTask_pop hI hst (.run .runEvents) (Or.inl ⟨r, rfl⟩)
    exact .quiet (by simp) hI' fun q => (hr q).trans
      (and_iff_right_of_imp fun hq hq0 => by rw [hq0] at hq; exact absurd hq.1 (by decide))
  | popTask_cb k r hk hst =>
    obtain ⟨hI', hr⟩ := popTask_pop hI hst .user (Or.inr (Or.inr (Or.inl ⟨r, rfl⟩)))
    exact .cb (.task k) rfl hI' (by simp [cbObj, hst]; exact Nat.pos_of_ne_zero hk) hr
  | runEvents_none hbase => exact .same (by simp) hI hbase rfl
  | resume_tasks r hst => exact .same (by simp) hI ⟨_, hst⟩ rfl
  | resume_poll a rt hst => exact .same (by simp) hI ⟨_, _, hst⟩ rfl
  | resume_fd c n a rt hst => exact .same (by simp) hI ⟨_, _, _, _, hst⟩ rfl
  | runEvents_some hbase =>
    refine .quiet (by simp) ⟨⟨_, _, rfl, hbase⟩, hI.inv.setEv rfl ?_, hI.raw⟩ (Regd_frames rfl rfl rfl rfl (by simp))
    simpa [view, EvInv] using hI.ev
  | popEvent_done rest hst hbase => exact .same (by simp) hI hbase (by simp [view, hst])
  | popEvent_cb e r rest hst hbase =>
    obtain ⟨hnd, hreg, hlv⟩ : EvInv s.pending (e :: r ++ allEvents rest) s.evs := by simpa [hst] using hI.ev
    have hsub : (s.pending ++ allEvents (.events r :: rest)).Sublist (s.pending ++ (e :: r ++ allEvents rest)) := by
      simp
    refine .cb (.event e) rfl ⟨Or.inr (Or.inr (Or.inr (Or.inr ⟨_, _, rfl, hbase⟩))),
        hI.inv.setEv (by simp [view, hst]) ⟨hnd.sublist hsub, fun x hx => hreg x (hsub.subset hx), hlv⟩, hI.raw⟩
      (by simpa [cbObj] using hreg e (by simp)) ?_
    simp only [cbOnce, Bool.false_eq_true, if_false]
    exact Regd_frames rfl rfl rfl rfl (by simp [hst])
  | exit hst => exact .same (by simp) hI (Or.inl hst) rfl
  | prepWait s1 abs km hst hf =>
    rw [hf]
    exact .quiet (by simp) ⟨hst, hI.inv.of_view rfl, hI.raw⟩ (Regd_frames rfl rfl rfl rfl rfl)
  | flush_clock abs km hst | flush_go abs km hst =>
    have hfl : FdStep s (flushed s) :=
      ⟨⟨_, _, _, s.pfds, s.numobjs, s.numfds, flushed_frame s⟩, fun g => by rw [flushed_obj]; exact ⟨rfl, rfl⟩⟩
    exact .quiet (by simp) ((hI.fdStep hfl).of_view (hfl.1.stack.trans hst) rfl)
      fun p => (Regd_congr (s := flushed s) rfl p).trans (Regd_fdStep hfl p)
  | dispatch_next f r rt hst =>
    obtain ⟨hnd, hreg⟩ : ActInv s.fds (f :: r) := by simpa [hst] using hI.act
    refine .quiet (by simp) ⟨⟨_, _, _, _, rfl⟩, hI.inv.setDisp (by simp [view, hst]) ?_ ?_ ?_, hI.raw⟩
      (Regd_frames rfl rfl rfl rfl (by simp [hst]))
    · show ActInv s.fds (allActive [.fd f 0, .poll r rt])
      exact ⟨by simpa using (List.nodup_cons.1 hnd).2, fun g hg => hreg g (List.mem_cons_of_mem _ (by simpa using hg))⟩
    · show HdInv s.fds (some f) (allFd [.fd f 0, .poll r rt])
      refine ⟨fun c n hcn => ?_, fun x hx => ?_⟩
      · obtain ⟨rfl, rfl⟩ : c = f ∧ n = 0 := by simpa using hcn
        exact ⟨fun _ => rfl, fun x hx => (Option.some.inj hx).symm⟩
      · obtain rfl : f = x := Option.some.inj hx
        exact hreg f (by simp)
    · show ∀ p ∈ allFd [.fd f 0, .poll r rt], p.1 ∉ allActive [.fd f 0, .poll r rt]
      simpa using (List.nodup_cons.1 hnd).1
  | fd_done c n a rt hst =>
    exact .quiet (by simp) ⟨⟨_, _, rfl⟩, hI.inv.setDisp (by simp [view, hst])
      (by simpa [view, hst] using hI.act) ⟨by simp [view], hI.hd.2⟩ (by simp [view]), hI.raw⟩
      (Regd_frames rfl rfl rfl rfl (by simp [hst]))
  | fd_pass c n a rt hst =>
    obtain ⟨hI', hr⟩ := fdStage_next hI hst (.run .fdStage) (n + 1) (by omega) ⟨_, _, _, _, rfl⟩
    exact .quiet (by simp) hI' hr
  | fd_raw r a rt hst hh =>
    obtain ⟨hI', hr⟩ := fdStage_next hI hst (.needRawRead r) 2 (by omega) ⟨_, _, _, rfl, by omega, hh⟩
    exact .quiet (by simp) hI' hr
  | fd_cb c n a rt hst hn hh =>
    obtain ⟨hI', hr⟩ := fdStage_next hI hst .user (n + 1) (by omega)
      (Or.inr (Or.inr (Or.inr (Or.inl ⟨_, _, _, _, rfl, by omega⟩))))
    by_cases hc : 1000 ≤ c
    · exact .cbInt c n hc rfl hI' hr
    · refine .cb (.fd c n) rfl hI' (by simp [cbObj, hI.hd.2 c hh]; omega_ids) ?_
      simp only [cbOnce, Bool.false_eq_true, if_false]
      exact hr

theorem api_spec {s s' : St} {a : Api} {outs} (hI : Core s) (hpc : s.pc = .user)
    (henv : envOk s (.api a) = true) (h : api s a = (s', outs)) : ApiSpec a s s' outs := by
  cases a with
  | fdRegister f a b c => exact ApiSpec.fdRegister hI henv h
  | fdRegisterTry f a b c k => exact ApiSpec.fdRegisterTry hI henv h
  | fdUnregister f => exact ApiSpec.fdUnregister hI hpc henv h
  | fdSetIn f v => exact ApiSpec.fdSet { (s.fds f) with hin := v } rfl hI ⟨rfl, rfl⟩ h
  | fdSetOut f v => exact ApiSpec.fdSet { (s.fds f) with hout := v } rfl hI ⟨rfl, rfl⟩ h
  | fdSetErr f v => exact ApiSpec.fdSet { (s.fds f) with herr := v } rfl hI ⟨rfl, rfl⟩ h
  | timerRegister t e => exact ApiSpec.timerRegister hI henv h
  | timerUnregister t => exact ApiSpec.timerUnregister hI hpc henv h
  | taskRegister k => exact ApiSpec.taskRegister hI hpc henv h
  | taskUnregister k => exact ApiSpec.taskUnregister hI hpc h
  | taskInit k => exact ApiSpec.taskInit hI h
  | evRegister e r => exact ApiSpec.evRegister hI henv h
  | evUnregister e => exact ApiSpec.evUnregister hI hpc henv h
  | evPost e => exact ApiSpec.evPost hI hpc henv h
  | rawRegister r k => exact ApiSpec.rawRegister hI henv h
  | rawUnregister r => exact ApiSpec.rawUnregister hI hpc henv h
  | quit => cases h; exact .same rfl (by simp) hI hI.shape rfl
  | invalidateNow => cases h; exact .same rfl (by simp) hI hI.shape rfl
  | validateNow => exact ApiSpec.validateNow hI hpc h
  | main => exact ApiSpec.main hI h

theorem ISpec.handlerEnd {s s' : St} {outs} (hI : Core s) (h : input s .handlerEnd = some (s', outs)) :
    ISpec s s' outs := by
  have hpc : s.pc = .user := pc_of_input h
  have hsh := hI.shape
  rw [hpc] at hsh
  simp only [Shape] at hsh
  simp only [input, hpc, goto] at h
  rcases hsh with hst | ⟨r, hst⟩ | ⟨r, hst⟩ | ⟨c, n, a, rt, hst, hn⟩ | ⟨b, rest, hst, hb⟩ <;> rw [hst] at h <;>
    simp only [Option.some.injEq, reduceCtorEq] at h
  · cases h
    exact .same (by simp) hI (show ∃ r, _ from ⟨_, rfl⟩) (by simp [view, hst])
  · cases h
    exact .same (by simp) hI (show ∃ r, _ from ⟨_, rfl⟩) (by simp [view, hst])
  · cases h
    exact .same (by simp) hI (show ∃ c n a rt, _ from ⟨_, _, _, _, rfl⟩) (by simp [view, hst])
  · cases h
    exact .same (by simp) hI (show ∃ b rest, _ ∧ _ from ⟨_, _, rfl, hb⟩) (by simp [view, hst])

theorem ISpec.time {s s' : St} {outs} {t : TS} (hI : Core s) (h : input s (.time t) = some (s', outs)) :
    ISpec s s' outs := by
  obtain ⟨k, hpc⟩ : ∃ k, s.pc = .needTime k := pc_of_input h
  have hsh := hI.shape
  rw [hpc] at hsh
  simp only [input, hpc, Option.some.injEq] at h
  simp only [afterTime, goto] at h
  cases k <;> cases h <;> exact .same (by simp) hI (by simpa [Shape] using hsh) rfl

theorem ISpec.rawRead {s s' : St} {outs} {okk : Bool} (hI : Core s) (h : input s (.rawRead okk) = some (s', outs)) :
    ISpec s s' outs := by
  obtain ⟨r, hpc⟩ : ∃ x, s.pc = .needRawRead x := pc_of_input h
  have hsh := hI.shape
  rw [hpc] at hsh
  simp only [Shape] at hsh
  obtain ⟨n, a, rt, hst, hn, hhd⟩ := hsh
  simp only [input, hpc, goto] at h
  split at h
  · simp only [Option.some.injEq] at h
    cases h
    exact .same (by simp) hI (show ∃ c n a rt, _ from ⟨_, _, _, _, hst⟩) rfl
  split at h
  · simp only [Option.some.injEq] at h
    cases h
    exact .same (by simp) hI (show Base _ from Or.inr (Or.inr ⟨_, _, _, _, hst, hn⟩)) rfl
  next hok hr0 =>
  have hregf : (s.fds (rawFd r)).registered = true := hI.hd.2 _ hhd
  have hregr : (s.raws r).registered = true := by rw [← hI.raw.1 r]; exact hregf
  have hr1 : 1 ≤ r := Nat.pos_of_ne_zero hr0
  have hlive : (s.raws r).live = true := hI.raw.2.2 r hr1 hregr
  rw [if_neg (by simp [hlive])] at h
  simp only [Option.some.injEq] at h
  cases h
  refine .cb (.raw r) rfl ?_ (by simp [cbObj, hregr]; exact hr1) ?_
  · exact hI.of_view (show UserSt _ from Or.inr (Or.inr (Or.inr (Or.inl ⟨_, _, _, _, hst, hn⟩)))) rfl
  · intro q
    simp only [cbOnce, Bool.false_eq_true, if_false]
    exact Regd_congr rfl q

theorem ISpec.xpost {s s' : St} {outs} {e : Nat} (hI : Core s) (henv : envOk s (.xpost e) = true)
    (h : input s (.xpost e) = some (s', outs)) : ISpec s s' outs := by
  obtain ⟨abs, km, hpc⟩ : ∃ abs km, s.pc = .waiting abs km := pc_of_input h
  simp only [envOk, Bool.and_eq_true] at henv
  obtain ⟨hreg, hlive⟩ := henv
  have hsh := hI.shape
  rw [hpc] at hsh
  simp only [Shape] at hsh
  simp only [input, hpc] at h
  split at h
  · simp only [Option.some.injEq] at h
    cases h
    exact .same (by simp) hI (by rw [hpc]; exact hsh) rfl
  · next hon =>
    have he : e ∉ s.pending ++ allEvents s.stack := fun hh => hon ((evOnList_iff s e).2 hh)
    have hev : EvInv (s.pending ++ [e]) (allEvents s.stack) s.evs := hI.ev.post he hreg
    simp only [Option.some.injEq] at h
    split at h <;> cases h
    · refine .quiet (by simp) ?_ (Regd_frames rfl rfl rfl rfl rfl)
      exact ⟨hsh, hI.inv.setEv rfl hev, hI.raw⟩
    · refine .quiet (by simp) ?_ (Regd_frames rfl rfl rfl rfl rfl)
      exact ⟨hsh, hI.inv.setEv rfl hev, hI.raw⟩

/-! The user overwrites the memory of an object that is not registered (`IV_*_INIT`, or `free` and whatever the
allocator does next); the new contents do not claim a registration. -/

theorem mem_fd {s : St} {id : Nat} (hI : Core s) (hun : unregisteredObj s 0 id = true) :
    (s.fds id).registered = false ∧
      ∀ o' : FdObj, o'.registered = false → ISpec s { s with fds := upd s.fds id o' } [] := by
  simp only [unregisteredObj, Bool.and_eq_true, decide_eq_true_eq, Bool.not_eq_true'] at hun
  refine ⟨hun.2, fun o' h1 => ?_⟩
  obtain ⟨hInv, hr⟩ := fdMem o' s.notify hI hun.1 hun.2 h1
  exact .quiet (by simp) hInv hr

theorem mem_timer {s : St} {id : Nat} (hI : Core s) (hun : unregisteredObj s 1 id = true) (b : Bool) :
    ISpec s { s with tlive := upd s.tlive id b } [] := by
  simp only [unregisteredObj, beq_iff_eq] at hun
  refine .quiet (by simp) ?_ (Regd_frames rfl rfl rfl rfl rfl)
  obtain ⟨hh, hlv⟩ := hI.tm
  refine ⟨hI.shape, hI.inv.setTm rfl ⟨hh, fun t ht => ?_⟩, hI.raw⟩
  have hne : t ≠ id := by
    rintro rfl
    have : 0 ≤ s.heap.idx.getD t (-1) := ht
    omega
  show upd s.tlive id b t = true
  rw [upd_ne _ _ hne]
  exact hlv t ht

theorem mem_task {s : St} {id : Nat} (hI : Core s) (hun : unregisteredObj s 2 id = true) (o' : TaskObj) :
    ISpec s { s with tobjs := upd s.tobjs id o' } [] := by
  simp only [unregisteredObj, Bool.and_eq_true, decide_eq_true_eq, Bool.not_eq_true', ← Bool.not_eq_true] at hun
  refine .quiet (by simp) ?_ (Regd_frames rfl rfl rfl rfl rfl)
  obtain ⟨hnd, hlv, h0⟩ := hI.tk
  have hnot : id ∉ s.tasks ++ allTasks s.stack := fun hh => hun.2 ((taskOnList_iff s id).2 hh)
  refine ⟨hI.shape, hI.inv.setTk rfl ⟨hnd, fun k hk => ?_, ?_⟩, hI.raw⟩
  · show (upd s.tobjs id o' k).live = true
    rw [upd_ne _ _ (fun (hh : k = id) => hnot (hh ▸ hk))]
    exact hlv k hk
  · show (upd s.tobjs id o' 0).live = true
    rw [upd_ne _ _ (by omega)]
    exact h0

theorem mem_ev {s : St} {id : Nat} (hI : Core s) (hun : unregisteredObj s 3 id = true) :
    (s.evs id).registered = false ∧
      ∀ o' : EvObj, o'.registered = false → ISpec s { s with evs := upd s.evs id o' } [] := by
  simp only [unregisteredObj, Bool.not_eq_true'] at hun
  refine ⟨hun, fun o' h1 => ?_⟩
  have hr := upd_flag_same EvObj.registered s.evs id o' (h1.trans hun.symm)
  refine .quiet (by simp) ?_ (Regd_of (fun _ => rfl) rfl rfl hr (fun _ => rfl))
  obtain ⟨hnd, hreg, hlv⟩ := hI.ev
  refine ⟨hI.shape, hI.inv.setEv rfl ⟨hnd, fun x hx => (hr x).trans (hreg x hx), fun x hx => ?_⟩, hI.raw⟩
  replace hx : (s.evs x).registered = true := (hr x).symm.trans hx
  have hne : x ≠ id := by rintro rfl; rw [hun] at hx; cases hx
  show (upd s.evs id o' x).live = true
  rw [upd_ne _ _ hne]
  exact hlv x hx

theorem mem_raw {s : St} {k id : Nat} (hI : Core s) (hun : unregisteredObj s (k + 4) id = true) :
    (s.raws id).registered = false ∧
      ∀ o' : RawObj, o'.registered = false → ISpec s { s with raws := upd s.raws id o' } [] := by
  simp only [unregisteredObj, Bool.and_eq_true, decide_eq_true_eq, Bool.not_eq_true'] at hun
  refine ⟨hun.2, fun o' h1 => ?_⟩
  have hr := upd_flag_same RawObj.registered s.raws id o' (h1.trans hun.2.symm)
  refine .quiet (by simp) ?_ (Regd_of (fun _ => rfl) rfl rfl (fun _ => rfl) hr)
  obtain ⟨hl, h0, hlv⟩ := hI.raw
  refine ⟨hI.shape, hI.inv.of_view rfl, ⟨fun r => (hl r).trans (hr r).symm, (hr 0).trans h0, fun x hx1 hx => ?_⟩⟩
  rw [hr] at hx
  have hne : x ≠ id := by rintro rfl; rw [hun.2] at hx; cases hx
  show (upd s.raws id o' x).live = true
  rw [upd_ne _ _ hne]
  exact hlv x hx1 hx

theorem ISpec.free {s s' : St} {outs} {kind id : Nat} (hI : Core s) (henv : envOk s (.free kind id) = true)
    (h : input s (.free kind id) = some (s', outs)) : ISpec s s' outs := by
  have hpc : s.pc = .user := pc_of_input h
  simp only [input, hpc, Option.some.injEq] at h
  cases h
  match kind, henv with
  | 0, henv => exact (mem_fd hI henv).2 _ (mem_fd hI henv).1
  | 1, henv => exact mem_timer hI henv _
  | 2, henv => exact mem_task hI henv _
  | 3, henv => exact (mem_ev hI henv).2 _ (mem_ev hI henv).1
  | k + 4, henv => exact (mem_raw (k := k) hI henv).2 _ (mem_raw (k := k) hI henv).1

theorem ISpec.init {s s' : St} {outs} {kind id : Nat} (hI : Core s) (henv : envOk s (.init kind id) = true)
    (h : input s (.init kind id) = some (s', outs)) : ISpec s s' outs := by
  have hpc : s.pc = .user := pc_of_input h
  simp only [input, hpc, Option.some.injEq] at h
  cases h
  match kind, henv with
  | 0, henv => exact (mem_fd hI henv).2 _ rfl
  | 1, henv => exact mem_timer hI henv _
  | 2, henv => exact mem_task hI henv _
  | 3, henv => exact (mem_ev hI henv).2 _ rfl
  | k + 4, henv => exact (mem_raw (k := k) hI henv).2 _ rfl

/-- what a wait return needs of the back ends' tables: a descriptor the kernel may report (the descriptor clause of
`wretOk`) is registered -/
def ReportsRegistered (s : St) : Prop :=
  ∀ f, (if s.method.isEpoll then (s.kint f).isSome else s.pfds.any (·.1 == f)) = true → (s.fds f).registered = true

/-- a wake-up: the descriptor objects change in `ready` only, the collected descriptors become the active list -/
theorem ISpec.wake {s : St} (hI : Core s) (hst : s.stack = []) {fds : FdId → FdObj} {ka : Bool} {kt : Option TS}
    {lac : Nat} {active : List FdId} {rt : Bool} {b : Block}
    (hfd : ∀ g, fds g = { s.fds g with ready := (fds g).ready }) (hnd : active.Nodup)
    (hreg : ∀ g ∈ active, (s.fds g).registered = true)
    (hb : b = .runEvents ∨ b = .dispatchNext) :
    ISpec s { s with timeValid := false, fds := fds, kickArmed := ka, ktimer := kt, lastAbsCount := lac,
                     stack := .poll active rt :: s.stack, pc := .run b } [] := by
  have hsim : SameRegLive s.fds fds := fun g => by rw [hfd g]; exact ⟨rfl, rfl⟩
  have hsh : Shape (.run b) [.poll active rt] s.handled := by
    rcases hb with rfl | rfl
    · exact Or.inr (Or.inl ⟨_, _, rfl⟩)
    · exact ⟨_, _, rfl⟩
  have hv := hI.inv.setFds (v' := view { s with fds := fds }) rfl (hI.fl.sim hsim) (fun g hg => (hsim g).1.trans hg)
  refine .quiet (by simp) ⟨by simpa [hst] using hsh,
    hv.setDisp (by simp [view, hst]) ⟨by simpa [view, hst] using hnd, fun g hg => ?_⟩
      ⟨by simp [view, hst], fun x hx => (hsim x).1.trans (hI.hd.2 x hx)⟩ (by simp [view, hst]), hI.raw.sim hsim⟩
    (Regd_of (fun f => (hsim f).1) rfl (by simp [hst]) (fun _ => rfl) (fun _ => rfl))
  have : g ∈ active := by simpa [view, hst] using hg
  exact (hsim g).1.trans (hreg g this)

theorem ISpec.wret {s s' : St} {outs} {w : WRes} (hI : Core s) (hk : ReportsRegistered s)
    (henv : envOk s (.wret w) = true)
    (h : input s (.wret w) = some (s', outs)) : ISpec s s' outs := by
  obtain ⟨abs, km, hpc⟩ : ∃ abs km, s.pc = .waiting abs km := pc_of_input h
  have hst : s.stack = [] := by have := hI.shape; rwa [hpc] at this
  simp only [input, hpc, Option.some.injEq] at h
  cases w with
  | enosys =>
    have hc := afterWait_enosys_cases s abs km
    rw [h] at hc
    cases hc with
    | retry => exact .same (by simp) hI hst rfl
    | fatal m => exact .fatal _ rfl hI.dead
    | pollTime hm | pollWait hm => exact .same (by simp) hI hst (by simp [view, hm, Method.isEpoll])
  | eintr =>
    rw [afterWait_eintr_eq] at h
    cases h
    exact ISpec.wake hI hst (fun _ => rfl) .nil nofun (.inr rfl)
  | events l =>
    obtain ⟨s1, active, rt, runEv, b, hw, hb, e⟩ := afterWait_events_state s abs km l
    obtain ⟨fds, ka, kt, rfl⟩ : ∃ fds ka kt, s1 = { s with timeValid := false, fds := fds, kickArmed := ka, ktimer := kt } :=
      ⟨_, _, _, hw.frame⟩
    rw [e] at h
    cases h
    refine ISpec.wake hI hst hw.obj hw.coll.nodup (fun g hg => ?_) (hb.imp And.right And.right)
    obtain ⟨_, ev, hit, -⟩ := (hw.coll.mem g).1 hg
    simp only [envOk, wretOk, Bool.and_eq_true, List.all_eq_true] at henv
    exact hk g (henv.1 _ hit)

theorem Core.init (m : Method) (ntimers : Nat) (timerfdAvail pwait2 : Bool) :
    Core (St.init m ntimers timerfdAvail pwait2) := by
  refine ⟨Or.inl rfl, ⟨⟨Ivy.Props.C05.init_inv ntimers, ?_⟩, ⟨?_, ?_, rfl⟩, ⟨?_, ?_, ?_⟩, ⟨?_, ?_⟩, ⟨?_, ?_⟩, ⟨?_, ?_⟩, ?_⟩,
    ⟨?_, ?_, ?_⟩⟩
  all_goals simp [view, St.init]

theorem Core.internal {s : St} {b : Block} (h : Core s) (hb : ∀ t ∈ timerBatch s, s.heap.idx[t]? = some 0)
    (hpc : s.pc = .run b) : Core (internal s b).1 :=
  (internal_spec h hb hpc rfl).core

theorem input_spec {s s' : St} {i : Input} {outs} (hI : Core s) (hk : ReportsRegistered s) (henv : envOk s i = true)
    (h : input s i = some (s', outs)) (hna : ∀ a, i ≠ .api a) : ISpec s s' outs := by
  cases i with
  | api a => exact absurd rfl (hna a)
  | handlerEnd => exact ISpec.handlerEnd hI h
  | time t => exact ISpec.time hI h
  | wret w => exact ISpec.wret hI hk henv h
  | rawRead b => exact ISpec.rawRead hI h
  | xpost e => exact ISpec.xpost hI henv h
  | free k id => exact ISpec.free hI henv h
  | init k id => exact ISpec.init hI henv h

theorem Core.input {s : St} {i : Input} {r : St × List Out} (h : Core s) (hk : ReportsRegistered s)
    (henv : envOk s i = true) (hi : input s i = some r) : Core r.1 := by
  obtain ⟨s', outs⟩ := r
  by_cases ha : ∃ a, i = .api a
  · obtain ⟨a, rfl⟩ := ha
    have hpc : s.pc = .user := pc_of_input hi
    simp only [Ivy.L1.input, hpc, Option.some.injEq] at hi
    exact (api_spec h hpc henv hi).1
  · exact (input_spec h hk henv hi fun a e => ha ⟨a, e⟩).core

end Ivy.L1

/-! ## `Inv`: a weak invariant of its own, which no proof goes through

`Inv s` is `Shape` with `VInv (view s)`: the bundles of `Core` without the clause on the descriptor frame, with the
batch clauses (`TmInv`: the expired batch is duplicate free and its members have `idx = 0`) and with the tables of the
back ends only up to registration, `EpInv` (epoll: descriptors in the kernel interest set and on the notify list are
registered, one with empty `regBands` is in neither) and `PoInv` (poll: `pfds` slots and `index` fields point at each
other and hold registered descriptors).  It is self-contained and `MInv` implies it (`Core.toInv`, with `EInv` / `PInv`
of `FdInv.lean` and `TimeInv.bidx`), but the proofs use `Core`, `FdInv` and `TimeInv`.  `Good` is `VCore` along a chain
of descriptor steps, `RegAt f` being `FlagAt f true` (`Core.regAt` is what the proofs use); `WaitRel` says what a
wait return writes, with `Strong` on the descriptor objects (`ISpec.wake` is what the proofs use).  The rest are small
facts about the model that nothing needs. -/
namespace Ivy.L1.ProofsC01
open Ivy.L1 Ivy.Heap

def TmInv (h : Store) (tl : Nat → Bool) (b : List Nat) : Prop :=
  HeapInv h ∧ b.Nodup ∧ (∀ t ∈ b, h.idx[t]? = some 0) ∧ (∀ t, 0 ≤ h.idx.getD t (-1) → tl t = true)

def EpInv (fds : FdId → FdObj) (kint : FdId → Option Bands) (notify : List FdId) : Prop :=
  (∀ f, kint f ≠ none → (fds f).registered = true) ∧
  (∀ f, (fds f).regBands.isZero = true → kint f = none) ∧
  notify.Nodup ∧ (∀ f ∈ notify, (fds f).registered = true)

def PoInv (fds : FdId → FdObj) (pfds : List (FdId × Bands)) : Prop :=
  (∀ f i, (fds f).index = some i → ∃ b, pfds[i]? = some (f, b)) ∧
  (∀ i f b, pfds[i]? = some (f, b) → (fds f).index = some i ∧ (fds f).registered = true)

structure VInv (v : View) : Prop where
  tm : TmInv v.heap v.tlive v.timers
  tk : TkInv v.tasks v.taskFr v.tobjs
  ev : EvInv v.pending v.evFr v.evs
  fl : FdLive v.fds
  act : ActInv v.fds v.active
  hd : HdInv v.fds v.handled v.fdFr
  ep : v.isEpoll = true → EpInv v.fds v.kint v.notify
  po : v.isEpoll = false → PoInv v.fds v.pfds
  raw : RawInv v.fds v.raws v.useRaw v.eventCount

/-- `VInv` without `RawInv` -/
structure VCore (v : View) : Prop where
  tm : TmInv v.heap v.tlive v.timers
  tk : TkInv v.tasks v.taskFr v.tobjs
  ev : EvInv v.pending v.evFr v.evs
  fl : FdLive v.fds
  act : ActInv v.fds v.active
  hd : HdInv v.fds v.handled v.fdFr
  ep : v.isEpoll = true → EpInv v.fds v.kint v.notify
  po : v.isEpoll = false → PoInv v.fds v.pfds

theorem VCore.toInv {v : View} (h : VCore v) (hr : RawInv v.fds v.raws v.useRaw v.eventCount) : VInv v :=
  ⟨h.tm, h.tk, h.ev, h.fl, h.act, h.hd, h.ep, h.po, hr⟩

def Inv (s : St) : Prop := Shape s.pc s.stack s.handled ∧ VInv (view s)

theorem _root_.Ivy.L1.Core.toInv {s : St} (h : Core s) (bnd : (allTimers s.stack).Nodup)
    (bidx : ∀ t ∈ allTimers s.stack, s.heap.idx[t]? = some 0)
    (ep : s.method.isEpoll = true → EpInv s.fds s.kint s.notify)
    (po : s.method.isEpoll = false → PoInv s.fds s.pfds) : Inv s :=
  ⟨h.shape, ⟨⟨h.tm.1, bnd, bidx, h.tm.2⟩, h.tk, h.ev, h.fl, h.act, h.hd, ep, po, h.raw⟩⟩

def RegAt (f : Nat) (fds fds' : FdId → FdObj) : Prop :=
  ∀ g, (fds' g).registered = (if g = f then true else (fds g).registered) ∧ (fds' g).live = (fds g).live

/-- `s` comes from `s0` by primitive steps of the descriptor subsystem that registered `f` and changed no other
`registered` / `live` flag, and has `VCore` -/
def Good (f : Nat) (s0 s : St) : Prop := VCore (view s) ∧ FdOnly s0 s ∧ RegAt f s0.fds s.fds

theorem FdOnly.method {s s' : St} (h : FdOnly s s') : s'.method = s.method := by obtain ⟨_, _, _, _, _, _, rfl⟩ := h; rfl

theorem Good.method {f s0 s} (h : Good f s0 s) : s.method = s0.method := h.2.1.method

theorem Good.counters {f s0 s} (hg : Good f s0 s) (a b : Int) : Good f s0 { s with numobjs := a, numfds := b } :=
  ⟨hg.1, hg.2.1.trans ⟨s.fds, s.notify, s.kint, s.pfds, a, b, rfl⟩, hg.2.2⟩

theorem Good.finish {f : Nat} {s s' : St} (hg : Good f s s') (hI : Inv s) (hf : f < 1000) :
    Inv s' ∧ ∀ q, Regd s' q ↔ (q = (0, f) ∨ Regd s q) := by
  obtain ⟨hv, hfo, hra⟩ := hg
  refine ⟨⟨?_, hv.toInv ?_⟩, Regd_regAt hfo hra hf⟩
  · rw [hfo.pc, hfo.stack, hfo.handled]; exact hI.1
  · obtain ⟨F, N, K, P, a, b, rfl⟩ := hfo
    exact hI.2.raw.other f hf (fun g hg => (hra g).1.trans (if_neg hg))

theorem Base.views {st : List Frame} (h : Base st) : allTimers st = [] ∧ allEvents st = [] := by
  rcases h with ⟨r, rfl⟩ | ⟨a, rt, rfl⟩ | ⟨c, n, a, rt, rfl, hn⟩ <;> simp [frTimers, frEvents]

def Strong (fds fds' : FdId → FdObj) : Prop :=
  ∀ g, (fds' g).registered = (fds g).registered ∧ (fds' g).live = (fds g).live ∧
    (fds' g).regBands = (fds g).regBands ∧ (fds' g).index = (fds g).index

/-- what `iv_fd_*_poll` changes while it collects the active list -/
def WaitRel (s0 s1 : St) : Prop :=
  ∃ fds ka kt tv lac, s1 = { s0 with fds := fds, kickArmed := ka, ktimer := kt, timeValid := tv, lastAbsCount := lac } ∧
    Strong s0.fds fds

theorem WaitRel.refl (s : St) : WaitRel s s := ⟨s.fds, s.kickArmed, s.ktimer, s.timeValid, s.lastAbsCount, rfl, fun _ => ⟨rfl, rfl, rfl, rfl⟩⟩

theorem zero_isZero : (({} : Bands)).isZero = true := rfl

theorem bands_beq_false {a b : Bands} (h : ¬ (a == b) = true) : a ≠ b := by
  intro hab; subst hab; simp at h

theorem wantedOf_nonzero {o : FdObj} (h : (wantedOf o).isZero = false) : o.registered = true := by
  unfold wantedOf at h
  split at h
  · assumption
  · simp [zero_isZero] at h

theorem upd_apply {α} (g : Nat → α) (k : Nat) (v : α) (i : Nat) : upd g k v i = if i = k then v else g i := rfl

end Ivy.L1.ProofsC01
