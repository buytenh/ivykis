import Ivy.L1.MInv
import Ivy.Mon.C06

/-!
# C06 — proof that every trace of the L1 machine is accepted by the monitor `Ivy.Mon.C06`

The relation `InvB μ s` ties the monitor's bookkeeping to the machine's task lists: `μ.reg` are the user tasks on the
global list or in the batch `iv_run_tasks` is running; a task that ran since the last wait carries the current epoch (so
a re-registration puts it on the global list, past the next wait) and is not in the batch, and there is such a task
only between the start of the batch and the wait.  What this needs of the machine alone comes from `MInv`: the blocks
branch by branch with the exact frame stack and no fault (`Step`), the two task lists have no duplicates (`TkInv`),
and with a task on the global list the wait is entered with a zero timeout or with the kernel timer armed at 1 ns
(`TimeInv`).
-/

namespace Ivy.L1.ProofsC06
open Ivy.L1 Ivy.Heap

/-! ## the frame stack: kinds, the running task batch -/

def fkind : Frame → Nat
  | .timers _ => 0 | .tasks _ => 1 | .poll _ _ => 2 | .fd _ _ => 3 | .events _ => 4

def fbatch : Frame → List TaskId
  | .tasks r => r | _ => []

def nT : List Frame → Nat
  | [] => 0
  | fr :: l => (if fkind fr = 1 then 1 else 0) + nT l

/-- the tasks of the batch being run by `iv_run_tasks` -/
def batchOf : List Frame → List TaskId
  | [] => []
  | fr :: l => fbatch fr ++ batchOf l

@[simp] theorem nT_nil : nT [] = 0 := rfl
@[simp] theorem batchOf_nil : batchOf [] = [] := rfl
@[simp] theorem nT_cons (fr l) : nT (fr :: l) = (if fkind fr = 1 then 1 else 0) + nT l := rfl
@[simp] theorem batchOf_cons (fr l) : batchOf (fr :: l) = fbatch fr ++ batchOf l := rfl

@[simp] theorem fkind_timers (r) : fkind (.timers r) = 0 := rfl
@[simp] theorem fkind_tasks (r) : fkind (.tasks r) = 1 := rfl
@[simp] theorem fkind_poll (a r) : fkind (.poll a r) = 2 := rfl
@[simp] theorem fkind_fd (a r) : fkind (.fd a r) = 3 := rfl
@[simp] theorem fkind_events (r) : fkind (.events r) = 4 := rfl
@[simp] theorem fbatch_timers (r) : fbatch (.timers r) = [] := rfl
@[simp] theorem fbatch_tasks (r) : fbatch (.tasks r) = r := rfl
@[simp] theorem fbatch_poll (a r) : fbatch (.poll a r) = [] := rfl
@[simp] theorem fbatch_fd (a r) : fbatch (.fd a r) = [] := rfl
@[simp] theorem fbatch_events (r) : fbatch (.events r) = [] := rfl

theorem batchOf_eq_allTasks (st : List Frame) : batchOf st = ProofsC01.allTasks st := by
  induction st with
  | nil => rfl
  | cons fr st ih => rw [batchOf_cons, ProofsC01.allTasks_cons, ih]; cases fr <;> rfl

@[simp] theorem nT_map (g : Frame → Frame) (hg : ∀ fr, fkind (g fr) = fkind fr) (l : List Frame) :
    nT (l.map g) = nT l := by
  induction l <;> simp_all

@[simp] theorem batchOf_map (g : Frame → Frame) (hg : ∀ fr, fbatch (g fr) = fbatch fr) (l : List Frame) :
    batchOf (l.map g) = batchOf l := by
  induction l <;> simp_all

@[simp] theorem fkind_eraseActive (fr f) : fkind (eraseActive fr f) = fkind fr := by cases fr <;> rfl
@[simp] theorem fbatch_eraseActive (fr f) : fbatch (eraseActive fr f) = fbatch fr := by cases fr <;> rfl
@[simp] theorem fkind_eraseEvent (fr f) : fkind (eraseEvent fr f) = fkind fr := by cases fr <;> rfl
@[simp] theorem fbatch_eraseEvent (fr f) : fbatch (eraseEvent fr f) = fbatch fr := by cases fr <;> rfl
@[simp] theorem fkind_setTimerBatch (fr f) : fkind (setTimerBatch fr f) = fkind fr := by cases fr <;> rfl
@[simp] theorem fbatch_setTimerBatch (fr f) : fbatch (setTimerBatch fr f) = fbatch fr := by cases fr <;> rfl
@[simp] theorem fkind_appendTaskBatch (fr f) : fkind (appendTaskBatch fr f) = fkind fr := by cases fr <;> rfl
@[simp] theorem fkind_eraseTask (fr f) : fkind (eraseTask fr f) = fkind fr := by cases fr <;> rfl
@[simp] theorem fbatch_eraseTask (fr : Frame) (k : TaskId) : fbatch (eraseTask fr k) = (fbatch fr).erase k := by
  cases fr <;> simp [eraseTask]

/-- `iv_task_register` from a task handler: the task joins the batch being run -/
theorem mem_batchOf_appendTask (s : St) (k x : TaskId) :
    x ∈ batchOf (s.stack.map (appendTaskBatch · k)) ↔
      x ∈ batchOf s.stack ∨ (x = k ∧ inRunTasks s = true) := by
  unfold inRunTasks
  induction s.stack with
  | nil => simp
  | cons fr l ih =>
    rw [List.map_cons, batchOf_cons, batchOf_cons, List.mem_append, List.mem_append, ih]
    cases fr <;> simp [appendTaskBatch] <;> grind

theorem mem_batchOf_eraseTask {l : List Frame} (h : (batchOf l).Nodup) (k x : TaskId) :
    x ∈ batchOf (l.map (eraseTask · k)) ↔ x ≠ k ∧ x ∈ batchOf l := by
  simp only [batchOf_eq_allTasks] at h ⊢
  exact flat_erase_mem fbatch eraseTask fbatch_eraseTask l k h x

/-- with a task on the global list the wait does not block: a zero timeout, or the kernel timer armed at 1 ns -/
theorem wait_nonBlocking {s : St} {abs : Option TS} {km : Bool} (h : MInv s) (hpc : s.pc = .run (.wait abs km))
    (ht : s.tasks ≠ []) :
    Ivy.Mon.C06.nonBlocking (timeoutOf s abs) (if s.timerfd then some s.ktimer else none) = true := by
  rcases h.time.wait_tasks (by rw [hpc]; rfl) ht with e | e | ⟨e, hk⟩
  · rw [e]; rfl
  · rw [e]; rfl
  · rw [e, hk]; rfl

/-! ## the monitor's bookkeeping against the machine's task lists -/

open Ivy.Mon.C06 (M)

/-- control points between the end of `iv_run_tasks` and the entry of the kernel wait -/
def Pw : Pc → Bool
  | .run .exitCheck | .run .prepWait | .run (.flush _ _) | .run (.wait _ _) | .needTime (.forWait _ _) => true
  | _ => false

structure InvB (μ : M) (s : St) : Prop where
  alive : μ.dead = false
  pend : μ.pendingReg = none
  reg_nodup : μ.reg.Nodup
  reg_mem : ∀ k, k ∈ μ.reg ↔ (1 ≤ k ∧ (k ∈ s.tasks ∨ k ∈ batchOf s.stack))
  ran_epoch : ∀ k ∈ μ.ranSinceWait, (s.tobjs k).epoch = s.taskEpoch
  ran_batch : ∀ k ∈ μ.ranSinceWait, k ∉ batchOf s.stack
  ran_phase : μ.ranSinceWait ≠ [] → nT s.stack ≠ 0 ∨ Pw s.pc = true

/-- steps that leave the task list, the batch, the epochs of the task objects (but for a fresh one) and the phase
before the wait alone -/
structure QB (s s' : St) : Prop where
  tasks : s'.tasks = s.tasks
  epoch : ∀ k, (s'.tobjs k).epoch = (s.tobjs k).epoch ∨ (s'.tobjs k).epoch = s'.taskEpoch
  taskEpoch : s'.taskEpoch = s.taskEpoch
  batch : batchOf s'.stack = batchOf s.stack
  nT : nT s'.stack = nT s.stack
  pw : Pw s.pc = false ∨ Pw s'.pc = true

/-- The frame equations of `MachineLemmas` have this form: the fields not named stay those of `s`. -/
theorem QB.of_eq {s s' : St} {method timerfdAvail pwait2 useRaw quit numobjs fds numfds handled lastAbs lastAbsCount
    notify pfds kint kickReg kickArmed timerfd ktimer heap time timeValid tlive eventCount pending evs raws pc stack}
    (e : s' = { s with method, timerfdAvail, pwait2, useRaw, quit, numobjs, fds, numfds, handled, lastAbs,
                       lastAbsCount, notify, pfds, kint, kickReg, kickArmed, timerfd, ktimer, heap, time, timeValid,
                       tlive, eventCount, pending, evs, raws, pc, stack })
    (h1 : batchOf stack = batchOf s.stack) (h2 : ProofsC06.nT stack = ProofsC06.nT s.stack)
    (hp : Pw s.pc = false ∨ Pw pc = true) : QB s s' := by
  subst e
  exact ⟨rfl, fun _ => Or.inl rfl, rfl, h1, h2, hp⟩

/-- the object tables are written; every task object keeps its epoch or gets the current one -/
theorem QB.objs {s s' : St} {fds tlive tobjs evs raws} (e : s' = { s with fds, tlive, tobjs, evs, raws })
    (ht : ∀ t, (tobjs t).epoch = (s.tobjs t).epoch ∨ (tobjs t).epoch = s.taskEpoch) (hu : Pw s.pc = false) :
    QB s s' := by
  subst e
  exact ⟨rfl, ht, rfl, rfl, rfl, Or.inl hu⟩

theorem epoch_upd (s : St) (k : TaskId) {o : TaskObj} (ho : o.epoch = (s.tobjs k).epoch ∨ o.epoch = s.taskEpoch)
    (t : TaskId) : ((upd s.tobjs k o) t).epoch = (s.tobjs t).epoch ∨ ((upd s.tobjs k o) t).epoch = s.taskEpoch := by
  rw [upd_apply]
  split
  · next h => rw [h]; exact ho
  · exact Or.inl rfl

theorem InvB.quiet {μ : M} {s s' : St} (h : InvB μ s) (q : QB s s') : InvB μ s' := by
  obtain ⟨alive, pend, reg_nodup, reg_mem, ran_epoch, ran_batch, ran_phase⟩ := h
  refine ⟨alive, pend, reg_nodup, ?_, fun k hk => ?_, ?_, fun hr => ?_⟩
  · rw [q.tasks, q.batch]; exact reg_mem
  · exact (q.epoch k).elim (fun e => by rw [e, q.taskEpoch]; exact ran_epoch k hk) id
  · rw [q.batch]; exact ran_batch
  · rw [q.nT]
    refine (ran_phase hr).imp_right fun e => q.pw.resolve_left ?_
    rw [e]; exact Bool.noConfusion

/-- the wait is entered, or `iv_main` returns, or `iv_run_tasks` starts: no task has run in this round -/
theorem InvB.newRound {μ : M} {s s' : St} (h : InvB μ s)
    (hm : ∀ k, (k ∈ s'.tasks ∨ k ∈ batchOf s'.stack) ↔ (k ∈ s.tasks ∨ k ∈ batchOf s.stack)) :
    InvB { μ with ranSinceWait := [] } s' :=
  ⟨h.alive, h.pend, h.reg_nodup, fun k => by rw [hm]; exact h.reg_mem k, fun _ h => (nomatch h),
    fun _ h => (nomatch h), (absurd rfl ·)⟩

def harmless : Out → Bool
  | .ret _ | .fatal _ | .fault _ => true
  | .cb (.task _) => false
  | .cb _ => true
  | _ => false

theorem step_dead (μ : M) (hd : μ.dead = true) (e : Ev) : Ivy.Mon.C06.step μ e = .ok μ := by
  simp [Ivy.Mon.C06.step, hd]

theorem step_harmless (μ : M) (hd : μ.dead = false) (hp : μ.pendingReg = none) (o : Out)
    (hh : harmless o = true) :
    ∃ μ', Ivy.Mon.C06.step μ (.out o) = .ok μ' ∧ (μ'.dead = true ∨ μ' = μ) := by
  cases o with
  | cb c => cases c <;> simp_all [Ivy.Mon.C06.step, harmless] <;> (cases μ; simp_all)
  | ret v => simp_all [Ivy.Mon.C06.step]
  | fatal m => simp_all [Ivy.Mon.C06.step]
  | fault m => simp_all [Ivy.Mon.C06.step]
  | _ => simp [harmless] at hh

def seen : Input → Bool
  | .api (.taskRegister _) | .api (.taskUnregister _) => true
  | _ => false

theorem step_inp_other (μ : M) (i : Input) (hd : μ.dead = false) (hp : μ.pendingReg = none)
    (h : seen i = false) : Ivy.Mon.C06.step μ (.inp i) = .ok μ := by
  cases i with
  | api a => cases a <;> simp_all [Ivy.Mon.C06.step, seen] <;> (cases μ; simp_all)
  | _ => simp_all [Ivy.Mon.C06.step] <;> (cases μ; simp_all)

/-- the result of a step that the monitor does not notice -/
def Quiet (s : St) (r : St × List Out) : Prop := QB s r.1 ∧ r.2.all harmless = true

theorem InvB.outs {μ : M} {s : St} {r : St × List Out} (h : InvB μ s) (q : Quiet s r) :
    ∃ μ', (r.2.map Ev.out).foldlM Ivy.Mon.C06.step μ = .ok μ' ∧ (μ'.dead = true ∨ InvB μ' r.1) :=
  fold_quiet step_dead (step_harmless μ h.alive h.pend) (pre := []) (fun _ h => nomatch h) q.2
    (I := fun μ' => InvB μ' r.1) (h.quiet q.1)

theorem InvB.input {μ : M} {s : St} {r : St × List Out} {i : Input} (h : InvB μ s) (q : Quiet s r)
    (hi : seen i = false) :
    ∃ μ', (Ev.inp i :: r.2.map Ev.out).foldlM Ivy.Mon.C06.step μ = .ok μ' ∧ (μ'.dead = true ∨ InvB μ' r.1) :=
  fold_quiet step_dead (step_harmless μ h.alive h.pend) (pre := [.inp i])
    (fun e he => by rw [List.mem_singleton.1 he]; exact step_inp_other μ i h.alive h.pend hi) q.2
    (I := fun μ' => InvB μ' r.1) (h.quiet q.1)

/-- `iv_run_tasks` takes the first task `k` of the batch: it gets the current epoch, and neither it nor a task that ran
before is left in the batch; the monitor sees a handler entered unless `k` is `events_local` (task 0) -/
theorem InvB.pop {μ : M} {s s' : St} {k : TaskId} {r : List TaskId} (hI : MInv s) (hB : InvB μ s)
    (hst : s.stack = [.tasks (k :: r)]) (e1 : s'.tasks = s.tasks)
    (e2 : s'.tobjs = upd s.tobjs k { s.tobjs k with epoch := s.taskEpoch }) (e3 : s'.taskEpoch = s.taskEpoch)
    (e4 : s'.stack = [.tasks r]) :
    (k = 0 → InvB μ s') ∧
      (k ≠ 0 → InvB { μ with reg := μ.reg.erase k, ranSinceWait := μ.ranSinceWait ++ [k] } s') := by
  obtain ⟨alive, pend, reg_nodup, reg_mem, ran_epoch, ran_batch, -⟩ := hB
  have hnd : (s.tasks ++ batchOf s.stack).Nodup := batchOf_eq_allTasks _ ▸ hI.core.tk.1
  rw [hst] at reg_mem ran_batch hnd
  simp only [batchOf_cons, fbatch_tasks, batchOf_nil, List.append_nil] at reg_mem ran_batch hnd
  have hk : k ∉ s.tasks ++ r := (List.nodup_cons.1 (List.perm_middle.nodup_iff.1 hnd)).1
  have hep : ∀ k', k' = k ∨ k' ∈ μ.ranSinceWait → (s'.tobjs k').epoch = s'.taskEpoch := fun k' hk' => by
    rw [e2, e3, upd_apply]
    split
    · rfl
    · exact ran_epoch k' (hk'.resolve_left ‹_›)
  have hbt : ∀ k', k' = k ∨ k' ∈ μ.ranSinceWait → k' ∉ batchOf s'.stack := fun k' hk' hm => by
    have hm : k' ∈ r := by simpa [e4] using hm
    rcases hk' with rfl | hk'
    · exact hk (List.mem_append_right _ hm)
    · exact ran_batch k' hk' (List.mem_cons_of_mem _ hm)
  have hn : nT s'.stack ≠ 0 := by simp [e4]
  refine ⟨fun hk0 => ⟨alive, pend, reg_nodup, fun k' => ?_, fun k' hk' => hep k' (.inr hk'),
    fun k' hk' => hbt k' (.inr hk'),
    fun _ => .inl hn⟩, fun hk0 => ⟨alive, pend, reg_nodup.erase k, fun k' => ?_, fun k' hk' => hep k' ?_,
    fun k' hk' => hbt k' ?_, fun _ => .inl hn⟩⟩
  · -- `events_local`, not a user task
    rw [reg_mem, e1, e4, hk0]
    simp
    grind
  · show k' ∈ μ.reg.erase k ↔ _
    rw [reg_nodup.mem_erase_iff, reg_mem, e1, e4]
    simp
    grind
  · simpa [or_comm] using hk'
  · simpa [or_comm] using hk'

/-- the blocks, branch by branch (`MInv.step`).  Most leave the task lists alone and push, pop or replace frames of the
other kinds; between the exit check and the wait control only moves on -/
theorem stepB_internal {μ : M} {s : St} {b : Block} (hI : MInv s) (hB : InvB μ s) (hpc : s.pc = .run b) :
    ∃ μ', ((internal s b).2.map Ev.out).foldlM Ivy.Mon.C06.step μ = .ok μ' ∧
      (μ'.dead = true ∨ InvB μ' (internal s b).1) := by
  have hs := hI.step hpc
  generalize internal s b = x at hs
  have hu : ∀ {b'}, s.pc = .run b' → Pw (.run b') = false → Pw s.pc = false := fun e h => e ▸ h
  cases hs with
  | mainTop_skip | mainTop_collect | mainTop_clock | runEvents_none | resume_tasks | resume_poll | resume_fd =>
    exact hB.outs ⟨QB.of_eq rfl rfl rfl (.inl (hu hpc rfl)), rfl⟩
  | collect _ _ hst | popTimer_done hst | popTimer_cb _ _ hst | popEvent_done _ hst | popEvent_cb _ _ _ hst
  | dispatch_done _ hst | dispatch_next _ _ _ hst | fd_done _ _ _ _ hst | fd_pass _ _ _ _ hst | fd_raw _ _ _ hst
  | fd_cb _ _ _ _ hst =>
    exact hB.outs ⟨QB.of_eq rfl (by simp [hst]) (by simp [hst]) (.inl (hu hpc rfl)), rfl⟩
  | runEvents_some => exact hB.outs ⟨QB.of_eq rfl (by simp) (by simp) (.inl (hu hpc rfl)), rfl⟩
  | stay => exact hB.outs ⟨QB.of_eq rfl rfl rfl (.inr rfl), rfl⟩
  | prepWait s1 abs km _ e => rw [e]; exact hB.outs ⟨QB.of_eq rfl rfl rfl (.inr rfl), rfl⟩
  | flush_clock | flush_go => rw [flushed_frame]; exact hB.outs ⟨QB.of_eq rfl rfl rfl (.inr rfl), rfl⟩
  | startTasks hst =>
    have hran : μ.ranSinceWait = [] := Classical.byContradiction fun hne => by
      have := hB.ran_phase hne
      rw [hst, hpc] at this
      exact this.elim (· rfl) Bool.noConfusion
    -- the global list becomes the batch
    refine ⟨μ, rfl, Or.inr ?_⟩
    rw [show μ = { μ with ranSinceWait := [] } by rw [← hran]]
    exact hB.newRound fun k => by simp [hst]
  | exit =>
    exact ⟨{ μ with ranSinceWait := [] }, by simp [Ivy.Mon.C06.step, hB.alive],
      Or.inr (hB.newRound fun _ => Iff.rfl)⟩
  | wait abs km hst =>
    -- with a task registered the loop does not enter a blocking wait
    have hnb : μ.reg = [] ∨
        Ivy.Mon.C06.nonBlocking (timeoutOf s abs) (if s.timerfd then some s.ktimer else none) = true := by
      cases hr : μ.reg with
      | nil => exact Or.inl rfl
      | cons k l =>
        have hk : k ∈ s.tasks := by simpa [hst] using ((hB.reg_mem k).1 (by simp [hr])).2
        exact Or.inr (wait_nonBlocking hI hpc (List.ne_nil_of_mem hk))
    refine ⟨{ μ with ranSinceWait := [] }, ?_, Or.inr (hB.newRound fun _ => Iff.rfl)⟩
    rcases hnb with e | e <;> simp [Ivy.Mon.C06.step, hB.alive, e]
  | popTask_done hst =>
    refine ⟨μ, rfl, Or.inr ⟨hB.alive, hB.pend, hB.reg_nodup, fun k => ?_, hB.ran_epoch,
      fun _ _ => List.not_mem_nil, fun _ => Or.inr rfl⟩⟩
    have := hB.reg_mem k
    rwa [hst] at this
  | popTask_events r hst => refine ⟨μ, rfl, Or.inr ((hB.pop hI hst ?_ ?_ ?_ ?_).1 rfl)⟩ <;> rfl
  | popTask_cb k r hk hst =>
    have hreg : k ∈ μ.reg := (hB.reg_mem k).2 ⟨Nat.pos_of_ne_zero hk, .inr (by simp [hst])⟩
    have hran : k ∉ μ.ranSinceWait := fun h => hB.ran_batch k h (by simp [hst])
    refine ⟨_, by simp [Ivy.Mon.C06.step, hB.alive, hreg, hran], Or.inr ((hB.pop hI hst ?_ ?_ ?_ ?_).2 hk)⟩ <;> rfl

def quietApi : Api → Bool
  | .taskRegister _ | .taskUnregister _ | .evPost _ => false
  | _ => true

theorem edits_keep {k : ApiKind} (hk : match k with | .task | .post | .init => False | _ => True) {φ : Frame → Frame}
    (h : k.Edits φ) : ∀ fr, fkind (φ fr) = fkind fr ∧ fbatch (φ fr) = fbatch fr := by
  cases h with
  | register | unregister | post => cases hk
  | none => exact fun _ => ⟨rfl, rfl⟩
  | fd | raw => exact fun fr => ⟨fkind_eraseActive fr _, fbatch_eraseActive fr _⟩
  | timer b => exact fun fr => ⟨fkind_setTimerBatch fr b, fbatch_setTimerBatch fr b⟩
  | event e => exact fun fr => ⟨fkind_eraseEvent fr e, fbatch_eraseEvent fr e⟩
  | lastEvent e =>
    exact fun fr => ⟨(fkind_eraseActive _ _).trans (fkind_eraseEvent fr e),
      (fbatch_eraseActive _ _).trans (fbatch_eraseEvent fr e)⟩

/-- the calls on descriptors, timers, events and raw events and on the loop write neither the task lists nor the task
objects; of the stack they edit frames of the other kinds -/
theorem qb_kind {s : St} {a : Api} (hk : match a.kind with | .task | .post | .init => False | _ => True)
    (hpc : s.pc = .user) : Quiet s (api s a) := by
  obtain ⟨hf, ⟨φ, hφ, hst⟩, hc⟩ := api_effect s a
  have hw : ∀ s', a.kind.writes s s' =
      { a.kind.writes s s' with tasks := s.tasks, tobjs := s.tobjs, taskEpoch := s.taskEpoch } := by
    generalize a.kind = k at hk
    cases k with
    | task | post | init => cases hk
    | _ => exact fun _ => rfl
  have hkeep := edits_keep hk hφ
  have e := hf.trans (hw _)
  generalize api s a = x at e hst hc
  have p : ∀ {α : Type} (f : St → α), f x.1 = f _ := fun f => congrArg f e
  refine ⟨⟨p St.tasks, fun k => .inl (p fun y => (y.tobjs k).epoch), p St.taskEpoch,
    by rw [hst]; exact batchOf_map _ (fun fr => (hkeep fr).2) _, by rw [hst]; exact nT_map _ (fun fr => (hkeep fr).1) _,
    .inl (by rw [hpc]; rfl)⟩, ?_⟩
  cases hc with
  | dead o ho => cases o <;> first | rfl | cases ho
  | ret | nil | validate | main => rfl

theorem qb_api {s : St} {a : Api} (hq : quietApi a = true) (hpc : s.pc = .user) : Quiet s (api s a) := by
  cases a with
  | taskRegister | taskUnregister | evPost => cases hq
  | taskInit k => exact ⟨QB.objs rfl (epoch_upd s k (Or.inr rfl)) (by rw [hpc]; rfl), rfl⟩
  | _ => exact qb_kind trivial hpc

/-- `iv_task_register` of a task that is on no list, seen by the monitor as a registration of `k` if `1 ≤ k` -/
theorem InvB.register {μ μ' : M} {s : St} {k : TaskId} (hB : InvB μ s)
    (e1 : μ'.dead = μ.dead) (e2 : μ'.pendingReg = none) (e3 : μ'.ranSinceWait = μ.ranSinceWait)
    (e4 : μ'.reg.Nodup) (e5 : ∀ k', k' ∈ μ'.reg ↔ k' ∈ μ.reg ∨ (k' = k ∧ 1 ≤ k)) :
    InvB μ' (taskRegisterCore s k) := by
  obtain ⟨alive, pend, reg_nodup, reg_mem, ran_epoch, ran_batch, ran_phase⟩ := hB
  rw [← e3] at ran_epoch ran_batch ran_phase
  rcases taskRegisterCore_cases s k with e | ⟨hin, hep, e⟩ <;> rw [e]
  · refine ⟨e1.trans alive, e2, e4, fun k' => ?_, ran_epoch, ran_batch, ran_phase⟩
    show _ ↔ 1 ≤ k' ∧ (k' ∈ s.tasks ++ [k] ∨ _)
    rw [e5, reg_mem]
    simp
    grind
  · -- a task that ran in this round has the current epoch and is not the one that joins the batch
    refine ⟨e1.trans alive, e2, e4, fun k' => ?_, ran_epoch, fun k' hk' => ?_,
      fun hr => (ran_phase hr).imp_left fun hn => ?_⟩
    · show _ ↔ 1 ≤ k' ∧ (k' ∈ s.tasks ∨ k' ∈ batchOf (s.stack.map _))
      rw [e5, reg_mem, mem_batchOf_appendTask]
      grind
    · show k' ∉ batchOf (s.stack.map _)
      rw [mem_batchOf_appendTask]
      rintro (h | ⟨rfl, -⟩)
      · exact ran_batch k' hk' h
      · exact hep (ran_epoch k' hk')
    · show nT (s.stack.map _) ≠ 0
      rwa [nT_map _ (by simp)]

theorem InvB.unregister {μ : M} {s : St} (hI : MInv s) (hB : InvB μ s) (k : TaskId) :
    InvB { μ with reg := μ.reg.erase k, pendingReg := none } (taskUnregisterCore s k) := by
  obtain ⟨alive, pend, reg_nodup, reg_mem, ran_epoch, ran_batch, ran_phase⟩ := hB
  obtain ⟨hnt, hnb, -⟩ := List.nodup_append.1
    (show (s.tasks ++ batchOf s.stack).Nodup from batchOf_eq_allTasks _ ▸ hI.core.tk.1)
  refine ⟨alive, rfl, reg_nodup.erase k, fun k' => ?_, ran_epoch, fun k' hk' hm => ?_, fun hr => ?_⟩
  · show _ ↔ 1 ≤ k' ∧ (k' ∈ s.tasks.erase k ∨ k' ∈ batchOf (s.stack.map _))
    rw [reg_nodup.mem_erase_iff, hnt.mem_erase_iff, mem_batchOf_eraseTask hnb, reg_mem]
    grind
  · exact ran_batch k' hk' ((mem_batchOf_eraseTask hnb k k').1 hm).2
  · show nT (s.stack.map _) ≠ 0 ∨ _
    rw [nT_map _ (by simp)]
    exact ran_phase hr

theorem stepB_taskRegister {μ : M} {s : St} {k : TaskId} (hB : InvB μ s) (hk : 1 ≤ k) :
    ∃ μ', (Ev.inp (.api (.taskRegister k)) :: (api s (.taskRegister k)).2.map Ev.out).foldlM Ivy.Mon.C06.step μ = .ok μ' ∧
      (μ'.dead = true ∨ InvB μ' (api s (.taskRegister k)).1) := by
  have h1 := hB.alive
  rcases api_taskRegister_cases s k with ⟨-, m, e⟩ | ⟨hon, e⟩ <;> rw [e]
  · exact ⟨{ μ with pendingReg := some k, dead := true },
      by simp [Ivy.Mon.C06.step, h1, bind, Except.bind, pure, Except.pure], Or.inl rfl⟩
  · have hkr : k ∉ μ.reg := fun h => Bool.eq_false_iff.1 hon ((ProofsC01.taskOnList_iff s k).2
      (batchOf_eq_allTasks _ ▸ List.mem_append.2 ((hB.reg_mem k).1 h).2))
    refine ⟨{ μ with reg := μ.reg ++ [k], pendingReg := none },
      by simp [Ivy.Mon.C06.step, h1, bind, Except.bind, pure, Except.pure], Or.inr ?_⟩
    refine hB.register rfl rfl rfl ?_ fun k' => by simp [hk]
    exact List.nodup_append.2 ⟨hB.reg_nodup, by simp, fun a ha b hb => by
      rw [List.mem_singleton.1 hb]; rintro rfl; exact hkr ha⟩

theorem stepB_taskUnregister {μ : M} {s : St} (hI : MInv s) (hB : InvB μ s) (k : TaskId) :
    ∃ μ', (Ev.inp (.api (.taskUnregister k)) :: (api s (.taskUnregister k)).2.map Ev.out).foldlM Ivy.Mon.C06.step μ = .ok μ' ∧
      (μ'.dead = true ∨ InvB μ' (api s (.taskUnregister k)).1) := by
  have h1 := hB.alive
  rcases api_taskUnregister_cases s k with ⟨-, m, e⟩ | ⟨-, e⟩ <;> rw [e]
  · exact ⟨{ μ with reg := μ.reg.erase k, pendingReg := none, dead := true },
      by simp [Ivy.Mon.C06.step, h1, bind, Except.bind, pure, Except.pure], Or.inl rfl⟩
  · exact ⟨{ μ with reg := μ.reg.erase k, pendingReg := none },
      by simp [Ivy.Mon.C06.step, h1, bind, Except.bind, pure, Except.pure], Or.inr (hB.unregister hI k)⟩

/-- a post may register the deferred task `events_local` (task 0), which the monitor does not count -/
theorem stepB_evPost {μ : M} {s : St} (hB : InvB μ s) (e : EvId) (hpc : s.pc = .user) :
    ∃ μ', (Ev.inp (.api (.evPost e)) :: (api s (.evPost e)).2.map Ev.out).foldlM Ivy.Mon.C06.step μ = .ok μ' ∧
      (μ'.dead = true ∨ InvB μ' (api s (.evPost e)).1) := by
  have hstep : Ivy.Mon.C06.step μ (.inp (.api (.evPost e))) = .ok μ := step_inp_other μ _ hB.alive hB.pend rfl
  have hB1 : InvB μ { s with pending := s.pending ++ [e] } :=
    hB.quiet (QB.of_eq rfl rfl rfl (Or.inl (by rw [hpc]; rfl)))
  rcases api_evPost_cases s e with ⟨-, h⟩ | ⟨-, -, -, h⟩ | ⟨-, -, h⟩ <;> rw [h]
  · exact ⟨μ, by simp [hstep], Or.inr hB⟩
  · exact ⟨μ, by simp [hstep], Or.inr (hB1.register rfl hB.pend rfl hB.reg_nodup (by simp))⟩
  · exact ⟨μ, by simp [hstep], Or.inr hB1⟩

theorem qb_afterWait {s : St} {abs : Option TS} {km : Bool} (r : WRes) (hpc : s.pc = .waiting abs km) :
    Quiet s (afterWait s abs km r) := by
  have hp : Pw s.pc = false := by rw [hpc]; rfl
  by_cases hr : r = .enosys
  · have h := afterWait_enosys_cases s abs km
    rw [hr]
    generalize afterWait s abs km .enosys = x at h ⊢
    cases h <;> exact ⟨QB.of_eq rfl rfl rfl (Or.inl hp), rfl⟩
  · obtain ⟨fds, ka, kt, active, rt, runEv, b, w⟩ := afterWait_wake s abs km hr
    rw [w.eq]
    exact ⟨QB.of_eq rfl (by simp) (by simp) (Or.inl hp), rfl⟩

theorem stepB_input {μ : M} {s : St} {i : Input} {r : St × List Out} (hI : MInv s) (hB : InvB μ s)
    (henv : envOk s i = true) (hi : input s i = some r) :
    ∃ μ', (Ev.inp i :: r.2.map Ev.out).foldlM Ivy.Mon.C06.step μ = .ok μ' ∧ (μ'.dead = true ∨ InvB μ' r.1) := by
  cases input_inv hi with
  | api a hpc =>
    by_cases hq : quietApi a = true
    · exact hB.input (qb_api hq hpc) (by cases a <;> first | rfl | cases hq)
    · cases a <;> simp only [quietApi] at hq <;> try (exact absurd trivial hq)
      · simp only [envOk, apiOk, Bool.and_eq_true, decide_eq_true_eq] at henv
        exact stepB_taskRegister hB henv.1
      · exact stepB_taskUnregister hI hB _
      · exact stepB_evPost hB _ hpc
  | wret abs km r hpc => exact hB.input (qb_afterWait r hpc) rfl
  | free k id hpc =>
    have hu : Pw s.pc = false := by rw [hpc]; rfl
    -- a freed task object keeps its epoch
    exact hB.input ⟨QB.objs (freeObj_frame s k id) (fun t => .inl (by rw [freeObj_tobjs])) hu, rfl⟩ rfl
  | init k id hpc =>
    have hu : Pw s.pc = false := by rw [hpc]; rfl
    -- an initialised task object gets the current epoch
    refine hB.input ⟨QB.objs (initObj_frame s k id) (fun t => ?_) hu, rfl⟩ rfl
    rcases initObj_tobjs s k id with e | ⟨-, e⟩ <;> rw [e]
    · exact .inl rfl
    · exact epoch_upd s id (.inr rfl) t
  | time t k hpc =>
    cases k <;> exact hB.input ⟨QB.of_eq rfl rfl rfl (by simp [hpc, Pw]), rfl⟩ rfl
  | handlerEnd b hpc hb | rawGoto r okk b hpc hb | rawFault r okk msg hpc | rawCb r okk hpc
  | xpostNop abs km e hpc | xpost abs km e ka hpc =>
    exact hB.input ⟨QB.of_eq rfl rfl rfl (Or.inl (by rw [hpc]; rfl)), rfl⟩ rfl

theorem monitor_accepts (m : Method) (ntimers : Nat) (timerfdAvail pwait2 : Bool)
    (evs : List Ev) (s' : St) (h : Exec (St.init m ntimers timerfdAvail pwait2) evs s') :
    Ivy.Mon.C06.verdict evs = none := by
  obtain ⟨μ', e⟩ := exec_simulation_dead (dead := fun μ => μ.dead = true) (C := InvB) step_dead
    (fun hI _ hB hpc => stepB_internal hI hB hpc) (fun hI _ hB henv hi => stepB_input hI hB henv hi) h
    (MInv.init ..) (μ := {}) ⟨rfl, rfl, List.nodup_nil, by simp [St.init], fun _ h => (nomatch h),
      fun _ h => (nomatch h), (absurd rfl ·)⟩
  unfold Ivy.Mon.C06.verdict runMon
  rw [e]

/-! ## three small facts no proof of this file uses: the flush and `iv_fd_timeout_check` leave `pc` alone; any deadline is
before none -/

@[simp] theorem flushAll_pc (s : St) (l : List FdId) : (l.foldl epollFlushOne s).pc = s.pc := by rw [flushAll_frame]
@[simp] theorem timeoutCheck_pc (s : St) (abs : Option TS) : ((timeoutCheck s abs).1).pc = s.pc := by rw [timeoutCheck_frame]
theorem tsCmp_none (b : TS) : tsCmp none b = 1 := rfl

/-! ## two traces of the machine (a task that re-registers itself across a zero-timeout poll; kernel-timer mode),
accepted by the theorem -/

def isTaskCb : Ev → Bool
  | .out (.cb (.task _)) => true
  | _ => false

def isWait : Ev → Bool
  | .out (.wait ..) => true
  | _ => false

/-- a wait that does not block because a task is pending: zero timeout -/
def isZeroWait : Ev → Bool
  | .out (.wait _ (.ns 0) _ _ _) => true
  | .out (.wait _ (.ms 0) _ _ _) => true
  | _ => false

/-- kernel-timer mode: unbounded wait with the kernel timer armed at 1 ns -/
def isKtimerWait : Ev → Bool
  | .out (.wait _ .inf _ (some (some ⟨0, 1⟩)) _) => true
  | _ => false

/-- two tasks and a descriptor are registered; task 1 re-registers itself (deferred past the poll)
and registers task 3 (joins the running batch); the loop polls with a zero timeout, runs task 1 again,
which quits -/
def demoInputs : List Input :=
  [.api (.taskRegister 1), .api (.taskRegister 2), .api (.fdRegister 3 true false false), .api .main,
   .api (.taskRegister 1), .api (.taskRegister 3), .handlerEnd, .handlerEnd, .handlerEnd,
   .time ⟨5, 0⟩, .wret (.events []), .api .quit, .handlerEnd]

def demoTrace := runTrace 100 (St.init .epoll 0 true true) demoInputs

/-- kernel-timer mode: task 1 re-registers itself on every round; from the fifth identical deadline on
the wait is unbounded with the kernel timer armed at 1 ns -/
def demoRound : List Input := [.api (.taskRegister 1), .handlerEnd, .time ⟨5, 0⟩, .wret (.events [])]
def demoInputs2 : List Input :=
  [.api (.taskRegister 1), .api (.fdRegister 3 true false false), .api .main] ++
  demoRound ++ demoRound ++ demoRound ++ demoRound ++
  [.api (.taskRegister 1), .handlerEnd, .wret (.events [.ktimer]), .api .quit, .handlerEnd]

def demoTrace2 := runTrace 200 (St.init .epollTimerfd 0 true true) demoInputs2

theorem demo_exec : Exec (St.init .epoll 0 true true) demoTrace.1 demoTrace.2 := runTrace_exec _ _ _
theorem demo2_exec : Exec (St.init .epollTimerfd 0 true true) demoTrace2.1 demoTrace2.2 := runTrace_exec _ _ _

/-- the first trace runs four task handlers (task 1 twice, with a zero-timeout poll in between) and returns -/
example : (demoTrace.1.filter isTaskCb).length = 4 ∧ (demoTrace.1.filter isZeroWait).length = 1 ∧
    (demoTrace.1.filter isWait).length = 1 := by decide

/-- the second trace runs six task handlers, polls four times with a zero timeout and once unbounded with
the kernel timer armed at 1 ns -/
example : (demoTrace2.1.filter isTaskCb).length = 6 ∧ (demoTrace2.1.filter isZeroWait).length = 4 ∧
    (demoTrace2.1.filter isKtimerWait).length = 1 ∧ (demoTrace2.1.filter isWait).length = 5 := by decide

example : Ivy.Mon.C06.verdict demoTrace.1 = none := monitor_accepts _ _ _ _ _ _ demo_exec
example : Ivy.Mon.C06.verdict demoTrace2.1 = none := monitor_accepts _ _ _ _ _ _ demo2_exec
end Ivy.L1.ProofsC06
