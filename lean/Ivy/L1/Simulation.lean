import Ivy.L1.Exec
/-!
# The `monitor_accepts` theorems of L1 are simulations

A monitor is a fold `step : σ → Ev → Except String σ` over the trace.  It accepts every trace that `Exec` can
produce from a state `s` if some relation `R` between monitor state and machine state holds at the start and is
kept, with the fold over the records of that step succeeding, by every internal block and every enabled
input.  `exec_simulation` is that induction, done once.  `MInv.lean` instantiates it with `R μ s := MInv s ∧ C μ s`
(`exec_simulation_minv`, `exec_simulation_dead`); the proof files `ProofsCxx` supply `C` and the two preservation
lemmas.
-/
namespace Ivy.L1

theorem exec_simulation {σ : Type} {step : σ → Ev → Except String σ} {R : σ → St → Prop}
    (hint : ∀ {μ s b}, R μ s → s.pc = .run b →
      ∃ μ', ((internal s b).2.map Ev.out).foldlM step μ = .ok μ' ∧ R μ' (internal s b).1)
    (hinp : ∀ {μ s i s' outs}, R μ s → envOk s i = true → input s i = some (s', outs) →
      ∃ μ', (Ev.inp i :: outs.map Ev.out).foldlM step μ = .ok μ' ∧ R μ' s')
    {s s' : St} {evs : List Ev} (h : Exec s evs s') {μ : σ} (hR : R μ s) :
    ∃ μ', evs.foldlM step μ = .ok μ' ∧ R μ' s' := by
  induction h generalizing μ with
  | nil s => exact ⟨μ, rfl, hR⟩
  | internal hpc hi _ ih =>
    obtain ⟨μ1, h1, hR1⟩ := hint hR hpc
    rw [hi] at h1 hR1
    obtain ⟨μ2, h2, hR2⟩ := ih hR1
    exact ⟨μ2, by rw [List.foldlM_append, h1]; exact h2, hR2⟩
  | input henv hi _ ih =>
    obtain ⟨μ1, h1, hR1⟩ := hinp hR henv hi
    obtain ⟨μ2, h2, hR2⟩ := ih hR1
    exact ⟨μ2, by rw [← List.cons_append, List.foldlM_append, h1]; exact h2, hR2⟩

/-- a monitor state that every record maps to itself (the absorbing `dead` state of the monitors, entered when
the machine died on `iv_fatal` or a fault) accepts any continuation -/
theorem foldlM_absorbing {σ : Type} {step : σ → Ev → Except String σ} {μ : σ} (h : ∀ e, step μ e = .ok μ)
    (evs : List Ev) : evs.foldlM step μ = .ok μ := by
  induction evs with
  | nil => rfl
  | cons e evs ih => rw [List.foldlM_cons, h e]; exact ih

/-- records that leave the monitor state as it is, or send it to an absorbing state `dead` -/
theorem fold_harmless {σ : Type} {step : σ → Ev → Except String σ} {dead : σ → Prop}
    (habs : ∀ μ, dead μ → ∀ e, step μ e = .ok μ) {P : Out → Prop} {μ : σ}
    (hstep : ∀ o, P o → ∃ μ', step μ (.out o) = .ok μ' ∧ (dead μ' ∨ μ' = μ)) {outs : List Out}
    (hh : ∀ o ∈ outs, P o) : ∃ μ', (outs.map Ev.out).foldlM step μ = .ok μ' ∧ (dead μ' ∨ μ' = μ) := by
  induction outs with
  | nil => exact ⟨μ, rfl, Or.inr rfl⟩
  | cons o outs ih =>
    obtain ⟨μ1, e1, h1⟩ := hstep o (hh o List.mem_cons_self)
    rw [List.map_cons, List.foldlM_cons, e1]
    rcases h1 with h1 | rfl
    · exact ⟨μ1, foldlM_absorbing (habs μ1 h1) _, Or.inl h1⟩
    · exact ih fun o ho => hh o (List.mem_cons_of_mem _ ho)

theorem foldlM_one {σ : Type} (step : σ → Ev → Except String σ) (μ : σ) (e : Ev) : [e].foldlM step μ = step μ e := by
  simp [List.foldlM_cons]

/-- a step the monitor does not notice: records `pre` that leave its state as it is, then harmless records; what held of
the monitor state still holds, or the monitor is dead -/
theorem fold_quiet {σ : Type} {step : σ → Ev → Except String σ} {dead : σ → Prop}
    (habs : ∀ μ, dead μ → ∀ e, step μ e = .ok μ) {harmless : Out → Bool} {μ : σ}
    (hstep : ∀ o, harmless o = true → ∃ μ', step μ (.out o) = .ok μ' ∧ (dead μ' ∨ μ' = μ))
    {pre : List Ev} (hpre : ∀ e ∈ pre, step μ e = .ok μ) {outs : List Out} (hh : outs.all harmless = true)
    {I : σ → Prop} (hI : I μ) :
    ∃ μ', (pre ++ outs.map Ev.out).foldlM step μ = .ok μ' ∧ (dead μ' ∨ I μ') := by
  induction pre with
  | nil =>
    obtain ⟨μ', e, hμ⟩ := fold_harmless habs hstep (List.all_eq_true.1 hh)
    exact ⟨μ', e, hμ.imp_right fun e : μ' = μ => e ▸ hI⟩
  | cons e pre ih =>
    rw [List.cons_append, List.foldlM_cons, hpre e List.mem_cons_self]
    exact ih fun e' h => hpre e' (List.mem_cons_of_mem _ h)

/-- lookup by a key that determines its entry -/
theorem find?_of_mem_unique {α : Type} {l : List (Nat × α)} {k : Nat} {v : α} (hm : (k, v) ∈ l)
    (hu : ∀ v', (k, v') ∈ l → v' = v) : l.find? (·.1 == k) = some (k, v) := by
  cases hf : l.find? (·.1 == k) with
  | none => simpa using List.find?_eq_none.1 hf (k, v) hm
  | some p =>
    obtain ⟨k', v'⟩ := p
    have hk : k' = k := by simpa using List.find?_some hf
    subst hk
    rw [hu v' (List.mem_of_find?_eq_some hf)]

end Ivy.L1
