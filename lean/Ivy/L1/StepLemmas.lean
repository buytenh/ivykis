import Ivy.L1.WaitFold
/-!
# Steps of the loop machine in closed form

What single steps do, where several proofs need it: `iv_event_register` and `iv_event_unregister` as equations and case
by case, the task calls and `iv_event_post` case by case (`api_taskRegister_cases`, `api_taskUnregister_cases`,
`api_taskInit_eq`, `api_evPost_cases`), the `fdStage` block as an equation (`internal_fdStage_eq`), the fields the block
before the wait writes (`internal_prepWait_eq`: not its result), the cases of an enabled input with the result of each
(`InStep`, `input_inv`; left open are which block a returning handler or a raw read resumes, the value of `kickArmed`
after a foreign post and the text of a fault), where control is when an input is enabled (`pc_of_input`), and that a
dead machine takes no step.  What an API call writes is in `StepFrames.lean`, the
return of the wait in `WaitFold.lean`, the blocks branch by branch in `Step.lean`.
-/
namespace Ivy.L1
open Ivy.Heap (TS)

/-- `iv_fatal`, or the C code would touch freed memory -/
def isBad : Out → Bool
  | .fatal _ => true
  | .fault _ => true
  | _ => false

/-- `iv_event_register` up to the raw event: both counters go up, and the first event of a thread without a raw
event brings the kick descriptor of epoll (an object of its own), or else the switch to a raw event -/
def evRegMid (s : St) : St :=
  if (s.eventCount == (0 : Int) && !s.useRaw) = true then
    if s.method.isEpoll = true then
      { s with numobjs := s.numobjs + 1 + 1, eventCount := s.eventCount + 1, kickReg := true, kickArmed := false }
    else { s with numobjs := s.numobjs + 1, eventCount := s.eventCount + 1, useRaw := true }
  else { s with numobjs := s.numobjs + 1, eventCount := s.eventCount + 1 }

theorem api_evRegister_eq (s : St) (e : EvId) (rawOk : Bool) :
    api s (.evRegister e rawOk) =
      if (s.eventCount == (0 : Int) && (evRegMid s).useRaw) = true then
        if rawOk = true then
          ok { rawRegisterCore (evRegMid s) 0 with
                evs := upd (rawRegisterCore (evRegMid s) 0).evs e
                  { (rawRegisterCore (evRegMid s) 0).evs e with registered := true } }
        else
          ({ evRegMid s with eventCount := (evRegMid s).eventCount - 1, numobjs := (evRegMid s).numobjs - 1 },
            [Out.ret (-1)])
      else ok { evRegMid s with evs := upd (evRegMid s).evs e { (evRegMid s).evs e with registered := true } } := rfl

theorem evRegMid_cases (s : St) :
    (s.eventCount = 0 ∧ s.useRaw = false ∧ s.method.isEpoll = true ∧
      evRegMid s = { s with numobjs := s.numobjs + 1 + 1, eventCount := s.eventCount + 1, kickReg := true,
                            kickArmed := false }) ∨
    (s.eventCount = 0 ∧ s.useRaw = false ∧ s.method.isEpoll = false ∧
      evRegMid s = { s with numobjs := s.numobjs + 1, eventCount := s.eventCount + 1, useRaw := true }) ∨
    ((s.eventCount ≠ 0 ∨ s.useRaw = true) ∧
      evRegMid s = { s with numobjs := s.numobjs + 1, eventCount := s.eventCount + 1 }) := by
  unfold evRegMid
  split
  · next h =>
    simp only [Bool.and_eq_true, beq_iff_eq, Bool.not_eq_true'] at h
    split
    · next he => exact Or.inl ⟨h.1, h.2, he, rfl⟩
    · next he => exact Or.inr (Or.inl ⟨h.1, h.2, Bool.eq_false_iff.2 he, rfl⟩)
  · next h =>
    simp only [Bool.and_eq_true, beq_iff_eq, Bool.not_eq_true', not_and, Bool.not_eq_false] at h
    refine Or.inr (Or.inr ⟨?_, rfl⟩)
    by_cases h0 : s.eventCount = 0
    · exact Or.inr (h h0)
    · exact Or.inl h0

/-- `iv_event_register` case by case: a later event; the first event, with the kick descriptor; the first event
with the raw event (in use already, or switched to), whose registration succeeds, or fails and leaves both counters
as they were -/
theorem api_evRegister_cases (s : St) (e : EvId) (rawOk : Bool) :
    (s.eventCount ≠ 0 ∧ api s (.evRegister e rawOk) =
      ok { s with numobjs := s.numobjs + 1, eventCount := s.eventCount + 1,
                  evs := upd s.evs e { s.evs e with registered := true } }) ∨
    (s.eventCount = 0 ∧ s.useRaw = false ∧ s.method.isEpoll = true ∧ api s (.evRegister e rawOk) =
      ok { s with numobjs := s.numobjs + 1 + 1, eventCount := s.eventCount + 1, kickReg := true, kickArmed := false,
                  evs := upd s.evs e { s.evs e with registered := true } }) ∨
    (s.eventCount = 0 ∧ (s.useRaw = true ∨ s.method.isEpoll = false) ∧ rawOk = true ∧
      api s (.evRegister e rawOk) =
        ok { rawRegisterCore { s with numobjs := s.numobjs + 1, eventCount := s.eventCount + 1, useRaw := true } 0 with
              evs := upd s.evs e { s.evs e with registered := true } }) ∨
    (s.eventCount = 0 ∧ (s.useRaw = true ∨ s.method.isEpoll = false) ∧ rawOk = false ∧
      api s (.evRegister e rawOk) = ({ s with useRaw := true }, [Out.ret (-1)])) := by
  -- the two outcomes of the closed form, for `evRegMid s` in any form `m`
  have plain : ∀ m, evRegMid s = m → (s.eventCount == (0 : Int) && m.useRaw) = false →
      api s (.evRegister e rawOk) = ok { m with evs := upd m.evs e { m.evs e with registered := true } } := by
    intro m hm hc
    subst hm
    exact (api_evRegister_eq s e rawOk).trans (if_neg (by rw [hc]; exact Bool.false_ne_true))
  have raw : s.eventCount = 0 →
      evRegMid s = { s with numobjs := s.numobjs + 1, eventCount := s.eventCount + 1, useRaw := true } →
      (rawOk = true ∧ api s (.evRegister e rawOk) =
        ok { rawRegisterCore { s with numobjs := s.numobjs + 1, eventCount := s.eventCount + 1, useRaw := true } 0 with
              evs := upd s.evs e { s.evs e with registered := true } }) ∨
      (rawOk = false ∧ api s (.evRegister e rawOk) = ({ s with useRaw := true }, [Out.ret (-1)])) := by
    intro h0 hm
    have hc : (s.eventCount == (0 : Int) && (evRegMid s).useRaw) = true := by
      rw [hm, beq_iff_eq.2 h0]
      rfl
    have hevs : (rawRegisterCore (evRegMid s) 0).evs = s.evs := by
      rw [rawRegisterCore_frame, hm]
    cases rawOk with
    | true =>
      refine Or.inl ⟨rfl, (api_evRegister_eq s e true).trans ((if_pos hc).trans ((if_pos rfl).trans ?_))⟩
      rw [hevs, hm]
    | false =>
      refine Or.inr ⟨rfl, (api_evRegister_eq s e false).trans ((if_pos hc).trans ((if_neg Bool.false_ne_true).trans ?_))⟩
      rw [hm]
      show ({ s with eventCount := s.eventCount + 1 - 1, numobjs := s.numobjs + 1 - 1, useRaw := true }, _) = _
      rw [Int.add_sub_cancel, Int.add_sub_cancel]
  rcases evRegMid_cases s with ⟨h0, hu, he, hm⟩ | ⟨h0, hu, he, hm⟩ | ⟨h, hm⟩
  · exact Or.inr (Or.inl ⟨h0, hu, he, plain _ hm (by rw [show (_ : St).useRaw = s.useRaw from rfl, hu, Bool.and_false])⟩)
  · rcases raw h0 hm with h | h
    · exact Or.inr (Or.inr (Or.inl ⟨h0, Or.inr he, h⟩))
    · exact Or.inr (Or.inr (Or.inr ⟨h0, Or.inr he, h⟩))
  · by_cases h0 : s.eventCount = 0
    · have hu : s.useRaw = true := h.resolve_left (fun h => h h0)
      have hm' := hm.trans (congrArg (fun u => { s with numobjs := s.numobjs + 1, eventCount := s.eventCount + 1,
                                                        useRaw := u }) hu)
      rcases raw h0 hm' with h | h
      · exact Or.inr (Or.inr (Or.inl ⟨h0, Or.inl hu, h⟩))
      · exact Or.inr (Or.inr (Or.inr ⟨h0, Or.inl hu, h⟩))
    · exact Or.inl ⟨h0, plain _ hm (by rw [beq_eq_false_iff_ne.2 h0, Bool.false_and])⟩

/-- `iv_event_unregister` up to the last-event test: the event leaves the pending list and the batch being run -/
def evUnregMid (s : St) (e : EvId) : St :=
  { s with pending := s.pending.erase e, stack := s.stack.map (eraseEvent · e),
           evs := upd s.evs e { s.evs e with registered := false }, eventCount := s.eventCount - 1 }

/-- the last event takes the raw event, or the kick descriptor of epoll, with it -/
def evUnregEnd (m : St) : St :=
  if (m.eventCount == (0 : Int)) = true then
    if m.useRaw = true then rawUnregisterCore m 0
    else { m with kickReg := false, kickArmed := false, numobjs := m.numobjs - 1 }
  else m

theorem api_evUnregister_eq (s : St) (e : EvId) :
    api s (.evUnregister e) =
      ok { evUnregEnd (evUnregMid s e) with numobjs := (evUnregEnd (evUnregMid s e)).numobjs - 1 } := rfl

/-- `iv_event_unregister` case by case: another event stays registered; the last event goes, and with it the kick
descriptor; or the raw event -/
theorem api_evUnregister_cases (s : St) (e : EvId) :
    (s.eventCount - 1 ≠ 0 ∧ api s (.evUnregister e) = ok { evUnregMid s e with numobjs := s.numobjs - 1 }) ∨
    (s.eventCount - 1 = 0 ∧ s.useRaw = false ∧ api s (.evUnregister e) =
      ok { evUnregMid s e with kickReg := false, kickArmed := false, numobjs := s.numobjs - 1 - 1 }) ∨
    (s.eventCount - 1 = 0 ∧ s.useRaw = true ∧ api s (.evUnregister e) =
      ok { rawUnregisterCore (evUnregMid s e) 0 with numobjs := s.numobjs - 1 - 1 }) := by
  have key : ∀ m, evUnregEnd (evUnregMid s e) = m →
      api s (.evUnregister e) = ok { m with numobjs := m.numobjs - 1 } := by
    intro m hm
    subst hm
    rfl
  by_cases h0 : s.eventCount - 1 = 0
  · have hc : ((evUnregMid s e).eventCount == (0 : Int)) = true := beq_iff_eq.2 h0
    by_cases hu : s.useRaw = true
    · refine Or.inr (Or.inr ⟨h0, hu, (key _ ((if_pos hc).trans (if_pos hu))).trans ?_⟩)
      rw [show (rawUnregisterCore (evUnregMid s e) 0).numobjs = s.numobjs - 1 from by rw [rawUnregisterCore_frame]; rfl]
    · exact Or.inr (Or.inl ⟨h0, Bool.eq_false_iff.2 hu, key _ ((if_pos hc).trans (if_neg hu))⟩)
  · exact Or.inl ⟨h0, key _ (if_neg (fun h => h0 (beq_iff_eq.1 h)))⟩

/-! ## the task calls and `iv_event_post`, case by case -/

/-- `iv_task_register`: a task that is on a list makes the library give up -/
theorem api_taskRegister_cases (s : St) (k : TaskId) :
    (taskOnList s k = true ∧ ∃ m, api s (.taskRegister k) = ({ s with pc := .dead }, [.fatal m])) ∨
    (taskOnList s k = false ∧ api s (.taskRegister k) = (taskRegisterCore s k, [.ret 0])) := by
  rw [api]
  cases taskOnList s k
  · exact .inr ⟨rfl, rfl⟩
  · exact .inl ⟨rfl, _, rfl⟩

/-- `iv_task_unregister`: a task that is on no list makes the library give up; else it leaves the list it is on -/
theorem api_taskUnregister_cases (s : St) (k : TaskId) :
    (taskOnList s k = false ∧ ∃ m, api s (.taskUnregister k) = ({ s with pc := .dead }, [.fatal m])) ∨
    (taskOnList s k = true ∧ api s (.taskUnregister k) =
      ({ s with numobjs := s.numobjs - 1, tasks := s.tasks.erase k, stack := s.stack.map (eraseTask · k) },
        [.ret 0])) := by
  rw [api]
  cases taskOnList s k
  · exact .inl ⟨rfl, _, rfl⟩
  · exact .inr ⟨rfl, rfl⟩

theorem api_taskInit_eq (s : St) (k : TaskId) :
    api s (.taskInit k) = ({ s with tobjs := upd s.tobjs k { s.tobjs k with epoch := s.taskEpoch } }, []) := rfl

/-- `iv_event_post` by the owner: an event that is pending or being delivered stays as it is; the first pending event
registers the deferred task `events_local` (task 0) unless that is on a list; else the event only joins the pending
list -/
theorem api_evPost_cases (s : St) (e : EvId) :
    (evOnList s e = true ∧ api s (.evPost e) = (s, [])) ∨
    (evOnList s e = false ∧ s.pending = [] ∧ taskOnList s 0 = false ∧
      api s (.evPost e) = (taskRegisterCore { s with pending := s.pending ++ [e] } 0, [])) ∨
    (evOnList s e = false ∧ (s.pending ≠ [] ∨ taskOnList s 0 = true) ∧
      api s (.evPost e) = ({ s with pending := s.pending ++ [e] }, [])) := by
  have ht : taskOnList { s with pending := s.pending ++ [e] } 0 = taskOnList s 0 := rfl
  rw [api]
  dsimp only
  rw [ht]
  cases evOnList s e
  · refine .inr ?_
    cases hp : s.pending.isEmpty
    · exact .inr ⟨rfl, .inl fun h => by rw [h] at hp; exact Bool.noConfusion hp, rfl⟩
    · cases ht : taskOnList s 0
      · exact .inl ⟨rfl, List.isEmpty_iff.1 hp, rfl, rfl⟩
      · exact .inr ⟨rfl, .inr rfl, rfl⟩
  · exact .inl ⟨rfl, rfl⟩

/-- the block `fdStage` with `cur` on top: all bands done; the descriptor was unregistered by an earlier handler
and the remaining bands are skipped; its memory was freed; band `stage` is ready and has a handler (the raw events'
descriptors read first); or the band is passed over -/
theorem internal_fdStage_eq (s : St) (cur : FdId) (stage : Nat) (rest : List Frame)
    (hst : s.stack = .fd cur stage :: rest) :
    internal s .fdStage =
      if stage ≥ 3 then goto { s with stack := rest } .dispatchNext
      else if stage ≥ 1 && s.handled.isNone then
        goto { s with stack := .fd cur (stage + 1) :: rest } .fdStage
      else if !(s.fds cur).live then ({ s with pc := .dead }, [Out.fault s!"use-after-free fd {cur}"])
      else if (s.fds cur).ready.get stage && (s.fds cur).handler stage then
        match (if stage = 1 then fdRaw? cur else none) with
        | some r => ({ s with stack := .fd cur (stage + 1) :: rest, pc := .needRawRead r }, [])
        | none => ({ s with stack := .fd cur (stage + 1) :: rest, pc := .user }, [Out.cb (.fd cur stage)])
      else goto { s with stack := .fd cur (stage + 1) :: rest } .fdStage := by
  obtain ⟨⟩ := s
  subst hst
  match stage with
  | 0 => rfl
  | 1 => rfl
  | _ + 2 => rfl

theorem internal_fdStage_other (s : St) (h : ∀ cur stage rest, s.stack ≠ .fd cur stage :: rest) :
    internal s .fdStage = ({ s with pc := .dead }, [Out.fault "control"]) := by
  rw [internal]
  split
  · next cur stage rest hst => exact absurd hst (h cur stage rest)
  · rfl

inductive InStep (s : St) : Input → St × List Out → Prop
  | api (a : Api) : s.pc = .user → InStep s (.api a) (api s a)
  | handlerEnd (b : Block) : s.pc = .user → (b = .popTimer ∨ b = .popTask ∨ b = .popEvent ∨ b = .fdStage) →
      InStep s .handlerEnd (goto s b)
  | free (k id : Nat) : s.pc = .user → InStep s (.free k id) (freeObj s k id, [])
  | init (k id : Nat) : s.pc = .user → InStep s (.init k id) (initObj s k id, [])
  | time (t : TS) (k : TimeK) : s.pc = .needTime k → InStep s (.time t) (afterTime s t k)
  | wret (abs : Option TS) (km : Bool) (r : WRes) : s.pc = .waiting abs km → InStep s (.wret r) (afterWait s abs km r)
  | xpostNop (abs : Option TS) (km : Bool) (e : EvId) : s.pc = .waiting abs km → InStep s (.xpost e) (s, [])
  | xpost (abs : Option TS) (km : Bool) (e : EvId) (ka : Bool) : s.pc = .waiting abs km →
      InStep s (.xpost e) ({ s with pending := s.pending ++ [e], kickArmed := ka }, [])
  | rawGoto (r : RawId) (okk : Bool) (b : Block) : s.pc = .needRawRead r → (b = .fdStage ∨ b = .runEvents) →
      InStep s (.rawRead okk) (goto s b)
  | rawFault (r : RawId) (okk : Bool) (msg : String) : s.pc = .needRawRead r →
      InStep s (.rawRead okk) ({ s with pc := .dead }, [Out.fault msg])
  | rawCb (r : RawId) (okk : Bool) : s.pc = .needRawRead r →
      InStep s (.rawRead okk) ({ s with pc := .user }, [Out.cb (.raw r)])

theorem input_inv {s : St} {i : Input} {r : St × List Out} (hi : input s i = some r) : InStep s i r := by
  unfold input at hi
  split at hi
  · next a hpc => cases hi; exact .api a hpc
  · next hpc =>
    split at hi
    · cases hi
    · cases hi; exact .handlerEnd _ hpc (.inl rfl)
    · cases hi; exact .handlerEnd _ hpc (.inr (.inl rfl))
    · cases hi; exact .handlerEnd _ hpc (.inr (.inr (.inl rfl)))
    · cases hi; exact .handlerEnd _ hpc (.inr (.inr (.inr rfl)))
    · cases hi
  · next k id hpc => cases hi; exact .free k id hpc
  · next k id hpc => cases hi; exact .init k id hpc
  · next k t hpc => cases hi; exact .time t k hpc
  · next abs km r hpc => cases hi; exact .wret abs km r hpc
  · next abs km e hpc =>
    split at hi
    · cases hi; exact .xpostNop abs km e hpc
    · cases hi
      split
      · exact .xpost abs km e true hpc
      · exact .xpost abs km e s.kickArmed hpc
  · next r okk hpc =>
    split at hi
    · cases hi; exact .rawGoto r okk _ hpc (Or.inl rfl)
    · split at hi
      · cases hi; exact .rawGoto r okk _ hpc (Or.inr rfl)
      · split at hi
        · cases hi; exact .rawFault r okk _ hpc
        · cases hi; exact .rawCb r okk hpc
  · cases hi

/-- where control is when an input is enabled -/
theorem pc_of_input {s : St} {i : Input} {r} (h : input s i = some r) :
    match i with
    | .api _ | .handlerEnd | .free .. | .init .. => s.pc = .user
    | .time _ => ∃ k, s.pc = .needTime k
    | .wret _ | .xpost _ => ∃ abs km, s.pc = .waiting abs km
    | .rawRead _ => ∃ x, s.pc = .needRawRead x := by
  cases input_inv h <;> simp [*]

theorem input_of_dead {s s' : St} {i : Input} {outs : List Out} (hd : s.pc = .dead)
    (hi : input s i = some (s', outs)) : False := by
  simp [input, hd] at hi

theorem exec_of_dead {s s' : St} {evs : List Ev} (h : Exec s evs s') (hd : s.pc = .dead) : evs = [] := by
  cases h with
  | nil => rfl
  | internal hpc _ _ => rw [hd] at hpc; cases hpc
  | input _ hi _ => exact (input_of_dead hd hi).elim

theorem exec_inp_cons {s s' : St} {i : Input} {evs : List Ev} (h : Exec s (Ev.inp i :: evs) s')
    (hnr : ∀ b, s.pc ≠ .run b) :
    ∃ s1 outs evs', envOk s i = true ∧ input s i = some (s1, outs) ∧ evs = outs.map Ev.out ++ evs' ∧ Exec s1 evs' s' := by
  generalize hE : Ev.inp i :: evs = t at h
  cases h with
  | nil => cases hE
  | internal hpc _ _ => exact absurd hpc (hnr _)
  | input henv hi hrest =>
    simp only [List.cons.injEq, Ev.inp.injEq] at hE
    obtain ⟨rfl, rfl⟩ := hE
    exact ⟨_, _, _, henv, hi, rfl, hrest⟩

theorem internal_prepWait_eq (s : St) : ∃ (s1 : St) (abs : Option TS) (km : Bool),
    internal s .prepWait = ({ s1 with pc := .run (.flush abs km) }, []) ∧
    s1 = { s with method := s1.method, lastAbs := s1.lastAbs, lastAbsCount := s1.lastAbsCount, ktimer := s1.ktimer,
                  timerfd := s1.timerfd } ∧ (s1.method = s.method ∨ s1.method = .epoll) ∧
    s1.method.isEpoll = s.method.isEpoll := by
  rw [internal]
  split
  · next hc =>
    have hf := timeoutCheck_frame s (if !s.tasks.isEmpty then some ⟨0, 0⟩ else Ivy.Heap.soonest s.heap)
    have hm := timeoutCheck_method s (if !s.tasks.isEmpty then some ⟨0, 0⟩ else Ivy.Heap.soonest s.heap)
    have he := timeoutCheck_isEpoll s (if !s.tasks.isEmpty then some ⟨0, 0⟩ else Ivy.Heap.soonest s.heap)
      (beq_iff_eq.1 hc)
    generalize timeoutCheck s _ = r at hf hm he
    obtain ⟨s1, k⟩ := r
    cases k <;> exact ⟨s1, _, _, rfl, hf, hm, he⟩
  · exact ⟨s, _, _, rfl, rfl, Or.inl rfl, rfl⟩

end Ivy.L1
